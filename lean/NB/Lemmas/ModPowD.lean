/- Refinement lemmas: each function of the digit-level model NB.Model.ModPowD, run on digit vectors `ofNat n`, returns
   what its value-level counterpart in NB.Model.ModPow (resp. NB.montyModpow) returns, panics included (`…_ofNat`, one
   per loop); NB.Props.C05D turns these into the statements for canonical inputs.  The operator facts are the theorems
   of C01 (add/sub), C02 (mul), C03 (div_rem/rem), C07 (shl) and their `*_ofNat` corollaries in NB.Lemmas.DigitOps, and
   `cmpSlice_spec`. -/
import NB.Lemmas.DigitOps
import NB.Lemmas.ModPow
import NB.Lemmas.Monty
import NB.Model.ModPowD
namespace NB

section plain
variable (P : Params) (hP : P.ValidMul) (m : Nat) (hm : m ≠ 0)
include hP hm

theorem sqModD_ofNat (b : Nat) : sqModD P (ofNat m) (ofNat b) = .ok (ofNat (b * b % m)) := by
  simp only [sqModD, mulRef_ofNat P hP, remRef_ofNat_of_ne P _ _ hm]

theorem sqTimesD_ofNat : ∀ k b, sqTimesD P (ofNat m) k (ofNat b) = .ok (ofNat (sqTimes m k b))
  | 0, b => rfl
  | k + 1, b => by
    simp only [sqTimesD, sqTimes, sqModD_ofNat P hP m hm]
    exact sqTimesD_ofNat k _

theorem stripZerosD_ofNat (r b base : Nat) :
    stripZerosD P (ofNat m) r b (ofNat base) =
      (stripZeros m r b base).map (fun t => (t.1, t.2.1, ofNat t.2.2)) := by
  induction r using Nat.strong_induction_on generalizing b base with
  | _ r ih =>
    rw [stripZerosD, stripZeros]
    by_cases h0 : r = 0
    · simp only [h0, dite_true]; rfl
    · simp only [h0, dite_false]
      by_cases h : r % 2 = 0
      · simp only [h, dite_true, sqModD_ofNat P hP m hm]
        exact ih (r / 2) (by omega) _ _
      · simp only [h, dite_false]; rfl

theorem unitStepD_ofNat (odd : Bool) (s1 s2 : Nat) :
    unitStepD P (ofNat m) odd (ofNat s1, ofNat s2) =
      .ok (ofNat (unitStep m odd (s1, s2)).1, ofNat (unitStep m odd (s1, s2)).2) := by
  cases odd <;>
    simp [unitStepD, unitStep, sqModD_ofNat P hP m hm, mulAssign_ofNat P hP, remRef_ofNat_of_ne P _ _ hm]

theorem bitsLoopD_ofNat : ∀ k r s1 s2, bitsLoopD P (ofNat m) k r (ofNat s1, ofNat s2) =
      .ok (ofNat (bitsLoop m k r (s1, s2)).1, ofNat (bitsLoop m k r (s1, s2)).2)
  | 0, _, _, _ => rfl
  | k + 1, r, s1, s2 => by
    simp only [bitsLoopD, bitsLoop, unitStepD_ofNat P hP m hm]
    exact bitsLoopD_ofNat k _ _ _

theorem midLoopD_ofNat : ∀ ds s1 s2, midLoopD P (ofNat m) ds (ofNat s1, ofNat s2) =
      .ok (ofNat (midLoop m ds (s1, s2)).1, ofNat (midLoop m ds (s1, s2)).2)
  | [], _, _ => rfl
  | d :: ds, s1, s2 => by
    rw [midLoopD, midLoop, bitsLoopD_ofNat P hP m hm]
    exact midLoopD_ofNat ds _ _

theorem whileLoopD_ofNat (r s1 s2 : Nat) : whileLoopD P (ofNat m) r (ofNat s1, ofNat s2) =
      .ok (ofNat (whileLoop m r (s1, s2)).1, ofNat (whileLoop m r (s1, s2)).2) := by
  induction r using Nat.strong_induction_on generalizing s1 s2 with
  | _ r ih =>
    rw [whileLoopD, whileLoop]
    by_cases h0 : r = 0
    · simp only [h0, dite_true]
    · simp only [h0, dite_false, unitStepD_ofNat P hP m hm]
      exact ih (r / 2) (by omega) _ _

end plain

theorem plainModpowD_ofNat (P : Params) (hP : P.ValidMul) (b : Nat) (e : List Nat) (m : Nat) :
    plainModpowD P (ofNat b) e (ofNat m) = (plainModpow b e m).map ofNat := by
  unfold plainModpowD plainModpow
  by_cases hm : m = 0
  · simp only [hm, ofNat_zero, if_true]; rfl
  · simp only [hm, ofNat_eq_nil_iff, if_false]
    cases hf : firstNonzero e with
    | none => simp only [Except.map, ofNat_one]
    | some i =>
      simp only [remRef_ofNat_of_ne P _ _ hm, sqTimesD_ofNat P hP m hm, stripZerosD_ofNat P hP m hm]
      cases hs : stripZeros m (e.getD i 0) 0 (sqTimes m (i * BITS) (b % m)) with
      | error err => rfl
      | ok t =>
        obtain ⟨r, bb, base⟩ := t
        simp only [Except.map]
        by_cases hc : (e.drop (i + 1)).length = 0 ∧ r = 1
        · simp only [hc, and_self, if_true]
        · simp only [hc, if_false]
          cases hl : (e.drop (i + 1)).getLast? with
          | none =>
            by_cases hr : r / 2 = 0
            · simp only [hr, if_true]
            · simp only [hr, if_false, whileLoopD_ofNat P hP m hm]
          | some last =>
            simp only [bitsLoopD_ofNat P hP m hm, midLoopD_ofNat P hP m hm]
            by_cases hr : last = 0
            · simp only [hr, if_true]
            · simp only [hr, if_false, whileLoopD_ofNat P hP m hm]

/-- one Euclid step at least halves the product of the two remainders -/
theorem euclid_product_halves {r0 r1 f : Nat} (h1 : r1 ≠ 0) (hlt : r1 < r0) (hp : r0 * r1 < 2 ^ (f + 1)) :
    r0 % r1 < r1 ∧ r1 * (r0 % r1) < 2 ^ f := by
  have hm : r0 % r1 < r1 := Nat.mod_lt _ (Nat.pos_of_ne_zero h1)
  -- `r0 ≥ r1 + r0 % r1` since the quotient is at least 1, and `r1 ≥ r0 % r1`
  have h2 : r1 + r0 % r1 ≤ r0 := by
    have hq : r1 * 1 ≤ r1 * (r0 / r1) :=
      Nat.mul_le_mul_left _ (Nat.div_pos (Nat.le_of_lt hlt) (Nat.pos_of_ne_zero h1))
    have := Nat.div_add_mod r0 r1
    omega
  have h3 : r1 * (r0 % r1) + r1 * (r0 % r1) ≤ r0 * r1 :=
    calc r1 * (r0 % r1) + r1 * (r0 % r1) ≤ r1 * r1 + r1 * (r0 % r1) :=
          Nat.add_le_add_right (Nat.mul_le_mul_left _ (Nat.le_of_lt hm)) _
      _ = (r1 + r0 % r1) * r1 := by ring
      _ ≤ r0 * r1 := Nat.mul_le_mul_right _ h2
  rw [pow_succ] at hp
  exact ⟨hm, by omega⟩

theorem modinvLoopD_ofNat (P : Params) (hP : P.ValidMul) (m : Nat) (hm : m ≠ 0) :
    ∀ fuel r0 r1 t0 t1, r1 < r0 → r0 * r1 < 2 ^ fuel →
      modinvLoopD P (ofNat m) (fuel + 1) (ofNat r0) (ofNat r1) (ofNat t0) (ofNat t1) =
        (modinvLoop m r0 r1 t0 t1).map (fun p => (ofNat p.1, ofNat p.2)) := by
  intro fuel
  induction fuel with
  | zero =>
    intro r0 r1 t0 t1 hlt hp
    -- `r0·r1 < 2^0` with `r1 < r0`: with no fuel left the loop has already stopped
    have h1 : r1 = 0 :=
      (Nat.mul_eq_zero.mp (Nat.lt_one_iff.mp hp)).resolve_left (Nat.ne_of_gt (Nat.zero_lt_of_lt hlt))
    rw [modinvLoopD, modinvLoop]
    simp only [h1, ofNat_zero, if_true, dite_true]; rfl
  | succ f ih =>
    intro r0 r1 t0 t1 hlt hp
    rw [modinvLoopD, modinvLoop]
    by_cases h1 : r1 = 0
    · simp only [h1, ofNat_zero, if_true, dite_true]; rfl
    · obtain ⟨hml, hpr⟩ := euclid_product_halves h1 hlt hp
      simp only [h1, ofNat_eq_nil_iff, if_false, dite_false, divRemRef_ofNat_of_ne P _ _ h1, mulRef_ofNat P hP,
        remRef_ofNat_of_ne P _ _ hm, cmpSlice_ofNat, Nat.compare_eq_lt]
      by_cases hc : t0 < r0 / r1 * t1 % m
      · simp only [hc, if_true, subRefVal_ofNat, subU]
        by_cases hu : m < r0 / r1 * t1 % m
        · simp only [hu, if_true]; rfl
        · simp only [hu, if_false, addRef_ofNat]
          exact ih _ _ _ _ hml hpr
      · simp only [hc, if_false, subAssign_ofNat]
        exact ih _ _ _ _ hml hpr

/-- where the fuel `64·(len r0 + len r1)` of `modinvLoopD` comes from: the product of the remainders is below `2^fuel` -/
theorem ofNat_mul_lt (a b : Nat) : a * b < 2 ^ (BITS * ((ofNat a).length + (ofNat b).length)) := by
  have ha := val_lt (ofNat_digitsOk a)
  have hb := val_lt (ofNat_digitsOk b)
  rw [ofNat_val] at ha hb
  have : 2 ^ (BITS * ((ofNat a).length + (ofNat b).length)) = B ^ (ofNat a).length * B ^ (ofNat b).length := by
    rw [B_eq_bits, ← pow_mul, ← pow_mul, ← pow_add, Nat.mul_add]
  rw [this]
  exact Nat.mul_lt_mul'' ha hb

theorem modinvD_ofNat (P : Params) (hP : P.ValidMul) (a m : Nat) :
    modinvD P (ofNat a) (ofNat m) = (modinvU a m).map (Option.map ofNat) := by
  unfold modinvD modinvU
  by_cases hm : m = 0
  · simp only [hm, ofNat_zero, if_true]; rfl
  · simp only [hm, ofNat_eq_nil_iff, ofNat_eq_one_iff, if_false, remRef_ofNat_of_ne P _ _ hm]
    by_cases hm1 : m = 1
    · simp only [hm1, if_true, Except.map, Option.map, ofNat_zero]
    · simp only [hm1, if_false]
      by_cases h0 : a % m = 0
      · simp only [h0, if_true]; rfl
      · simp only [h0, if_false]
        by_cases h1 : a % m = 1
        · simp only [h1, if_true]; rfl
        · simp only [h1, if_false, divRemRef_ofNat_of_ne P _ _ h0, ofNat_eq_nil_iff]
          by_cases h2 : m % (a % m) = 0
          · simp only [h2, if_true]; rfl
          · simp only [h2, if_false, subRefVal_ofNat, subU]
            by_cases hu : m < m / (a % m)
            · simp only [hu, if_true]; rfl
            · simp only [hu, if_false]
              have hloop := modinvLoopD_ofNat P hP m hm
                (BITS * ((ofNat (a % m)).length + (ofNat (m % (a % m))).length)) (a % m) (m % (a % m)) 1
                (m - m / (a % m)) (Nat.mod_lt _ (Nat.pos_of_ne_zero h0)) (ofNat_mul_lt _ _)
              rw [ofNat_one] at hloop
              rw [hloop]
              cases modinvLoop m (a % m) (m % (a % m)) 1 (m - m / (a % m)) with
              | error e => rfl
              | ok p =>
                obtain ⟨r0, t0⟩ := p
                simp only [Except.map, ofNat_eq_one_iff]
                by_cases hr : r0 = 1
                · simp only [hr, if_true, Option.map]
                · simp only [hr, if_false, Option.map]

theorem signPlaceD_canon (P : Params) (xneg mneg : Bool) {m : List Nat} (hm : Canon m) (r : Nat) :
    signPlaceD P xneg mneg m (ofNat r) =
      (signPlace xneg mneg (val m) r).map (fun p => (p.1, ofNat p.2)) := by
  cases xneg <;> cases mneg <;>
    simp only [signPlaceD, signPlace, subRefVal_spec P _ _ hm (ofNat_canon r), ofNat_val, subU] <;>
    first | rfl | (by_cases h : val m < r <;> simp only [h, if_true, if_false] <;> rfl)

/-- `BigInt::modpow` on digit vectors = the value-level `BigInt.modpow`, whenever the unsigned digit-level
    `modpow` agrees with the unsigned model and yields a canonical vector (supplied by `modpowD_spec`) -/
theorem bigint_modpowD_of (P : Params) (x e m : BigInt) (hm : m.Canon)
    (hU : m.mag ≠ [] → ∃ v, modpowD P x.mag e.mag m.mag = .ok (ofNat v) ∧ modpowU P x.mag e.mag m.mag = .ok (ofNat v)) :
    BigInt.modpowD P x e m = BigInt.modpow P x e m := by
  unfold BigInt.modpowD BigInt.modpow
  by_cases he : e.sign = .minus
  · simp only [he, if_true]
  · simp only [he, if_false]
    by_cases hs : m.sign = .nosign
    · simp only [hs, if_true]
    · simp only [hs, if_false]
      obtain ⟨v, h1, h2⟩ := hU (fun h => hs (hm.2.mpr h))
      rw [h1, h2]
      simp only [ofNat_eq_nil_iff, ofNat_val]
      by_cases h0 : v = 0
      · simp only [h0, if_true]
      · simp only [h0, if_false]
        rw [signPlaceD_canon P _ _ hm.1]
        cases signPlace (decide (x.sign = .minus) && isOddU e.mag) (decide (m.sign = .minus)) (val m.mag) v <;> rfl

/-- the final `normalize / >= / -= / >= / %= / normalize` sequence computes `zz mod m` -/
theorem montyFinalD_spec (P : Params) (zz m : List Nat) (hz : DigitsOk zz) (hm : Canon m) (hm0 : m ≠ []) :
    montyFinalD P zz m = .ok (ofNat (val zz % val m)) := by
  have hM : val m ≠ 0 := fun h => hm0 (canon_val_zero hm h)
  have e1 := normalize_eq_ofNat hz
  have e2 : m = ofNat (val m) := canon_eq_ofNat hm
  generalize val zz = v at *
  generalize val m = M at *
  subst e2
  have hn : ∀ t, normalize (ofNat t) = ofNat t := fun t => normalize_of_canon (ofNat_canon t)
  unfold montyFinalD
  simp only [e1, cmpSlice_ofNat, hn]
  rw [← last_reduction v M]
  by_cases h1 : v < M
  · have : ¬ v ≥ M := by omega
    simp [Nat.compare_eq_lt.mpr h1, this]
  · have h1' : v ≥ M := by omega
    have hc : compare v M ≠ .lt := by rw [Ne, Nat.compare_eq_lt]; exact h1
    simp only [hc, ne_eq, not_false_eq_true, if_true, subAssign_ofNat, h1, if_false, cmpSlice_ofNat, hn, h1']
    by_cases h2 : v - M < M
    · have : ¬ v - M ≥ M := by omega
      simp [Nat.compare_eq_lt.mpr h2, this]
    · have h2' : v - M ≥ M := by omega
      have hc2 : compare (v - M) M ≠ .lt := by rw [Ne, Nat.compare_eq_lt]; exact h2
      simp only [hc2, not_false_eq_true, if_true, remRef_ofNat_of_ne P _ _ hM, hn, h2']

/-- `rr = (1 << 2·64·n) % m` -/
theorem montyRRD_spec (P : Params) (m : List Nat) (n : Nat) (hm : Canon m) (hm0 : m ≠ [])
    (hsz : 2 * n * BITS < C07.U64_RANGE) :
    montyRRD P m n = .ok (ofNat (2 ^ (2 * n * BITS) % val m)) := by
  unfold montyRRD
  have h1 : ¬ (2 * n * BITS ≥ C07.U64_RANGE) := by omega
  simp only [h1, if_false]
  rw [← ofNat_one, shl_ofNat 1 _ (Nat.lt_of_le_of_lt (Nat.div_le_self _ _) hsz)]
  dsimp only
  rw [Nat.one_mul, remRef_spec P _ _ (ofNat_canon _) hm, if_neg hm0, ofNat_val]

theorem montyModpowD_spec (P : Params) (hw0 : 0 < P.window) (hwd : P.window ∣ 64)
    (hsq : P.squarings = P.window) (x y m : List Nat) (m0 : Nat) (mt : List Nat)
    (hm : m = m0 :: mt) (hodd : m0 % 2 = 1) (hx : Canon x) (hy : DigitsOk y) (hmc : Canon m)
    (hsz : 2 * m.length * BITS < C07.U64_RANGE) :
    montyModpowD P x y m = .ok (ofNat (val x ^ val y % val m)) := by
  have hm0 : m ≠ [] := by rw [hm]; simp
  obtain ⟨k, zz, hk, ezz, dzz, czz⟩ :=
    montyCore_prepared P hw0 hwd hsq x y m m0 mt hm hodd hx.1 hy hmc.1 _ _ rfl rfl
  have h1 : ¬ (m0 &&& 1 ≠ 1) := by rw [Nat.and_one_is_mod]; omega
  -- `x %= m`
  have hx1 : (if x.length > m.length then remRef P x m else .ok x)
      = .ok (if x.length > m.length then ofNat (val x % val m) else x) := by
    split
    · rw [remRef_spec P x m hx hmc, if_neg hm0]
    · rfl
  subst hm
  unfold montyModpowD
  simp only [h1, if_false, hk, hx1, montyRRD_spec P _ _ hmc hm0 hsz, ezz, montyFinalD_spec P zz _ dzz hmc hm0]
  exact congrArg (fun v => Except.ok (ofNat v)) czz

end NB
