/- canonical BigInts: `BigInt.ofInt i` is the canonical representation of `i`, a canonical BigInt is the
   `ofInt` of its value, and `from_biguint` lands there whatever sign is requested; then the lifting of
   statements about `ofInt` arguments to canonical arguments.  NB.Model.AddSub is imported for `BigInt.neg` only. -/
import NB.Lemmas.Base
import NB.Model.AddSub
namespace NB

theorem ofInt_zero : BigInt.ofInt 0 = ⟨.nosign, []⟩ := rfl

theorem ofInt_of_pos {i : Int} (h : 0 < i) : BigInt.ofInt i = ⟨.plus, ofNat i.natAbs⟩ := by
  unfold BigInt.ofInt
  rw [if_neg (by omega), if_neg (by omega)]

theorem ofInt_of_neg {i : Int} (h : i < 0) : BigInt.ofInt i = ⟨.minus, ofNat i.natAbs⟩ := by
  unfold BigInt.ofInt
  rw [if_pos h]

theorem ofInt_mag (i : Int) : (BigInt.ofInt i).mag = ofNat i.natAbs := by
  rcases Int.lt_trichotomy i 0 with h | rfl | h
  · rw [ofInt_of_neg h]
  · exact ofNat_zero.symm
  · rw [ofInt_of_pos h]

theorem bigint_ofInt_val (i : Int) : (BigInt.ofInt i).val = i := by
  rcases Int.lt_trichotomy i 0 with h | rfl | h
  · rw [ofInt_of_neg h]
    show -((val (ofNat i.natAbs) : Nat) : Int) = i
    rw [ofNat_val]; omega
  · rfl
  · rw [ofInt_of_pos h]
    show ((val (ofNat i.natAbs) : Nat) : Int) = i
    rw [ofNat_val]; omega

theorem bigint_ofInt_canon (i : Int) : (BigInt.ofInt i).Canon := by
  rcases Int.lt_trichotomy i 0 with h | rfl | h
  · rw [ofInt_of_neg h]
    exact ⟨ofNat_canon _, (fun e => nomatch e), fun e => absurd ((ofNat_eq_nil_iff _).mp e) (by omega)⟩
  · exact ⟨canon_nil, fun _ => rfl, fun _ => rfl⟩
  · rw [ofInt_of_pos h]
    exact ⟨ofNat_canon _, (fun e => nomatch e), fun e => absurd ((ofNat_eq_nil_iff _).mp e) (by omega)⟩

theorem ofInt_natCast (n : Nat) : BigInt.ofInt (n : Int) = if n = 0 then ⟨.nosign, []⟩ else ⟨.plus, ofNat n⟩ := by
  by_cases h : n = 0
  · subst h; simp [ofInt_zero]
  · simp only [h, if_false]
    rw [ofInt_of_pos (by omega)]; simp

theorem ofInt_negNatCast (n : Nat) : BigInt.ofInt (-(n : Int)) = if n = 0 then ⟨.nosign, []⟩ else ⟨.minus, ofNat n⟩ := by
  by_cases h : n = 0
  · subst h; simp [ofInt_zero]
  · simp only [h, if_false]
    rw [ofInt_of_neg (by omega)]; simp

theorem ofInt_natCast_of_pos {n : Nat} (h : 0 < n) : BigInt.ofInt (n : Int) = ⟨.plus, ofNat n⟩ := by
  rw [ofInt_natCast, if_neg (Nat.ne_of_gt h)]

theorem ofInt_negNatCast_of_pos {n : Nat} (h : 0 < n) : BigInt.ofInt (-(n : Int)) = ⟨.minus, ofNat n⟩ := by
  rw [ofInt_negNatCast, if_neg (Nat.ne_of_gt h)]

theorem ofInt_one : BigInt.ofInt 1 = ⟨.plus, [1]⟩ := by
  have := ofInt_natCast 1; simpa [ofNat_one] using this

theorem ofInt_neg_one : BigInt.ofInt (-1) = ⟨.minus, [1]⟩ := by
  have := ofInt_negNatCast 1; simpa [ofNat_one] using this

theorem neg_ofInt (i : Int) : (BigInt.ofInt i).neg = BigInt.ofInt (-i) := by
  rcases Int.lt_trichotomy i 0 with h | rfl | h
  · rw [ofInt_of_neg h, ofInt_of_pos (Int.neg_pos_of_neg h), Int.natAbs_neg]; rfl
  · rfl
  · rw [ofInt_of_pos h, ofInt_of_neg (Int.neg_neg_of_pos h), Int.natAbs_neg]; rfl

theorem neg_neg_bigint (a : BigInt) : a.neg.neg = a := by
  obtain ⟨s, m⟩ := a; cases s <;> rfl

theorem bigint_canon_cases {y : BigInt} (hy : y.Canon) :
    (y.sign = .minus ∧ y.val = -(val y.mag : Int) ∧ 0 < val y.mag) ∨
    (y.sign = .nosign ∧ y.val = 0 ∧ y.mag = []) ∨
    (y.sign = .plus ∧ y.val = (val y.mag : Int) ∧ 0 < val y.mag) := by
  obtain ⟨hc, hs⟩ := hy
  rcases y with ⟨s, mag⟩
  have hpos : s ≠ .nosign → 0 < val mag := fun h => canon_val_pos hc (mt hs.mpr h)
  cases s with
  | minus => exact .inl ⟨rfl, rfl, hpos nofun⟩
  | nosign => exact .inr (.inl ⟨rfl, rfl, hs.mp rfl⟩)
  | plus => exact .inr (.inr ⟨rfl, rfl, hpos nofun⟩)

theorem bigint_canon_eq_ofInt {x : BigInt} (h : x.Canon) : x = BigInt.ofInt x.val := by
  obtain ⟨s, m⟩ := x
  rcases bigint_canon_cases h with ⟨hs, hv, hp⟩ | ⟨hs, hv, hm⟩ | ⟨hs, hv, hp⟩
  · obtain rfl : s = .minus := hs
    rw [hv, ofInt_of_neg (by omega), Int.natAbs_neg, Int.natAbs_natCast, ← canon_eq_ofNat h.1]
  · obtain rfl : s = .nosign := hs
    obtain rfl : m = [] := hm
    rfl
  · obtain rfl : s = .plus := hs
    rw [hv, ofInt_of_pos (by omega), Int.natAbs_natCast, ← canon_eq_ofNat h.1]

theorem bigint_canon_unique {x y : BigInt} (hx : x.Canon) (hy : y.Canon) (h : x.val = y.val) : x = y := by
  rw [bigint_canon_eq_ofInt hx, bigint_canon_eq_ofInt hy, h]

/-- sign of a canonical BigInt, read off its value -/
theorem bigint_canon_sign {x : BigInt} (h : x.Canon) :
    (x.sign = .minus ↔ x.val < 0) ∧ (x.sign = .nosign ↔ x.val = 0) ∧ (x.sign = .plus ↔ 0 < x.val) := by
  rcases bigint_canon_cases h with ⟨hs, hv, hp⟩ | ⟨hs, hv, _⟩ | ⟨hs, hv, hp⟩ <;> rw [hs, hv] <;> simp <;> omega

theorem bigint_canon_mag {x : BigInt} (h : x.Canon) : x.mag = ofNat x.val.natAbs :=
  (congrArg BigInt.mag (bigint_canon_eq_ofInt h)).trans (ofInt_mag _)

theorem bigint_natAbs_val {y : BigInt} (hy : y.Canon) : y.val.natAbs = val y.mag := by
  rw [bigint_canon_mag hy, ofNat_val]

/-- `from_biguint(s, m)` of a canonical magnitude is the canonical BigInt of the value of `(s, m)`,
    whatever sign is requested (`NoSign` and the empty magnitude both give zero) -/
theorem fromBiguint_eq_ofInt (s : Sign) {m : List Nat} (h : Canon m) :
    BigInt.fromBiguint s m = BigInt.ofInt (BigInt.val ⟨s, m⟩) := by
  by_cases hs : s = .nosign
  · subst hs; rfl
  unfold BigInt.fromBiguint
  rw [if_neg hs]
  by_cases hm : m = []
  · subst hm
    cases s <;> simp [BigInt.ofInt, BigInt.val, val]
  · rw [if_neg hm]
    exact bigint_canon_eq_ofInt ⟨h, by simp [hs, hm]⟩

theorem fromBiguint_plus {m : List Nat} (h : Canon m) :
    BigInt.fromBiguint .plus m = BigInt.ofInt (val m) :=
  fromBiguint_eq_ofInt _ h

theorem fromBiguint_minus {m : List Nat} (h : Canon m) :
    BigInt.fromBiguint .minus m = BigInt.ofInt (-(val m : Int)) :=
  fromBiguint_eq_ofInt _ h

theorem fromBiguint_nosign (m : List Nat) : BigInt.fromBiguint .nosign m = BigInt.ofInt 0 := rfl

theorem fromBiguint_ofNat (s : Sign) (n : Nat) :
    BigInt.fromBiguint s (ofNat n) = BigInt.ofInt (BigInt.val ⟨s, ofNat n⟩) :=
  fromBiguint_eq_ofInt s (ofNat_canon n)

theorem fromBiguint_ofNat_plus (n : Nat) : BigInt.fromBiguint .plus (ofNat n) = BigInt.ofInt (n : Int) := by
  rw [fromBiguint_plus (ofNat_canon n), ofNat_val]

theorem fromBiguint_ofNat_minus (n : Nat) :
    BigInt.fromBiguint .minus (ofNat n) = BigInt.ofInt (-(n : Int)) := by
  rw [fromBiguint_minus (ofNat_canon n), ofNat_val]

theorem fromBiguint_canon (s : Sign) {m : List Nat} (h : Canon m) : (BigInt.fromBiguint s m).Canon :=
  fromBiguint_eq_ofInt s h ▸ bigint_ofInt_canon _

/-- the drivers' `pI`: the digit check of `checked_normalize_canon` (Lemmas/Base) on the magnitude, then
    `BigInt::from_biguint` -/
theorem checked_fromBiguint_canon {o : Option BigInt} {a : BigInt}
    (h : (do let x ← o
             if x.mag.all (fun d => decide (d < B)) then pure (BigInt.fromBiguint x.sign (normalize x.mag))
             else none) = some a) :
    a.Canon := by
  obtain ⟨x, -, hx⟩ := Option.bind_eq_some_iff.mp h
  by_cases hall : x.mag.all (fun d => decide (d < B)) = true
  · rw [if_pos hall] at hx
    cases hx
    exact fromBiguint_canon _ (normalize_canon fun d hd => of_decide_eq_true (List.all_eq_true.mp hall d hd))
  · rw [if_neg hall] at hx; cases hx

/-- `canon_lift` (Lemmas/Base) for BigInts: a statement about `BigInt.ofInt` arguments holds of canonical ones -/
theorem bigint_lift {α : Sort _} {f : BigInt → α} {g : Int → α} (h : ∀ i, f (BigInt.ofInt i) = g i)
    {a : BigInt} (ha : a.Canon) : f a = g a.val :=
  (congrArg f (bigint_canon_eq_ofInt ha)).trans (h a.val)

theorem bigint_lift₂ {α : Sort _} {f : BigInt → BigInt → α} {g : Int → Int → α}
    (h : ∀ i j, f (BigInt.ofInt i) (BigInt.ofInt j) = g i j) {a b : BigInt} (ha : a.Canon) (hb : b.Canon) :
    f a b = g a.val b.val :=
  (congrArg₂ f (bigint_canon_eq_ofInt ha) (bigint_canon_eq_ofInt hb)).trans (h a.val b.val)

/-- `bigint_lift₂` under a side condition on both operands (a size bound on the magnitudes) -/
theorem bigint_lift₂_of {α : Sort _} {p : BigInt → Prop} {f : BigInt → BigInt → α} {g : Int → Int → α}
    (h : ∀ i j, p (BigInt.ofInt i) → p (BigInt.ofInt j) → f (BigInt.ofInt i) (BigInt.ofInt j) = g i j)
    {a b : BigInt} (ha : a.Canon) (hb : b.Canon) (hpa : p a) (hpb : p b) : f a b = g a.val b.val := by
  rw [bigint_canon_eq_ofInt ha] at hpa
  rw [bigint_canon_eq_ofInt hb] at hpb
  exact (congrArg₂ f (bigint_canon_eq_ofInt ha) (bigint_canon_eq_ofInt hb)).trans (h _ _ hpa hpb)

end NB
