/- helper lemmas for the C11 layer link: the digit-level roots model NB.Model.RootsD refines the
   value-level model NB.Model.Roots (operator theorems of C01, C02, C03, C07, C12 glued together) -/
import NB.Lemmas.DigitOps
import NB.Model.RootsD
import NB.Lemmas.Roots
import NB.Lemmas.Convert
import NB.Props.C12
namespace NB.RootsD
open NB.Roots

theorem ofNat_inj {m n : Nat} (h : ofNat m = ofNat n) : m = n := by
  rw [← ofNat_val m, h, ofNat_val]

theorem fromDigit_eq_ofNat {d : Nat} (hd : d < B) : fromDigit d = ofNat d := by
  unfold fromDigit
  by_cases h0 : d = 0
  · rw [if_pos h0, h0, ofNat_zero]
  · rw [if_neg h0, ofNat_digit h0 hd]

abbrev liftU (r : Except Panic Nat) : Except Panic (List Nat) := r.map ofNat

theorem liftU_ok (v : Nat) : liftU (.ok v) = .ok (ofNat v) := rfl
theorem liftU_error (e : Panic) : liftU (.error e) = .error e := rfl

theorem scalarMul_ofNat (a d : Nat) (hd : d < B) : Mul.scalarMul (ofNat a) d = ofNat (a * d) := by
  rw [scalar_mul_val _ d (ofNat_canon a) hd, ofNat_val]

theorem divRemDigit_ofNat (a b : Nat) :
    divRemDigit (ofNat a) b = if b = 0 then .error .divzero else .ok (ofNat (a / b), a % b) := by
  rw [div_rem_digit_spec _ b (ofNat_digitsOk a), ofNat_val]

theorem oneShl_spec (mb : Nat) (hmb : mb / C07.BITS < C07.USIZE_RANGE) : oneShl mb = .ok (ofNat (2 ^ mb)) := by
  unfold oneShl
  rw [← ofNat_one, shl_ofNat 1 mb hmb, Nat.one_mul]

/-- `BigUint::bits` on canonical digits is the value-level bit length: both are the `k` with
    `2^(k-1) ≤ v < 2^k` -/
theorem bitsU_eq_bits {a : List Nat} (ha : Canon a) : C07.bitsU a = bits (val a) := by
  by_cases h0 : a = []
  · subst h0; rfl
  · obtain ⟨hlo, hhi⟩ := C07.bits_bounds_u a ha h0
    refine Nat.le_antisymm (Nat.le_of_pred_lt ((bits_gt_iff _ _).mpr hlo)) (Nat.not_lt.mp fun h => ?_)
    exact absurd ((bits_gt_iff _ _).mp h) (Nat.not_le.mpr hhi)

theorem bitsU_ofNat (v : Nat) : C07.bitsU (ofNat v) = bits v := by
  rw [bitsU_eq_bits (ofNat_canon v), ofNat_val]

theorem cmpSlice_lt_iff (a b : Nat) : cmpSlice (ofNat a) (ofNat b) = .lt ↔ a < b := by
  rw [cmpSlice_ofNat]; exact Nat.compare_eq_lt

theorem cmpSlice_gt_iff (a b : Nat) : cmpSlice (ofNat a) (ofNat b) = .gt ↔ a > b := by
  rw [cmpSlice_ofNat]; exact Nat.compare_eq_gt

variable (P : Params)

/-- the pow loops of NB.Model.RootsD are those of NB.Model.PowD -/
theorem sqLoopD_eq : ∀ (fuel : Nat) (b : List Nat) (e : Nat),
    sqLoopD P fuel b e = PowD.sqLoop P fuel b e := by
  intro fuel
  induction fuel with
  | zero => intro b e; rfl
  | succ f ih => intro b e; simp only [sqLoopD, PowD.sqLoop, ih]; rfl

theorem accLoopD_eq : ∀ (fuel : Nat) (b : List Nat) (e : Nat) (acc : List Nat),
    accLoopD P fuel b e acc = PowD.accLoop P fuel b e acc := by
  intro fuel
  induction fuel with
  | zero => intro b e acc; rfl
  | succ f ih => intro b e acc; simp only [accLoopD, PowD.accLoop, ih]; rfl

theorem powRVD_spec (hP : P.ValidMul) (x e : Nat) :
    powRVD P (ofNat x) e = .ok (ofNat (x ^ e)) := by
  have h : powRVD P (ofNat x) e = PowD.powPrim P .rv (ofNat x) e := by
    simp only [powRVD, powVVD, sqLoopD_eq, accLoopD_eq]; rfl
  rw [h, PowD.powPrim_ofNat P hP, Pow.powPrim_ok]; rfl

/-- a digit-level closure refines a value-level closure (on canonical arguments) -/
def StepRefines (fD : List Nat → Except Panic (List Nat)) (f : Nat → Except Panic Nat) : Prop :=
  ∀ v, fD (ofNat v) = liftU (f v)

theorem stepNthD_refines (hP : P.ValidMul) (x n : Nat) (hn : n ≤ B) :
    StepRefines (stepNthD P (ofNat x) n) (stepNth x n) := by
  intro s
  unfold stepNthD stepNth
  simp only [powRVD_spec P hP, divRef_ofNat]
  by_cases hd : s ^ (n - 1) = 0
  · simp only [hd, if_true]; rfl
  · simp only [hd, if_false]
    rw [scalarMul_ofNat _ _ (by have := B_pos; omega), addAssign_ofNat, divRemDigit_ofNat]
    by_cases h0 : n = 0
    · simp only [h0, if_true]; rfl
    · simp only [h0, if_false]; rw [Nat.mul_comm s]; rfl

theorem stepSqrtD_refines (x : Nat) : StepRefines (stepSqrtD P (ofNat x)) (stepSqrt x) := by
  intro s
  unfold stepSqrtD stepSqrt
  simp only [divRef_ofNat]
  by_cases hd : s = 0
  · simp only [hd, if_true]; rfl
  · simp only [hd, if_false]
    rw [addAssign_ofNat]
    have := shr_ofNat (x / s + s) 1 (by decide)
    rw [Nat.cast_one] at this
    rw [this, Nat.shiftRight_eq_div_pow, Nat.add_comm]; rfl

theorem stepCbrtD_refines (hP : P.ValidMul) (x : Nat) :
    StepRefines (stepCbrtD P (ofNat x)) (stepCbrt x) := by
  intro s
  unfold stepCbrtD stepCbrt
  simp only [mulRef_ofNat P hP, divRef_ofNat]
  by_cases hd : s * s = 0
  · simp only [hd, if_true]; rfl
  · simp only [hd, if_false]
    have := shl_ofNat s 1 (by decide)
    rw [Nat.cast_one] at this
    simp only [this, addAssign_ofNat, divRemDigit_ofNat, Nat.shiftLeft_eq]
    rfl

variable {fD : List Nat → Except Panic (List Nat)} {f : Nat → Except Panic Nat}

theorem climbD_ofNat
    (hf : StepRefines fD f) (mb : Nat) (hmb : mb / C07.BITS < C07.USIZE_RANGE) : ∀ (fuel x xn : Nat),
    climbD fD mb fuel (ofNat x) (ofNat xn) =
      (climb f mb fuel x xn).map (fun p => (ofNat p.1, ofNat p.2)) := by
  intro fuel
  induction fuel with
  | zero => intro x xn; rfl
  | succ fuel ih =>
    intro x xn
    simp only [climbD, climb, cmpSlice_lt_iff, bitsU_ofNat, oneShl_spec mb hmb, Nat.one_shiftLeft]
    refine ite_map (fun _ => ?_) fun _ => rfl
    by_cases hb : bits xn > mb
    · simp only [hb, if_true, hf (2 ^ mb)]; exact bind_map _ fun v => ih _ v
    · simp only [hb, if_false, hf xn]; exact bind_map _ fun v => ih _ v

theorem descendD_ofNat
    (hf : StepRefines fD f) : ∀ (fuel x xn : Nat),
    descendD fD fuel (ofNat x) (ofNat xn) = liftU (descend f fuel x xn) := by
  intro fuel
  induction fuel with
  | zero => intro x xn; rfl
  | succ fuel ih =>
    intro x xn
    simp only [descendD, descend, cmpSlice_gt_iff, hf xn]
    exact ite_map (fun _ => bind_map _ fun v => ih xn v) fun _ => rfl

theorem fixpointD_ofNat
    (hf : StepRefines fD f) (mb : Nat) (hmb : mb / C07.BITS < C07.USIZE_RANGE) (fuel g : Nat) :
    fixpointD fuel (ofNat g) mb fD = liftU (fixpoint fuel g mb f) := by
  unfold fixpointD fixpoint
  rw [hf g]
  cases h : f g with
  | error e => rfl
  | ok xn =>
    simp only [liftU, Except.map, climbD_ofNat hf mb hmb]
    cases h2 : climb f mb fuel g xn with
    | error e => rfl
    | ok p =>
      obtain ⟨a, b⟩ := p
      exact descendD_ofNat hf fuel a b

/-- "a `Vec` is shorter than `usize::MAX`" (the hypothesis of `C07.shr_spec`); under it every shift amount
    of the root code has a digit count that fits `usize` -/
def SizeOk (x : List Nat) : Prop := x.length < C07.USIZE_RANGE

theorem bits_le_len (x : Nat) : bits x ≤ C07.BITS * (ofNat x).length := by
  have h2 := val_lt (ofNat_digitsOk x)
  rw [ofNat_val, B_eq, ← pow_mul] at h2
  exact Nat.not_lt.mp fun h => absurd ((bits_gt_iff _ _).mp h) (Nat.not_le.mpr h2)

theorem shift_ok {x k : Nat} (hlen : SizeOk (ofNat x)) (hk : k ≤ bits x + 1) :
    k / C07.BITS < C07.USIZE_RANGE := by
  have h1 : k ≤ C07.BITS * (ofNat x).length + 1 := le_trans hk (Nat.succ_le_succ (bits_le_len x))
  have h2 : k / C07.BITS ≤ (ofNat x).length := by
    rw [show C07.BITS = 64 from rfl] at h1 ⊢; omega
  exact lt_of_le_of_lt h2 hlen

theorem maxBits_ok (x n : Nat) (hlen : SizeOk (ofNat x)) : (bits x / n + 1) / C07.BITS < C07.USIZE_RANGE :=
  shift_ok hlen (Nat.succ_le_succ (Nat.div_le_self (bits x) n))

theorem sizeOk_mono {m n : Nat} (h : m ≤ n) (hn : SizeOk (ofNat n)) : SizeOk (ofNat m) :=
  lt_of_le_of_lt (ofNat_length_le_of_le_val (ofNat_digitsOk n) (by rw [ofNat_val]; exact h)) hn

theorem floorRoot_le (x : Nat) {n : Nat} (hn : 1 ≤ n) : floorRoot x n ≤ x := by
  rw [floorRoot_eq x hn]
  exact le_trans (Nat.le_self_pow (Nat.ne_of_gt hn) _) (Nat.pow_nthRoot_le (.inl (Nat.ne_of_gt hn)))

theorem u64Path_ofNat (x : Nat) {n : Nat} (hn : 1 ≤ n) :
    u64Path (ofNat x) n = .ok (if x < B then some (ofNat (floorRoot x n)) else none) := by
  unfold u64Path
  rw [Conv.toU64_spec (ofNat_canon x), ofNat_val, ← B_eq]
  by_cases hB : x < B
  · simp only [hB, if_true]
    rw [fromDigit_eq_ofNat (lt_of_le_of_lt (floorRoot_le x hn) hB)]
  · simp only [hB, if_false]

/-- the digit-level source returns the digits of what the value-level source returns, at the
    arguments with which the root functions call it -/
structure SrcRefines (SD : GuessSrcD) (S : GuessSrc) : Prop where
  nth : ∀ x n, 1 ≤ n → n ≤ B → SizeOk (ofNat x) →
    SD.nth (ofNat x) n (bits x) (bits x / n + 1) = liftU (S.nth x n (bits x) (bits x / n + 1))
  sqrt : ∀ x, SizeOk (ofNat x) →
    SD.sqrt (ofNat x) (bits x) (bits x / 2 + 1) = liftU (S.sqrt x (bits x) (bits x / 2 + 1))
  cbrt : ∀ x, SizeOk (ofNat x) →
    SD.cbrt (ofNat x) (bits x) (bits x / 3 + 1) = liftU (S.cbrt x (bits x) (bits x / 3 + 1))

variable {SD : GuessSrcD} {S : GuessSrc}

/-- what the three root functions do after their shortcuts: the `to_u64` fast path, else Newton from the
    source's guess -/
theorem newton_ofNat
    (hf : StepRefines fD f) (src : Except Panic Nat) (x : Nat) {n : Nat} (hn : 1 ≤ n) {mb : Nat}
    (hmb : mb / C07.BITS < C07.USIZE_RANGE) :
    (match u64Path (ofNat x) n with
      | .error e => .error e
      | .ok (some r) => .ok r
      | .ok none =>
        match liftU src with
        | .error e => .error e
        | .ok guess => fixpointD (fixFuel (val guess) mb) guess mb fD) =
    liftU (if x < B then .ok (floorRoot x n) else
      match src with
      | .error e => .error e
      | .ok guess => fixpoint (fixFuel guess mb) guess mb f) := by
  rw [u64Path_ofNat x hn]
  by_cases hB : x < B
  · rw [if_pos hB, if_pos hB]; rfl
  · rw [if_neg hB, if_neg hB]
    cases src with
    | error e => rfl
    | ok g =>
      simp only [liftU, Except.map, ofNat_val]
      exact fixpointD_ofNat hf mb hmb _ g

theorem sqrtD_ofNat (hS : SrcRefines SD S)
    (x : Nat) (hlen : SizeOk (ofNat x)) : sqrtD P SD (ofNat x) = liftU (sqrtG S x) := by
  unfold sqrtD sqrtG
  simp only [ofNat_eq_nil_iff, ofNat_eq_one_iff, bitsU_ofNat, hS.sqrt x hlen]
  exact ite_map (fun _ => rfl) fun _ =>
    newton_ofNat (stepSqrtD_refines P x) _ x (n := 2) (by decide) (maxBits_ok x 2 hlen)

theorem cbrtD_ofNat (hP : P.ValidMul) (hS : SrcRefines SD S)
    (x : Nat) (hlen : SizeOk (ofNat x)) : cbrtD P SD (ofNat x) = liftU (cbrtG S x) := by
  unfold cbrtD cbrtG
  simp only [ofNat_eq_nil_iff, ofNat_eq_one_iff, bitsU_ofNat, hS.cbrt x hlen]
  exact ite_map (fun _ => rfl) fun _ =>
    newton_ofNat (stepCbrtD_refines P hP x) _ x (n := 3) (by decide) (maxBits_ok x 3 hlen)

theorem nthRootD_ofNat (hP : P.ValidMul) (hS : SrcRefines SD S)
    (x n : Nat) (hn : n ≤ B) (hlen : SizeOk (ofNat x)) : nthRootD P SD (ofNat x) n = liftU (nthRootG S x n) := by
  unfold nthRootD nthRootG
  simp only [ofNat_eq_nil_iff, ofNat_eq_one_iff, bitsU_ofNat]
  refine ite_map (fun _ => rfl) fun hn0 => ite_map (fun _ => rfl) fun _ =>
    ite_map (fun _ => rfl) fun _ => ite_map (fun _ => sqrtD_ofNat P hS x hlen) fun _ =>
    ite_map (fun _ => cbrtD_ofNat P hP hS x hlen) fun _ =>
    ite_map (fun _ => by rw [← ofNat_one]; rfl) fun _ => ?_
  rw [hS.nth x n (Nat.pos_of_ne_zero hn0) hn hlen]
  exact newton_ofNat (stepNthD_refines P hP x n hn) _ x (Nat.pos_of_ne_zero hn0) (maxBits_ok x n hlen)

theorem nostd_refines : SrcRefines nostdSrcD nostdSrc where
  nth := fun x n _ _ hlen => by
    simp only [nostdSrcD, nostdSrc, oneShl_spec _ (maxBits_ok x n hlen), Nat.one_shiftLeft]; rfl
  sqrt := fun x hlen => by
    simp only [nostdSrcD, nostdSrc, oneShl_spec _ (maxBits_ok x 2 hlen), Nat.one_shiftLeft]; rfl
  cbrt := fun x hlen => by
    simp only [nostdSrcD, nostdSrc, oneShl_spec _ (maxBits_ok x 3 hlen), Nat.one_shiftLeft]; rfl

theorem extraBits_eq {b e : Nat} (h : extraBits b = .ok e) : e + 1023 = b := by
  unfold extraBits at h
  rw [show f64MaxExp - 1 = 1023 from rfl] at h
  by_cases hb : b < 1023
  · rw [if_pos hb] at h; cases h
  · rw [if_neg hb] at h
    have h' : b - 1023 = e := by injection h
    rw [← h']; exact Nat.sub_add_cancel (Nat.not_lt.mp hb)

/-- a scale of at most `extra + 2` bits is a legal shift amount for `x` -/
theorem scale_le {b e s : Nat} (he : extraBits b = .ok e) (hs : s ≤ e + 2) : s ≤ b + 1 := by
  have := extraBits_eq he; omega

/-- the scaled arm `(self >> s).root() << k` on digits, for a root routine `rD` refining `rG` -/
theorem scaled_ofNat {rD : List Nat → Except Panic (List Nat)} {rG : Nat → Except Panic Nat}
    (hr : ∀ y, SizeOk (ofNat y) → rD (ofNat y) = liftU (rG y)) {x s k : Nat} (hlen : SizeOk (ofNat x))
    (hs : s ≤ bits x + 1) (hk : k ≤ s) :
    (match C07.biguintShr (ofNat x) (s : Int) with
      | .error e => .error e
      | .ok y =>
        match rD y with
        | .error e => .error e
        | .ok r => C07.biguintShl r (k : Int)) =
    liftU (match rG (x >>> s) with
      | .error e => .error e
      | .ok r => .ok (r <<< k)) := by
  rw [shr_ofNat x s (shift_ok hlen hs), Nat.shiftRight_eq_div_pow]
  simp only [hr _ (sizeOk_mono (Nat.div_le_self _ _) hlen)]
  cases rG (x / 2 ^ s) with
  | error e => rfl
  | ok r =>
    simp only [liftU, Except.map]
    rw [shl_ofNat r k (shift_ok hlen (le_trans hk hs)), Nat.shiftLeft_eq]

/-- the std source on digits refines the std source on values, at every depth: the float arm is the
    same abstract evaluation, the scaled arm is `>>`, the recursive root (one level down) and `<<`
    on digits, the fallback is `1 << max_bits` -/
theorem std_refines (hP : P.ValidMul) (Fl : F64) : ∀ d, SrcRefines (stdSrcD P Fl d) (stdSrc Fl d) := by
  intro d
  induction d with
  | zero => exact ⟨fun _ _ _ _ _ => rfl, fun _ _ => rfl, fun _ _ => rfl⟩
  | succ d ih =>
    refine ⟨?_, ?_, ?_⟩
    · intro x n hn1 hnB hlen
      rw [stdSrcD, stdSrc]
      simp only [ofNat_val]
      cases Fl.nth x n with
      | some g => rfl
      | none =>
        cases he : extraBits (bits x) with
        | error e => rfl
        | ok extra =>
          simp only
          by_cases hc : Roots.divCeil extra n * n < bits x ∧ bits x - Roots.divCeil extra n * n > n
          · rw [if_pos hc, if_pos hc]
            exact scaled_ofNat (rD := fun y => nthRootD P (stdSrcD P Fl d) y n)
              (rG := fun y => nthRootG (stdSrc Fl d) y n) (fun y hy => nthRootD_ofNat P hP ih y n hnB hy) hlen
              (Nat.le_succ_of_le hc.1.le) (Nat.le_mul_of_pos_right _ hn1)
          · rw [if_neg hc, if_neg hc, oneShl_spec _ (maxBits_ok x n hlen), Nat.one_shiftLeft]; rfl
    · intro x hlen
      rw [stdSrcD, stdSrc]
      simp only [ofNat_val]
      cases Fl.sqrt x with
      | some g => rfl
      | none =>
        cases he : extraBits (bits x) with
        | error e => rfl
        | ok extra =>
          exact scaled_ofNat (fun y hy => sqrtD_ofNat P ih y hy) hlen
            (scale_le he (half_scale extra).2) (Nat.le_mul_of_pos_right _ (by decide))
    · intro x hlen
      rw [stdSrcD, stdSrc]
      simp only [ofNat_val]
      cases Fl.cbrt x with
      | some g => rfl
      | none =>
        cases he : extraBits (bits x) with
        | error e => rfl
        | ok extra =>
          exact scaled_ofNat (fun y hy => cbrtD_ofNat P hP ih y hy) hlen
            (scale_le he (third_scale extra).2) (Nat.le_mul_of_pos_right _ (by decide))

theorem sqrtD_refines (hS : SrcRefines SD S)
    {x : List Nat} (hx : Canon x) (hlen : SizeOk x) : sqrtD P SD x = liftU (sqrtG S (val x)) := by
  have := sqrtD_ofNat P hS (val x) (by rw [← canon_eq_ofNat hx]; exact hlen)
  rwa [← canon_eq_ofNat hx] at this

theorem cbrtD_refines (hP : P.ValidMul) (hS : SrcRefines SD S)
    {x : List Nat} (hx : Canon x) (hlen : SizeOk x) : cbrtD P SD x = liftU (cbrtG S (val x)) := by
  have := cbrtD_ofNat P hP hS (val x) (by rw [← canon_eq_ofNat hx]; exact hlen)
  rwa [← canon_eq_ofNat hx] at this

theorem nthRootD_refines (hP : P.ValidMul) (hS : SrcRefines SD S)
    {x : List Nat} (hx : Canon x) (hlen : SizeOk x) {n : Nat} (hn : n ≤ B) :
    nthRootD P SD x n = liftU (nthRootG S (val x) n) := by
  have := nthRootD_ofNat P hP hS (val x) n hn (by rw [← canon_eq_ofNat hx]; exact hlen)
  rwa [← canon_eq_ofNat hx] at this

abbrev liftI (r : Except Panic Int) : Except Panic BigInt := r.map BigInt.ofInt

theorem signOf_val {x : BigInt} (h : x.Canon) : IntVal.signOf x.val = x.sign := by
  conv_rhs => rw [bigint_canon_eq_ofInt h]
  exact (PowD.ofInt_sign _).symm

/-- `BigInt::from_biguint(self.sign, root)`, the common tail of the three BigInt root functions -/
theorem sign_back {x : BigInt} (hx : x.Canon) (r : Except Panic Nat) :
    (match liftU r with
      | .error e => .error e
      | .ok m => .ok (BigInt.fromBiguint x.sign m)) =
    liftI (match r with
      | .error e => .error e
      | .ok m => .ok (IntVal.fromBiguint (IntVal.signOf x.val) m)) :=
  bind_map r fun v => by rw [signOf_val hx, PowD.fromBiguint_ofNat_intVal]; rfl

theorem bigintNthRootD_refines (hP : P.ValidMul) (hS : SrcRefines SD S)
    {x : BigInt} (hx : x.Canon) (hlen : SizeOk x.mag) {n : Nat} (hn : n ≤ B) :
    bigintNthRootD P SD x n = liftI (bigintNthRoot S x.val n) := by
  unfold bigintNthRootD bigintNthRoot
  simp only [(bigint_canon_sign hx).1]
  refine ite_map (fun _ => rfl) fun _ => ?_
  rw [nthRootD_refines P hP hS hx.1 hlen hn, ← bigint_natAbs_val hx]
  exact sign_back hx _

theorem bigintSqrtD_refines (hS : SrcRefines SD S)
    {x : BigInt} (hx : x.Canon) (hlen : SizeOk x.mag) :
    bigintSqrtD P SD x = liftI (bigintSqrt S x.val) := by
  unfold bigintSqrtD bigintSqrt
  simp only [(bigint_canon_sign hx).1]
  refine ite_map (fun _ => rfl) fun _ => ?_
  rw [sqrtD_refines P hS hx.1 hlen, ← bigint_natAbs_val hx]
  exact sign_back hx _

theorem bigintCbrtD_refines (hP : P.ValidMul) (hS : SrcRefines SD S)
    {x : BigInt} (hx : x.Canon) (hlen : SizeOk x.mag) :
    bigintCbrtD P SD x = liftI (bigintCbrt S x.val) := by
  unfold bigintCbrtD bigintCbrt
  rw [cbrtD_refines P hP hS hx.1 hlen, ← bigint_natAbs_val hx]
  exact sign_back hx _

end NB.RootsD
