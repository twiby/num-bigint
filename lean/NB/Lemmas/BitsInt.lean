/- helper lemmas for the BigInt part of C07: scalar `+= d` / `-= 1`, `shr_round_down`, the bits of `2^t * odd - 1` -/
import NB.Lemmas.Shift
import NB.Props.C01
namespace NB.C07

theorem addAssignU32_spec (P : Params) (a : List Nat) (d : Nat) (ha : Canon a) (hd : d < B) :
    addAssignU32 P a d = ofNat (val a + d) := by
  by_cases hd0 : d = 0
  · rw [addAssignU32, if_neg (not_not.mpr hd0), hd0]
    exact canon_eq_ofNat ha
  -- `a`, or `[0]` for zero, is non-empty and its sum with `d` reaches the top power of `B`
  have key : ∀ a0 : List Nat, a0 ≠ [] → DigitsOk a0 → B ^ (a0.length - 1) ≤ val a0 + d →
      (if (add2c P a0 [d]).2 ≠ 0 then (add2c P a0 [d]).1 ++ [(add2c P a0 [d]).2]
        else (add2c P a0 [d]).1) = ofNat (val a0 + d) := by
    intro a0 hne h0 hge
    obtain ⟨l1, l2, l3, l4⟩ := add2c_spec P a0 [d] (List.length_pos_iff.2 hne) h0 (.cons hd .nil)
    rw [val_cons, val_nil, Nat.mul_zero, Nat.add_zero] at l1
    exact push_carry_spec l3 l4 (l2 ▸ l1) (fun _ => l2 ▸ hge)
  rw [addAssignU32, if_pos hd0]
  by_cases h0 : a = []
  · rw [if_pos h0, h0]
    exact key [0] (List.cons_ne_nil _ _) (by decide) (Nat.le_trans (Nat.pos_of_ne_zero hd0) (Nat.le_add_left _ _))
  · rw [if_neg h0]
    exact key a h0 ha.1 (Nat.le_trans (canon_val_ge ha h0) (Nat.le_add_right _ _))

theorem subAssignU32_spec (P : Params) (a : List Nat) (ha : Canon a) (h1 : 1 ≤ val a) :
    subAssignU32 P a 1 = .ok (ofNat (val a - 1)) := by
  have := subAssign_spec P a [1] ha canon_one
  rw [subAssign, if_neg (show ¬ val a < val [1] from Nat.not_lt.2 h1)] at this
  rw [subAssignU32, this]; rfl

theorem pow_two_dvd_odd (t m k : Nat) : (2 ^ t * (2 * m + 1)) % 2 ^ k = 0 ↔ k ≤ t := by
  rw [← Nat.dvd_iff_mod_eq_zero]
  constructor
  · intro h
    by_contra hlt
    -- otherwise `2^(t+1)` divides `2^t * odd`, so `2` divides the odd factor
    have h2 := Nat.dvd_trans (Nat.pow_dvd_pow 2 (Nat.lt_of_not_le hlt)) h
    rw [Nat.pow_succ] at h2
    have h3 := (Nat.dvd_add_right (Nat.dvd_mul_right 2 m)).1
      (Nat.dvd_of_mul_dvd_mul_left (Nat.pow_pos Nat.two_pos) h2)
    exact absurd (Nat.le_of_dvd Nat.one_pos h3) (by decide)
  · intro h
    exact Nat.dvd_mul_right_of_dvd (Nat.pow_dvd_pow 2 h) _

theorem bigint_val_minus (m : List Nat) : (⟨.minus, m⟩ : BigInt).val = -(val m : Int) := rfl
theorem bigint_val_plus (m : List Nat) : (⟨.plus, m⟩ : BigInt).val = (val m : Int) := rfl

theorem shrRoundDown_nonneg (x : BigInt) (k : Int) (h : x.sign ≠ .minus) :
    shrRoundDown x k = .ok false := by
  unfold shrRoundDown; simp [h]

/-- for a negative value: round down exactly when a one bit is shifted out -/
theorem shrRoundDown_minus (m : List Nat) (k : Int) (hc : Canon m) (hne : m ≠ []) (hk : 0 ≤ k)
    (hlen : BITS * m.length < U64_RANGE) :
    shrRoundDown ⟨.minus, m⟩ k = .ok (decide (val m % 2 ^ k.toNat ≠ 0)) := by
  obtain ⟨t, q, ht, hq⟩ := (trailingZerosU_spec m hc.1).2 (canon_val_pos hc hne).ne'
  obtain ⟨n, rfl⟩ := Int.eq_ofNat_of_zero_le hk
  have htlt : t < U64_RANGE := by
    refine Nat.lt_trans ((Nat.pow_lt_pow_iff_right Nat.one_lt_two).1 ?_) hlen
    calc 2 ^ t ≤ val m := hq ▸ Nat.le_mul_of_pos_right _ (Nat.succ_pos _)
      _ < 2 ^ (BITS * m.length) := B_pow _ ▸ val_lt hc.1
  -- a one bit is shifted out iff the shift exceeds the number of trailing zeros
  have hR : decide (val m % 2 ^ n ≠ 0) = decide (t < n) :=
    decide_eq_decide.2 (by rw [hq, ne_eq, pow_two_dvd_odd, Nat.not_le])
  rw [shrRoundDown, if_pos rfl, Int.toNat_natCast, hR]
  simp only [ht]
  congr 1
  by_cases hlt : t < n
  · have h1 : (n : Int) > 0 := Int.natCast_pos.2 (Nat.zero_lt_of_lt hlt)
    have h2 : (t : Int) < n := Int.ofNat_lt.2 hlt
    simp only [h1, h2, hlt, decide_true, ite_self, Bool.and_self]
  · have h2 : ¬ (t : Int) < n := fun h => hlt (Int.ofNat_lt.1 h)
    have h3 : (n : Int) < (U64_RANGE : Nat) :=
      Int.ofNat_lt.2 (Nat.lt_of_le_of_lt (Nat.le_of_not_lt hlt) htlt)
    simp only [hk, h3, and_self, if_true, h2, hlt, decide_false, Bool.and_false]

theorem fromU_ofNat (n : Nat) : BigInt.fromU (ofNat n) = BigInt.ofInt (n : Int) := by
  simp only [BigInt.fromU, ofInt_natCast, ofNat_eq_nil_iff]

theorem testBit_pred_odd_mul (t q k : Nat) :
    (2 ^ t * (2 * q + 1) - 1).testBit k =
      if k < t then true else if k = t then false else (2 ^ t * (2 * q + 1)).testBit k := by
  -- `2^t * odd = 2^t + 2^(t+1) * q`; subtracting one turns the low block `2^t` into `2^t - 1`
  have e : 2 ^ t * (2 * q + 1) = 2 ^ t + 2 ^ (t + 1) * q := by
    rw [Nat.mul_add, Nat.mul_one, ← Nat.mul_assoc, ← Nat.pow_succ, Nat.add_comm]
  have hlt : 2 ^ t < 2 ^ (t + 1) := Nat.pow_lt_pow_right Nat.one_lt_two (Nat.lt_succ_self t)
  rw [e, Nat.sub_add_comm Nat.one_le_two_pow, testBit_block q (Nat.lt_of_le_of_lt (Nat.sub_le _ _) hlt),
    Nat.testBit_two_pow_sub_one]
  by_cases h1 : k < t
  · rw [if_pos h1, if_pos (Nat.lt_succ_of_lt h1), decide_eq_true h1]
  · rw [if_neg h1, decide_eq_false h1]
    by_cases h2 : k = t
    · rw [if_pos h2, if_pos (h2 ▸ Nat.lt_succ_self t)]
    · have h3 : ¬ k < t + 1 := fun h => h2 (Nat.le_antisymm (Nat.le_of_lt_succ h) (Nat.le_of_not_lt h1))
      rw [if_neg h2, testBit_block q hlt, if_neg h3, if_neg h3]

/-- shifting the magnitude left keeps the sign field right: the result is canonical for `x * 2^n` -/
theorem shl_eq_ofInt {x : BigInt} (hx : x.Canon) (n : Nat) :
    (⟨x.sign, ofNat (val x.mag * 2 ^ n)⟩ : BigInt) = BigInt.ofInt (x.val * 2 ^ n) := by
  have hp : 0 < 2 ^ n := Nat.pow_pos Nat.two_pos
  rcases NB.bigint_canon_cases hx with ⟨hs, hv, hpos⟩ | ⟨hs, hv, hm⟩ | ⟨hs, hv, hpos⟩
  · rw [hs, hv, ← ofInt_negNatCast_of_pos (Nat.mul_pos hpos hp)]; congr 1; push_cast; ring
  · rw [hs, hv, hm, Int.zero_mul, show val [] = 0 from rfl, Nat.zero_mul, ofNat_zero]; rfl
  · rw [hs, hv, ← ofInt_natCast_of_pos (Nat.mul_pos hpos hp)]; rfl

theorem minus_addOne_eq_ofInt (P : Params) (m : List Nat) (hm : Canon m) :
    (⟨.minus, addAssignU32 P m 1⟩ : BigInt) = BigInt.ofInt (-(val m : Int) - 1) := by
  rw [addAssignU32_spec P m 1 hm (by decide), show -(val m : Int) - 1 = -((val m + 1 : Nat) : Int) by push_cast; ring,
    ofInt_negNatCast_of_pos (Nat.succ_pos _)]

end NB.C07
