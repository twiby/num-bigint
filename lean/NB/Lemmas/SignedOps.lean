/- the nine signed bit routines against Mathlib's Int.land / Int.lor / Int.xor -/
import NB.Lemmas.Streams
import NB.Lemmas.BitsInt
namespace NB.C07

theorem val_append_carry (o1 o2 : List Nat) (c : Int) {n : Nat} (h : o1.length = n) :
    (val (o1 ++ o2) : Int) + (B ^ (o1 ++ o2).length : Nat) * c
      = val o1 + (B ^ n : Nat) * ((val o2 : Int) + (B ^ o2.length : Nat) * c) := by
  rw [val_append, List.length_append, pow_add, h]; push_cast; ring

/-- The zip loop of a signed routine, run on operands whose carries are in their initial state: `o` and the
    primed carries are what it returns, `R` is the integer the result stream stands for. -/
structure ZipRun (opN : Nat → Nat → Nat) (opZ : Int → Int → Int) (na nb nr : Bool) (a b o : List Nat)
    (ca cb cr ca' cb' cr' : Nat) (R : Int) : Prop where
  op : IntOp opN opZ
  run : zipLoop opN na nb nr ca cb cr a b = (o, ca', cb', cr')
  ha : DigitsOk a
  hb : DigitsOk b
  hc : ca ≤ 1 ∧ cb ≤ 1 ∧ cr ≤ 1
  sa : Spent na ca a
  sb : Spent nb cb b
  res : I nr cr (opZ (I na ca (val a)) (I nb cb (val b))) = R

namespace ZipRun
variable {opN : Nat → Nat → Nat} {opZ : Int → Int → Int} {na nb nr : Bool} {a b o : List Nat}
  {ca cb cr ca' cb' cr' : Nat} {R : Int} (S : ZipRun opN opZ na nb nr a b o ca cb cr ca' cb' cr' R)
include S

theorem swap : ZipRun opN opZ nb na nr b a o cb ca cr cb' ca' cr' R :=
  ⟨S.op, zipLoop_swap S.op.commN S.run, S.hb, S.ha, ⟨S.hc.2.1, S.hc.1, S.hc.2.2⟩, S.sb, S.sa,
    by rw [S.op.commZ, S.res]⟩

/-- when `a` is not the longer operand its stream has run out into its sign extension `I na 0 0` -/
theorem of_length_le (hle : a.length ≤ b.length) :
    R = (val o : Int) + (B ^ a.length : Nat) * I nr cr' (opZ (I na 0 0) (I nb cb' (val (b.drop a.length))))
    ∧ o.length = a.length ∧ DigitsOk o ∧ ca' = 0 ∧ cb' ≤ 1 ∧ cr' ≤ 1
    ∧ Spent nb cb' (b.drop a.length) := by
  obtain ⟨e, zl, zok, -, zcb, zcr, sa, sb⟩ :=
    zip_int S.op na nb nr a b ca cb cr S.run S.ha S.hb S.hc.1 S.hc.2.1 S.hc.2.2
  rw [Nat.min_eq_left hle] at e zl sa sb
  rw [List.drop_length] at e sa
  have s := spent_nil (sa S.sa)
  rw [S.res, s, show ((val ([] : List Nat) : Nat) : Int) = 0 from rfl] at e
  exact ⟨e, zl, zok, s, zcb, zcr, sb S.sb⟩

/-- the `debug_assert!(b.len() > a.len() || carry_b == 0)` after the zip loop -/
theorem guard_b : b.length > a.length ∨ cb' = 0 :=
  (Nat.lt_or_ge a.length b.length).imp id fun h => (S.swap.of_length_le h).2.2.2.1

theorem carry_of_plain : (na = false → ca' = ca) ∧ (nb = false → cb' = cb) ∧ (nr = false → cr' = cr) :=
  zipLoop_pos S.run

/-- the result of the zip loop is final when the operation with the sign extension of `a` is constant -/
theorem const_of_length_le (hle : a.length ≤ b.length) (h : ∀ y, opZ (I na 0 0) y = I nr 0 0) :
    R = (val o : Int) + (B ^ a.length : Nat) * (if nr then (cr' : Int) else 0)
    ∧ DigitsOk o ∧ o.length = a.length ∧ cr' ≤ 1 := by
  obtain ⟨e, zl, zok, -, -, zcr, -⟩ := S.of_length_le hle
  rw [h, I_ext] at e
  exact ⟨e, zok, zl, zcr⟩

/-- the result of the zip loop is final when the operands have the same length -/
theorem of_length_eq (heq : a.length = b.length) (h : opZ (I na 0 0) (I nb 0 0) = I nr 0 0) :
    R = (val o : Int) + (B ^ o.length : Nat) * (if nr then (cr' : Int) else 0)
    ∧ DigitsOk o ∧ cr' ≤ 1 := by
  obtain ⟨e, zl, zok, -, -, zcr, sb⟩ := S.of_length_le heq.le
  rw [List.drop_eq_nil_of_le heq.ge] at e sb
  rw [spent_nil sb, show ((val ([] : List Nat) : Nat) : Int) = 0 from rfl, h, I_ext, ← zl] at e
  exact ⟨e, zok, zcr⟩

/-- zip loop, then the tail loop over the rest of the longer operand `b`, when the operation with the sign
    extension of `a` is the identity or the complement (`flip`) -/
theorem tail_of_length_le (flip : Bool) (hle : a.length ≤ b.length)
    (hflip : ∀ y, opZ (I na 0 0) y = complIf flip y) (hext : complIf flip (I nb 0 0) = I nr 0 0) :
    let t := tailLoop nb flip nr cb' cr' (b.drop a.length)
    R = (val (o ++ t.1) : Int) + (B ^ (o ++ t.1).length : Nat) * (if nr then (t.2.2 : Int) else 0)
    ∧ DigitsOk (o ++ t.1) ∧ (o ++ t.1).length = b.length ∧ t.2.1 = 0 ∧ t.2.2 ≤ 1 := by
  obtain ⟨e, zl, zok, -, zcb, zcr, sb⟩ := S.of_length_le hle
  obtain ⟨t1, tl, tok, tco, s⟩ := tail_int nb flip nr (b.drop a.length) cb' cr' (S.hb.drop _) zcb zcr
  have s1 := spent_nil (s sb)
  rw [s1, hext, I_ext] at t1
  rw [hflip, t1, ← tl, ← val_append_carry _ _ _ zl] at e
  refine ⟨e, zok.append tok, ?_, s1, tco⟩
  rw [List.length_append, zl, tl, List.length_drop, Nat.add_sub_cancel' hle]

end ZipRun

theorem val_append_int (o1 o2 : List Nat) {n : Nat} (h : o1.length = n) :
    (val (o1 ++ o2) : Int) = val o1 + (B ^ n : Nat) * (val o2 : Int) := by
  rw [val_append, h]; push_cast; rfl

/-! The three ways a routine ends.  `ZipRun.of_length_eq`, `const_of_length_le` and `tail_of_length_le` leave the result as
`R = val d + P * (if nr then c else 0)`; at a call `nr` is a literal, so the hypotheses below are stated on
`if true …` / `if false …` and no caller has to reduce the `if`. -/

/-- negative result, `if carry != 0 { a.push(1) }` -/
theorem neg_result_push {R : Int} {d : List Nat} {c : Nat} (hd : DigitsOk d) (hc : c ≤ 1)
    (e : -R = (val d : Int) + (B ^ d.length : Nat) * (if true then (c : Int) else 0)) :
    DigitsOk (if c ≠ 0 then d ++ [1] else d) ∧ -(val (if c ≠ 0 then d ++ [1] else d) : Int) = R := by
  rw [if_pos rfl] at e
  rcases Nat.le_one_iff_eq_zero_or_eq_one.mp hc with h0 | h1
  · subst h0
    rw [Nat.cast_zero, mul_zero, add_zero] at e
    exact ⟨hd, by rw [if_neg (not_not.2 rfl), ← e, neg_neg]⟩
  · subst h1
    refine ⟨hd.append (by decide), ?_⟩
    rw [Nat.cast_one, mul_one] at e
    rw [if_pos Nat.one_ne_zero, val_append, show val [1] = 1 from rfl, Nat.mul_one, Nat.cast_add, ← e,
      neg_neg]

/-- negative result of magnitude below `P`: the `debug_assert!(carry_or == 0)` of the `bitor` routines -/
theorem neg_result_no_carry {R : Int} {d : List Nat} {c P : Nat} (hc : c ≤ 1)
    (e : -R = (val d : Int) + (P : Nat) * (if true then (c : Int) else 0)) (bd : -R < (P : Nat)) :
    c = 0 ∧ -(val d : Int) = R := by
  rw [if_pos rfl] at e
  rcases Nat.le_one_iff_eq_zero_or_eq_one.mp hc with h0 | h1
  · subst h0
    rw [Nat.cast_zero, mul_zero, add_zero] at e
    exact ⟨rfl, by rw [← e, neg_neg]⟩
  · subst h1; push_cast at e; omega

/-- non-negative result: there is no carry -/
theorem pos_result {R P : Int} {d : List Nat} {c : Nat}
    (e : R = (val d : Int) + P * (if false then (c : Int) else 0)) : (val d : Int) = R := by
  rw [e, if_neg Bool.false_ne_true, mul_zero, add_zero]

theorem bigint_mag_ne {s : Sign} {m : List Nat} (h : (⟨s, m⟩ : BigInt).Canon) (hs : s ≠ .nosign) :
    m ≠ [] :=
  fun e => hs (h.2.mpr e)

/-- `from_biguint` when a `NoSign` request comes with an empty magnitude -/
theorem fromBiguint_eq_ite (s : Sign) (d : List Nat) (h : s = .nosign → d = []) :
    BigInt.fromBiguint s d = if d = [] then ⟨.nosign, d⟩ else ⟨s, d⟩ := by
  unfold BigInt.fromBiguint
  by_cases hd : d = []
  · subst hd; simp
  · simp [hd, show s ≠ .nosign from fun e => hd (h e)]

/-- `IntDigits::normalize` of a signed digit list is the canonical form of the integer it stands for -/
theorem normalizeI_eq {s : Sign} (hs : s ≠ .nosign) {d : List Nat} (hd : DigitsOk d) :
    BigInt.normalizeI ⟨s, d⟩ = BigInt.ofInt (BigInt.val ⟨s, d⟩) := by
  show (if normalize d = [] then _ else _) = _
  rw [← fromBiguint_eq_ite s _ (fun e => absurd e hs), fromBiguint_eq_ofInt s (normalize_canon hd)]
  cases s <;> simp only [BigInt.val, normalize_val]

/-- What a signed routine `f` computes: on canonical magnitudes (non-empty where the sign is `Minus`) of signs
    `sa`, `sb` it returns digits that stand, with sign `sr`, for `opZ` of the two integers. -/
def SignedSpec (f : List Nat → List Nat → Except Panic (List Nat)) (sa sb sr : Sign)
    (opZ : Int → Int → Int) : Prop :=
  ∀ a b : List Nat, Canon a → Canon b → (sa = .minus → a ≠ []) → (sb = .minus → b ≠ []) →
    ∃ out, f a b = .ok out ∧ DigitsOk out ∧
      BigInt.val ⟨sr, out⟩ = opZ (BigInt.val ⟨sa, a⟩) (BigInt.val ⟨sb, b⟩)

theorem SignedSpec.ok {f : List Nat → List Nat → Except Panic (List Nat)} {sa sb sr : Sign}
    {opZ : Int → Int → Int} (h : SignedSpec f sa sb sr opZ) {a b : List Nat} (ha : Canon a) (hb : Canon b)
    (hane : a ≠ []) (hbne : b ≠ []) : ∃ r, f a b = .ok r :=
  (h a b ha hb (fun _ => hane) (fun _ => hbne)).imp fun _ => And.left

/-- a routine with a `SignedSpec`, followed by `normalize`, is the operation on canonical BigInts -/
theorem SignedSpec.norm {f : List Nat → List Nat → Except Panic (List Nat)} {sa sb sr : Sign}
    {opZ : Int → Int → Int} (h : SignedSpec f sa sb sr opZ) {mx my : List Nat}
    (hx : (⟨sa, mx⟩ : BigInt).Canon) (hy : (⟨sb, my⟩ : BigInt).Canon)
    (hs : sa ≠ .nosign ∧ sb ≠ .nosign ∧ sr ≠ .nosign := by decide) :
    (f mx my).map (fun d => BigInt.normalizeI ⟨sr, d⟩) =
      .ok (BigInt.ofInt (opZ (BigInt.val ⟨sa, mx⟩) (BigInt.val ⟨sb, my⟩))) := by
  obtain ⟨out, h1, h2, h3⟩ :=
    h mx my hx.1 hy.1 (fun _ => bigint_mag_ne hx hs.1) (fun _ => bigint_mag_ne hy hs.2.1)
  rw [h1, ← h3, ← normalizeI_eq hs.2.2 h2]; rfl

theorem bitandPosNeg_spec : SignedSpec bitandPosNeg .plus .minus .plus Int.land := by
  intro a b ha hb _ hbne
  unfold bitandPosNeg
  rcases hz : zipLoop (· &&& ·) false true false 0 1 0 a b with ⟨o1, ca', cb', cr'⟩
  have S := ZipRun.mk intOp_and hz ha.1 hb.1 (by decide) (spent_pos a) (spent_neg hb (hbne rfl))
    (by rw [I_neg_one, I_pos, I_pos])
  simp only [S.guard_b, not_true_eq_false, if_false]
  rcases Nat.lt_or_ge b.length a.length with h | h
  · -- `x & -1 = x`: the rest of `a` stays
    obtain ⟨e, zl, zok, -⟩ := S.swap.of_length_le h.le
    rw [show ∀ y, Int.land (I true 0 0) y = y from int_neg_one_land, I_pos, I_pos,
      ← val_append_int _ _ zl] at e
    exact ⟨_, rfl, zok.append (ha.1.drop _), e.symm⟩
  · -- `0 & y = 0`: the rest of `b` is ignored
    obtain ⟨e, ok, -⟩ := S.const_of_length_le h int_zero_land
    exact ⟨_, by rw [List.drop_eq_nil_of_le h, List.append_nil], ok, pos_result e⟩

theorem bitandNegPos_spec : SignedSpec bitandNegPos .minus .plus .plus Int.land := by
  intro a b ha hb hane _
  unfold bitandNegPos
  rcases hz : zipLoop (· &&& ·) true false false 1 0 0 a b with ⟨o1, ca', cb', cr'⟩
  have S := ZipRun.mk intOp_and hz ha.1 hb.1 (by decide) (spent_neg ha (hane rfl)) (spent_pos b)
    (by rw [I_neg_one, I_pos, I_pos])
  simp only [S.swap.guard_b, not_true_eq_false, if_false]
  rcases hc : compare a.length b.length with _ | _ | _
  · -- `-1 & y = y`: the rest of `b` is copied
    have h := (Nat.compare_eq_lt.1 hc).le
    obtain ⟨e, zl, zok, -⟩ := S.of_length_le h
    rw [show ∀ y, Int.land (I true 0 0) y = y from int_neg_one_land, I_pos, I_pos,
      ← val_append_int _ _ zl] at e
    exact ⟨_, by rw [List.drop_eq_nil_of_le h, List.append_nil], zok.append (hb.1.drop _), e.symm⟩
  · have h := Nat.compare_eq_eq.1 hc
    obtain ⟨e, ok, -⟩ := S.of_length_eq h (int_land_zero _)
    exact ⟨_, by rw [List.drop_eq_nil_of_le h.le, List.append_nil], ok, pos_result e⟩
  · -- `x & 0 = 0`: the rest of `a` is cut off
    obtain ⟨e, ok, zl, -⟩ := S.swap.const_of_length_le (Nat.compare_eq_gt.1 hc).le int_zero_land
    exact ⟨_, by rw [List.take_left' zl], ok, pos_result e⟩

theorem bitandNegNeg_spec : SignedSpec bitandNegNeg .minus .minus .minus Int.land := by
  intro a b ha hb hane hbne
  unfold bitandNegNeg
  rcases hz : zipLoop (· &&& ·) true true true 1 1 1 a b with ⟨o1, ca', cb', cr'⟩
  have S := ZipRun.mk intOp_and hz ha.1 hb.1 (by decide) (spent_neg ha (hane rfl)) (spent_neg hb (hbne rfl))
    (by rw [I_neg_one, I_neg_one, I_neg_one])
  simp only [S.swap.guard_b, S.guard_b, not_true_eq_false, if_false]
  rcases hc : compare a.length b.length with _ | _ | _
  · obtain ⟨e, ok, -, c0, hc'⟩ := S.tail_of_length_le false (Nat.compare_eq_lt.1 hc).le int_neg_one_land rfl
    exact ⟨_, by simp only [c0, ne_self_iff_false, if_false], neg_result_push ok hc' e⟩
  · obtain ⟨e, ok, hc'⟩ := S.of_length_eq (Nat.compare_eq_eq.1 hc) rfl
    exact ⟨_, rfl, neg_result_push ok hc' e⟩
  · obtain ⟨e, ok, -, c0, hc'⟩ := S.swap.tail_of_length_le false (Nat.compare_eq_gt.1 hc).le int_neg_one_land rfl
    exact ⟨_, by simp only [c0, ne_self_iff_false, if_false], neg_result_push ok hc' e⟩

/-- or-ing into a negative number can only bring it closer to zero -/
theorem neg_lor_le (x : Int) {y : Int} (hy : y < 0) : -Int.lor x y ≤ -y ∧ -Int.lor y x ≤ -y := by
  obtain ⟨n, rfl⟩ := Int.eq_negSucc_of_lt_zero hy
  cases x with
  | ofNat m =>
    show -Int.negSucc (Nat.ldiff n m) ≤ _ ∧ -Int.negSucc (Nat.ldiff n m) ≤ _
    have := ldiff_le n m
    simp only [Int.negSucc_eq]; omega
  | negSucc m =>
    show -Int.negSucc (m &&& n) ≤ _ ∧ -Int.negSucc (n &&& m) ≤ _
    have h1 : m &&& n ≤ n := Nat.and_le_right
    have h2 : n &&& m ≤ n := Nat.and_le_left
    simp only [Int.negSucc_eq]; omega

theorem neg_lor_lt {m : List Nat} (hm : DigitsOk m) (hpos : 0 < val m) (x : Int) :
    -Int.lor x (-(val m : Int)) < (B ^ m.length : Nat) ∧ -Int.lor (-(val m : Int)) x < (B ^ m.length : Nat)
      := by
  have := neg_lor_le x (y := -(val m : Int)) (by omega)
  have := val_lt hm
  omega

theorem bitorPosNeg_spec : SignedSpec bitorPosNeg .plus .minus .minus Int.lor := by
  intro a b ha hb _ hbne
  have bd := (neg_lor_lt hb.1 (canon_val_pos hb (hbne rfl)) (val a)).1
  unfold bitorPosNeg
  rcases hz : zipLoop (· ||| ·) false true true 0 1 1 a b with ⟨o1, ca', cb', cr'⟩
  have S := ZipRun.mk intOp_or hz ha.1 hb.1 (by decide) (spent_pos a) (spent_neg hb (hbne rfl))
    (by rw [I_neg_one, I_neg_one, I_pos])
  simp only [S.guard_b, not_true_eq_false, if_false]
  -- `x | -1 = -1`: nothing beyond the length of `b`
  have hge : b.length ≤ a.length →
      cr' = 0 ∧ -(val o1 : Int) = _ ∧ DigitsOk o1 ∧ o1.length = b.length := fun h => by
    obtain ⟨e, ok, zl, hc'⟩ := S.swap.const_of_length_le h int_neg_one_lor
    exact ⟨(neg_result_no_carry hc' e bd).1, (neg_result_no_carry hc' e bd).2, ok, zl⟩
  rcases hc : compare a.length b.length with _ | _ | _
  · obtain ⟨e, ok, len, c0, hc'⟩ := S.tail_of_length_le false (Nat.compare_eq_lt.1 hc).le int_zero_lor rfl
    rw [len] at e
    obtain ⟨c20, e'⟩ := neg_result_no_carry hc' e bd
    exact ⟨_, by simp only [c0, c20, ne_self_iff_false, if_false], ok, e'⟩
  · obtain ⟨rfl, e', ok, -⟩ := hge (Nat.compare_eq_eq.1 hc).ge
    exact ⟨_, by simp only [ne_self_iff_false, if_false], ok, e'⟩
  · obtain ⟨rfl, e', ok, zl⟩ := hge (Nat.compare_eq_gt.1 hc).le
    exact ⟨_, by simp only [ne_self_iff_false, if_false, List.take_left' zl], ok, e'⟩

theorem bitorNegPos_spec : SignedSpec bitorNegPos .minus .plus .minus Int.lor := by
  intro a b ha hb hane _
  have bd := (neg_lor_lt ha.1 (canon_val_pos ha (hane rfl)) (val b)).2
  unfold bitorNegPos
  rcases hz : zipLoop (· ||| ·) true false true 1 0 1 a b with ⟨o1, ca', cb', cr'⟩
  have S := ZipRun.mk intOp_or hz ha.1 hb.1 (by decide) (spent_neg ha (hane rfl)) (spent_pos b)
    (by rw [I_neg_one, I_neg_one, I_pos])
  simp only [S.swap.guard_b, not_true_eq_false, if_false]
  rcases Nat.lt_or_ge b.length a.length with h | h
  · obtain ⟨e, ok, len, c0, hc'⟩ := S.swap.tail_of_length_le false h.le int_zero_lor rfl
    rw [len] at e
    obtain ⟨c20, e'⟩ := neg_result_no_carry hc' e bd
    exact ⟨_, by simp only [h, c0, c20, if_true, ne_self_iff_false, if_false], ok, e'⟩
  · -- `-1 | y = -1`: nothing beyond the length of `a`
    obtain ⟨e, ok, -, hc'⟩ := S.const_of_length_le h int_neg_one_lor
    obtain ⟨rfl, e'⟩ := neg_result_no_carry hc' e bd
    exact ⟨_, by simp only [not_lt.2 h, ne_self_iff_false, if_false], ok, e'⟩

theorem bitorNegNeg_spec : SignedSpec bitorNegNeg .minus .minus .minus Int.lor := by
  intro a b ha hb hane hbne
  unfold bitorNegNeg
  rcases hz : zipLoop (· ||| ·) true true true 1 1 1 a b with ⟨o1, ca', cb', cr'⟩
  have S := ZipRun.mk intOp_or hz ha.1 hb.1 (by decide) (spent_neg ha (hane rfl)) (spent_neg hb (hbne rfl))
    (by rw [I_neg_one, I_neg_one, I_neg_one])
  simp only [S.swap.guard_b, S.guard_b, not_true_eq_false, if_false]
  rcases Nat.lt_or_ge b.length a.length with h | h
  · obtain ⟨e, ok, zl, hc'⟩ := S.swap.const_of_length_le h.le int_neg_one_lor
    obtain ⟨rfl, e'⟩ := neg_result_no_carry hc' e (neg_lor_lt hb.1 (canon_val_pos hb (hbne rfl)) _).1
    exact ⟨_, by simp only [h, if_true, ne_self_iff_false, if_false, List.take_left' zl], ok, e'⟩
  · obtain ⟨e, ok, -, hc'⟩ := S.const_of_length_le h int_neg_one_lor
    obtain ⟨rfl, e'⟩ := neg_result_no_carry hc' e (neg_lor_lt ha.1 (canon_val_pos ha (hane rfl)) _).2
    exact ⟨_, by simp only [not_lt.2 h, ne_self_iff_false, if_false, List.drop_eq_nil_of_le h,
      List.append_nil], ok, e'⟩

theorem I_neg_true_zero (c : Nat) : I true c (-1) = c := by unfold I; simp

theorem bitxorPosNeg_spec : SignedSpec bitxorPosNeg .plus .minus .minus Int.xor := by
  intro a b ha hb _ hbne
  unfold bitxorPosNeg
  rcases hz : zipLoop (· ^^^ ·) false true true 0 1 1 a b with ⟨o1, ca', cb', cr'⟩
  have S := ZipRun.mk intOp_xor hz ha.1 hb.1 (by decide) (spent_pos a) (spent_neg hb (hbne rfl))
    (by rw [I_neg_one, I_neg_one, I_pos])
  obtain rfl : ca' = 0 := S.carry_of_plain.1 rfl
  simp only [S.guard_b, not_true_eq_false, if_false]
  rcases hc : compare a.length b.length with _ | _ | _
  · obtain ⟨e, ok, -, c0, hc'⟩ := S.tail_of_length_le false (Nat.compare_eq_lt.1 hc).le int_zero_xor rfl
    exact ⟨_, by simp only [c0, ne_self_iff_false, if_false], neg_result_push ok hc' e⟩
  · obtain ⟨e, ok, hc'⟩ := S.of_length_eq (Nat.compare_eq_eq.1 hc) rfl
    exact ⟨_, rfl, neg_result_push ok hc' e⟩
  · obtain ⟨e, ok, -, -, hc'⟩ := S.swap.tail_of_length_le true (Nat.compare_eq_gt.1 hc).le int_neg_one_xor rfl
    exact ⟨_, rfl, neg_result_push ok hc' e⟩

theorem bitxorNegPos_spec : SignedSpec bitxorNegPos .minus .plus .minus Int.xor := by
  intro a b ha hb hane _
  unfold bitxorNegPos
  rcases hz : zipLoop (· ^^^ ·) true false true 1 0 1 a b with ⟨o1, ca', cb', cr'⟩
  have S := ZipRun.mk intOp_xor hz ha.1 hb.1 (by decide) (spent_neg ha (hane rfl)) (spent_pos b)
    (by rw [I_neg_one, I_neg_one, I_pos])
  obtain rfl : cb' = 0 := S.carry_of_plain.2.1 rfl
  simp only [S.swap.guard_b, not_true_eq_false, if_false]
  rcases hc : compare a.length b.length with _ | _ | _
  · obtain ⟨e, ok, -, -, hc'⟩ := S.tail_of_length_le true (Nat.compare_eq_lt.1 hc).le int_neg_one_xor rfl
    exact ⟨_, rfl, neg_result_push ok hc' e⟩
  · obtain ⟨e, ok, hc'⟩ := S.of_length_eq (Nat.compare_eq_eq.1 hc) rfl
    exact ⟨_, rfl, neg_result_push ok hc' e⟩
  · obtain ⟨e, ok, -, c0, hc'⟩ := S.swap.tail_of_length_le false (Nat.compare_eq_gt.1 hc).le int_zero_xor rfl
    exact ⟨_, by simp only [c0, ne_self_iff_false, if_false], neg_result_push ok hc' e⟩

theorem bitxorNegNeg_spec : SignedSpec bitxorNegNeg .minus .minus .plus Int.xor := by
  intro a b ha hb hane hbne
  unfold bitxorNegNeg
  rcases hz : zipLoop (· ^^^ ·) true true false 1 1 0 a b with ⟨o1, ca', cb', cr'⟩
  have S := ZipRun.mk intOp_xor hz ha.1 hb.1 (by decide) (spent_neg ha (hane rfl)) (spent_neg hb (hbne rfl))
    (by rw [I_neg_one, I_neg_one, I_pos])
  obtain rfl : cr' = 0 := S.carry_of_plain.2.2 rfl
  simp only [S.swap.guard_b, S.guard_b, not_true_eq_false, if_false]
  rcases hc : compare a.length b.length with _ | _ | _
  · obtain ⟨e, ok, -, c0, -⟩ := S.tail_of_length_le true (Nat.compare_eq_lt.1 hc).le int_neg_one_xor rfl
    exact ⟨_, by simp only [c0, ne_self_iff_false, if_false], ok, pos_result e⟩
  · obtain ⟨e, ok, -⟩ := S.of_length_eq (Nat.compare_eq_eq.1 hc) rfl
    exact ⟨_, rfl, ok, pos_result e⟩
  · obtain ⟨e, ok, -, c0, -⟩ := S.swap.tail_of_length_le true (Nat.compare_eq_gt.1 hc).le int_neg_one_xor rfl
    exact ⟨_, by simp only [c0, ne_self_iff_false, if_false], ok, pos_result e⟩

theorem plus_if_ofNat (n : Nat) :
    (if ofNat n = [] then (⟨.nosign, ofNat n⟩ : BigInt) else ⟨.plus, ofNat n⟩) = BigInt.ofInt (n : Int) := by
  rw [← fromBiguint_eq_ite .plus _ Sign.noConfusion, fromBiguint_ofNat_plus]

end NB.C07
