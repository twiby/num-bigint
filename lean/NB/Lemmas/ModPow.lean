/- Value-level `plain_modpow` and `modinv` (NB.Model.ModPow).  `plain_modpow` is square-and-multiply from the low
   bit, carried by the invariant `SqInv`; `modinv` is extended Euclid with the coefficients kept modulo `m`; the
   sign placement of the BigInt wrappers is floor-mod with the sign of the modulus. -/
import NB.Lemmas.Base
import NB.Lemmas.Canon
import NB.Model.ModPow
import Mathlib.Data.Nat.ModEq
namespace NB

theorem BITS_eq : BITS = 64 := rfl
theorem B_eq_bits : B = 2 ^ BITS := B_eq
theorem sqTimes_lt {m : Nat} (hm : 0 < m) : ∀ k base, base < m → sqTimes m k base < m
  | 0, _, h => h
  | k + 1, _, _ => sqTimes_lt hm k _ (Nat.mod_lt _ hm)

theorem sqMod_pow (m b k : Nat) : (b * b % m) ^ k ≡ b ^ (2 * k) [MOD m] := by
  rw [pow_mul, pow_two]; exact (Nat.mod_modEq _ _).pow k

theorem sqTimes_modEq (m : Nat) : ∀ k base, sqTimes m k base ≡ base ^ (2 ^ k) [MOD m]
  | 0, base => by simp [sqTimes, Nat.ModEq]
  | k + 1, base => by
    rw [pow_succ']
    exact (sqTimes_modEq m k (base * base % m)).trans (sqMod_pow m base _)

theorem stripZeros_spec (m : Nat) : ∀ r b base, r ≠ 0 →
    ∃ r' t base', stripZeros m r b base = .ok (r', b + t, base') ∧ r' % 2 = 1 ∧ r = r' * 2 ^ t ∧
      base' ≡ base ^ (2 ^ t) [MOD m] ∧ (base < m → base' < m) := by
  intro r
  induction r using Nat.strongRecOn with
  | _ r ih =>
    intro b base hr
    rw [stripZeros]
    simp only [hr, dite_false]
    by_cases h2 : r % 2 = 0
    · simp only [h2, dite_true]
      have hr2 : r / 2 * 2 = r := Nat.div_mul_cancel (Nat.dvd_of_mod_eq_zero h2)
      have hlt : r / 2 < r := Nat.div_lt_self (Nat.pos_of_ne_zero hr) (by decide)
      have hne : r / 2 ≠ 0 := fun h => hr (by rw [← hr2, h, Nat.zero_mul])
      obtain ⟨r', t, base', h1, h3, h4, h5, h6⟩ := ih (r / 2) hlt (b + 1) (base * base % m) hne
      refine ⟨r', t + 1, base', ?_, h3, ?_, ?_, ?_⟩
      · rw [h1, Nat.add_assoc, Nat.add_comm 1 t]
      · rw [pow_succ, ← mul_assoc, ← h4, hr2]
      · rw [pow_succ']; exact h5.trans (sqMod_pow m base _)
      · intro hb
        exact h6 (Nat.mod_lt _ (Nat.lt_of_le_of_lt (Nat.zero_le _) hb))
    · simp only [h2, dite_false]
      exact ⟨r, 0, base, by simp, by omega, by simp, by simp [Nat.ModEq], fun h => h⟩

/-- the square-and-multiply invariant on `s = (base, acc)`: `acc · base^(2q) ≡ T`, `q` = exponent bits still to come -/
def SqInv (m T : Nat) (s : Nat × Nat) (q : Nat) : Prop := s.2 * s.1 ^ (2 * q) ≡ T [MOD m] ∧ s.2 < m

theorem unitStep_inv {m T : Nat} (hm : 0 < m) (s : Nat × Nat) (q : Nat) (h : SqInv m T s q) :
    SqInv m T (unitStep m (decide (q % 2 = 1)) s) (q / 2) := by
  obtain ⟨hc, hlt⟩ := h
  -- with `b' = base² mod m` the invariant reads `acc · b'^q ≡ T`; then `q = 2·(q/2) + q % 2`
  have key : s.2 * (s.1 * s.1 % m) ^ q ≡ T [MOD m] := ((sqMod_pow m s.1 q).mul_left s.2).trans hc
  have hdm := Nat.div_add_mod q 2
  unfold unitStep
  by_cases hq : q % 2 = 1
  · simp only [hq, decide_true, if_true]
    refine ⟨((Nat.mod_modEq _ _).mul_right _).trans ?_, Nat.mod_lt _ hm⟩
    rw [hq] at hdm
    rw [← hdm, pow_succ] at key
    rw [Nat.mul_right_comm, Nat.mul_assoc]; exact key
  · simp only [hq, decide_false, Bool.false_eq_true, if_false]
    rw [(Nat.mod_two_eq_zero_or_one q).resolve_right hq, Nat.add_zero] at hdm
    rw [← hdm] at key; exact ⟨key, hlt⟩

theorem bitsLoop_inv {m T : Nat} (hm : 0 < m) : ∀ k r s Q, r < 2 ^ k → SqInv m T s (r + 2 ^ k * Q) →
    SqInv m T (bitsLoop m k r s) Q
  | 0, r, s, Q, hr, h => by
    have : r = 0 := by simpa using hr
    subst this
    simpa [bitsLoop] using h
  | k + 1, r, s, Q, hr, h => by
    rw [pow_succ'] at hr
    have h1 := unitStep_inv hm s _ h
    rw [pow_succ', Nat.mul_assoc, Nat.add_mul_mod_self_left, Nat.add_mul_div_left _ _ (by decide)] at h1
    exact bitsLoop_inv hm k (r / 2) _ Q (by omega) h1

theorem midLoop_inv {m T : Nat} (hm : 0 < m) : ∀ ds s Q, DigitsOk ds →
    SqInv m T s (val ds + B ^ ds.length * Q) → SqInv m T (midLoop m ds s) Q
  | [], s, Q, _, h => by simpa [midLoop, val] using h
  | d :: ds, s, Q, hd, h => by
    simp only [midLoop]
    apply midLoop_inv hm ds _ Q hd.tail
    apply bitsLoop_inv hm BITS d s _ (by rw [← B_eq_bits]; exact hd.head)
    rw [← B_eq_bits]
    have : val (d :: ds) + B ^ (d :: ds).length * Q = d + B * (val ds + B ^ ds.length * Q) := by
      simp only [val, List.length_cons, pow_succ]; ring
    rwa [this] at h

theorem whileLoop_inv {m T : Nat} (hm : 0 < m) : ∀ r s, SqInv m T s r → SqInv m T (whileLoop m r s) 0 := by
  intro r
  induction r using Nat.strongRecOn with
  | _ r ih =>
    intro s h
    rw [whileLoop]
    by_cases hr : r = 0
    · subst hr; simpa using h
    · simp only [hr, dite_false]
      exact ih (r / 2) (by omega) _ (unitStep_inv hm s r h)

theorem modEq_eq_mod {m a T : Nat} (h : a ≡ T [MOD m]) (hlt : a < m) : a = T % m := by
  unfold Nat.ModEq at h
  rwa [Nat.mod_eq_of_lt hlt] at h

theorem sqInv_zero {m T : Nat} {s : Nat × Nat} (h : SqInv m T s 0) : s.2 = T % m :=
  modEq_eq_mod (by simpa [SqInv] using h.1) h.2

theorem firstNonzero_none : ∀ e, firstNonzero e = none → val e = 0
  | [], _ => rfl
  | d :: ds, h => by
    simp only [firstNonzero] at h
    by_cases hd : d = 0
    · simp only [hd, ne_eq, not_true_eq_false, if_false, Option.map_eq_none_iff] at h
      simp [val, hd, firstNonzero_none ds h]
    · simp [hd] at h

theorem firstNonzero_some : ∀ e i, firstNonzero e = some i →
    e.getD i 0 ≠ 0 ∧ e = List.replicate i 0 ++ e.getD i 0 :: e.drop (i + 1)
  | [], _, h => by simp [firstNonzero] at h
  | d :: ds, i, h => by
    simp only [firstNonzero] at h
    by_cases hd : d = 0
    · simp only [hd, ne_eq, not_true_eq_false, if_false, Option.map_eq_some_iff] at h
      obtain ⟨j, hj, rfl⟩ := h
      obtain ⟨h1, h3⟩ := firstNonzero_some ds j hj
      refine ⟨by simpa using h1, ?_⟩
      simp only [List.getD_cons_succ, List.drop_succ_cons, List.replicate_succ, List.cons_append]
      rw [← h3, hd]
    · simp only [hd, ne_eq, not_false_eq_true, if_true, Option.some.injEq] at h
      subst h
      exact ⟨by simpa using hd, by simp⟩

theorem exp_decomp (i t r V : Nat) (ht : t ≤ BITS) :
    B ^ i * (r * 2 ^ t + B * V) = 2 ^ (BITS * i + t) * (r + 2 ^ (BITS - t) * V) := by
  unfold BITS at ht ⊢
  rw [pow_add, B_pow i]
  conv_lhs => rw [B_split ht]
  ring

/-- start of the multiply phase: `acc = base` takes the low bit of the odd `r`, what remains of the exponent
    `r + 2^(BITS-t)·V` is twice `r/2 + 2^(BITS-(t+1))·V` -/
theorem sqInv_start {m T base r t V : Nat} (hodd : r % 2 = 1) (ht : t < BITS) (hlt : base < m)
    (hT : base ^ (r + 2 ^ (BITS - t) * V) ≡ T [MOD m]) :
    SqInv m T (base, base) (r / 2 + 2 ^ (BITS - (t + 1)) * V) := by
  rw [show BITS - (t + 1) = 63 - t from Nat.add_sub_add_right 63 1 t]
  unfold BITS at ht hT
  refine ⟨?_, hlt⟩
  have h64 : 2 ^ (64 - t) = 2 * 2 ^ (63 - t) := by
    rw [show 64 - t = 63 - t + 1 from Nat.succ_sub (Nat.le_of_lt_succ ht), pow_succ']
  have hr : 2 * (r / 2) + 1 = r := by have := Nat.div_add_mod r 2; rwa [hodd] at this
  have : r + 2 ^ (64 - t) * V = 2 * (r / 2 + 2 ^ (63 - t) * V) + 1 := by
    rw [h64, Nat.mul_assoc, Nat.mul_add, Nat.add_right_comm, hr]
  rw [this, pow_succ, Nat.mul_comm] at hT
  exact hT

/-- the bits of `r/2` fit into what is left of a digit after `t` trailing zeros and the low bit -/
theorem half_lt_of_shifted {r t : Nat} (ht : t < BITS) (h : r * 2 ^ t < 2 ^ BITS) :
    r / 2 < 2 ^ (BITS - (t + 1)) := by
  rw [show BITS - (t + 1) = 63 - t from Nat.add_sub_add_right 63 1 t]
  unfold BITS at ht h
  have h2 : (2:Nat) ^ 64 = 2 * 2 ^ (63 - t) * 2 ^ t := by
    rw [← pow_succ', ← pow_add, Nat.add_right_comm, Nat.sub_add_cancel (Nat.le_of_lt_succ ht)]
  rw [h2] at h
  exact Nat.div_lt_of_lt_mul (Nat.lt_of_mul_lt_mul_right h)

theorem plainModpow_spec (b : Nat) (e : List Nat) (m : Nat) (he : Canon e) (hm : m ≠ 0) :
    plainModpow b e m = .ok (if val e = 0 then 1 else b ^ val e % m) := by
  have hm0 : 0 < m := Nat.pos_of_ne_zero hm
  unfold plainModpow
  simp only [hm, if_false]
  cases hf : firstNonzero e with
  | none => simp [firstNonzero_none e hf]
  | some i =>
    obtain ⟨hd, hsplit⟩ := firstNonzero_some e i hf
    dsimp only
    generalize e.getD i 0 = d at hd hsplit ⊢
    generalize e.drop (i + 1) = rest at hsplit ⊢
    have hv : val e = B ^ i * (d + B * val rest) := by
      rw [hsplit, val_append, val_replicate_zero, List.length_replicate, Nat.zero_add, val_cons]
    have hok : DigitsOk (d :: rest) := by
      have := he.1; rw [hsplit] at this; exact this.right
    have hrest : DigitsOk rest := hok.tail
    obtain ⟨r', t, base', hs, hodd, hdr, hb', hlt'⟩ :=
      stripZeros_spec m d 0 (sqTimes m (i * BITS) (b % m)) hd
    rw [hs]
    simp only [Nat.zero_add]
    have hbase_lt : base' < m := hlt' (sqTimes_lt hm0 _ _ (Nat.mod_lt _ hm0))
    have hdlt : r' * 2 ^ t < 2 ^ BITS := by rw [← hdr, ← B_eq_bits]; exact hok.head
    have ht : t < BITS :=
      (Nat.pow_lt_pow_iff_right (by decide)).mp
        (Nat.lt_of_le_of_lt (Nat.le_mul_of_pos_left _ (Nat.pos_of_ne_zero (fun h => by simp [h] at hodd))) hdlt)
    have hve : val e = 2 ^ (BITS * i + t) * (r' + 2 ^ (BITS - t) * val rest) := by
      rw [hv, hdr]; exact exp_decomp i t r' (val rest) (Nat.le_of_lt ht)
    have hve0 : val e ≠ 0 := by
      rw [hv]; exact Nat.mul_ne_zero (pow_ne_zero _ B_pos.ne') (Nat.add_pos_left (Nat.pos_of_ne_zero hd) _).ne'
    simp only [hve0, if_false]
    have hb2 : base' ≡ b ^ (2 ^ (BITS * i + t)) [MOD m] := by
      have e1 := sqTimes_modEq m (i * BITS) (b % m)
      have e2 : (b % m) ^ (2 ^ (i * BITS)) ≡ b ^ (2 ^ (i * BITS)) [MOD m] := (Nat.mod_modEq b m).pow _
      have e3 := ((e1.trans e2).pow (2 ^ t))
      rw [← pow_mul, ← pow_add, show i * BITS + t = BITS * i + t by rw [Nat.mul_comm]] at e3
      exact hb'.trans e3
    have hT : base' ^ (r' + 2 ^ (BITS - t) * val rest) ≡ b ^ val e [MOD m] := by
      rw [hve, pow_mul]; exact hb2.pow _
    by_cases hA : rest.length = 0 ∧ r' = 1
    · simp only [hA, and_self, if_true]
      obtain ⟨hA1, hA2⟩ := hA
      have : rest = [] := List.eq_nil_of_length_eq_zero hA1
      subst this
      simp only [val, Nat.mul_zero, Nat.add_zero, hA2, pow_one] at hT
      rw [modEq_eq_mod hT hbase_lt]
    · simp only [hA, if_false]
      have hinv0 := sqInv_start hodd ht hbase_lt hT
      rcases eq_nil_or_snoc rest with hnil | ⟨mid, last, hcat⟩
      · subst hnil
        simp only [List.getLast?_nil]
        simp only [val, Nat.mul_zero, Nat.add_zero] at hinv0
        have hr2 : r' / 2 ≠ 0 := by
          intro h0; apply hA; refine ⟨rfl, ?_⟩; omega
        simp only [hr2, if_false]
        rw [sqInv_zero (whileLoop_inv hm0 _ _ hinv0)]
      · subst hcat
        simp only [List.getLast?_concat, List.dropLast_concat]
        have hlast : last ≠ 0 := by
          intro h0
          apply he.2
          rw [hsplit, h0, ← List.cons_append, ← List.append_assoc]; exact List.getLast?_concat
        simp only [hlast, if_false]
        have hvr : val (mid ++ [last]) = val mid + B ^ mid.length * last := by
          rw [val_append]; simp [val]
        rw [hvr] at hinv0
        have h1 := bitsLoop_inv hm0 (BITS - (t + 1)) (r' / 2) (base', base') _ (half_lt_of_shifted ht hdlt) hinv0
        have h2 := midLoop_inv hm0 mid _ last hrest.left h1
        rw [sqInv_zero (whileLoop_inv hm0 _ _ h2)]

theorem subU_ok {a b : Nat} (h : b ≤ a) : subU a b = .ok (a - b) := by
  unfold subU; simp [Nat.not_lt.mpr h]

theorem modinvLoop_spec (m a : Nat) (hm : 0 < m) : ∀ r1 r0 t0 t1, t0 < m → t1 < m →
    t0 * a ≡ r0 [MOD m] → t1 * a ≡ r1 [MOD m] →
    ∃ t, modinvLoop m r0 r1 t0 t1 = .ok (Nat.gcd r0 r1, t) ∧ t < m ∧ t * a ≡ Nat.gcd r0 r1 [MOD m] := by
  intro r1
  induction r1 using Nat.strongRecOn with
  | _ r1 ih =>
    intro r0 t0 t1 h0 h1 c0 c1
    rw [modinvLoop]
    by_cases hr : r1 = 0
    · subst hr
      simp only [dite_true, Nat.gcd_zero_right]
      exact ⟨t0, rfl, h0, c0⟩
    · simp only [hr, dite_false]
      have hlt : r0 % r1 < r1 := Nat.mod_lt _ (Nat.pos_of_ne_zero hr)
      have hg : Nat.gcd r0 r1 = Nat.gcd r1 (r0 % r1) := by
        rw [Nat.gcd_comm r0 r1, Nat.gcd_rec r1 r0, Nat.gcd_comm]
      generalize hqt : r0 / r1 * t1 % m = qt1
      have hq : qt1 < m := by rw [← hqt]; exact Nat.mod_lt _ hm
      have hqc : qt1 ≡ r0 / r1 * t1 [MOD m] := by rw [← hqt]; exact Nat.mod_modEq _ _
      -- whichever way `t0 - q·t1 (mod m)` is formed, the new coefficient goes with the new remainder
      have step : ∀ t2, t2 < m → t2 + qt1 ≡ t0 [MOD m] →
          ∃ t, modinvLoop m r1 (r0 % r1) t1 t2 = .ok (Nat.gcd r0 r1, t) ∧ t < m ∧
            t * a ≡ Nat.gcd r0 r1 [MOD m] := by
        intro t2 ht2 h2
        rw [hg]
        refine ih (r0 % r1) hlt r1 t1 t2 h1 ht2 c1 (Nat.ModEq.add_right_cancel' (r0 / r1 * r1) ?_)
        rw [show r0 % r1 + r0 / r1 * r1 = r0 by rw [Nat.mul_comm]; exact Nat.mod_add_div r0 r1]
        calc t2 * a + r0 / r1 * r1 ≡ t2 * a + r0 / r1 * (t1 * a) [MOD m] :=
              Nat.ModEq.add_left _ (c1.symm.mul_left _)
          _ = (t2 + r0 / r1 * t1) * a := by ring
          _ ≡ (t2 + qt1) * a [MOD m] := (Nat.ModEq.add_left _ hqc.symm).mul_right _
          _ ≡ t0 * a [MOD m] := h2.mul_right _
          _ ≡ r0 [MOD m] := c0
      by_cases hlt0 : t0 < qt1
      · simp only [hlt0, if_true]
        rw [subU_ok (Nat.le_of_lt hq)]
        exact step _ (Nat.add_lt_of_lt_sub (by rw [Nat.sub_sub_self (Nat.le_of_lt hq)]; exact hlt0))
          (by rw [Nat.add_assoc, Nat.sub_add_cancel (Nat.le_of_lt hq)]; simp [Nat.ModEq])
      · simp only [hlt0, if_false]
        exact step _ (Nat.lt_of_le_of_lt (Nat.sub_le _ _) h0)
          (by rw [Nat.sub_add_cancel (Nat.le_of_not_lt hlt0)])

theorem modinvU_spec (a m : Nat) (hm : m ≠ 0) :
    ∃ r, modinvU a m = .ok r ∧ (r.isSome ↔ Nat.gcd a m = 1) ∧
      ∀ x, r = some x → x < m ∧ a * x % m = 1 % m := by
  have hm0 : 0 < m := Nat.pos_of_ne_zero hm
  unfold modinvU
  simp only [hm, if_false]
  by_cases h1 : m = 1
  · subst h1
    exact ⟨some 0, by simp, by simp, by intro x hx; cases hx; simp⟩
  simp only [h1, if_false]
  have hm1 : 1 < m := Nat.lt_of_le_of_ne hm0 (Ne.symm h1)
  have hgm : Nat.gcd a m = Nat.gcd (a % m) m := by
    rw [Nat.gcd_comm a m, Nat.gcd_rec m a]
  generalize hr1 : a % m = r1 at *
  have hr1m : r1 < m := by rw [← hr1]; exact Nat.mod_lt _ hm0
  by_cases hz : r1 = 0
  · subst hz
    refine ⟨none, by simp, ?_, by intro x hx; cases hx⟩
    simp [hgm, h1]
  simp only [hz, if_false]
  by_cases ho : r1 = 1
  · subst ho
    refine ⟨some 1, by simp, by simp [hgm], ?_⟩
    intro x hx; cases hx
    refine ⟨hm1, ?_⟩
    rw [Nat.mul_one, hr1, Nat.mod_eq_of_lt hm1]
  simp only [ho, if_false]
  by_cases h2 : m % r1 = 0
  · simp only [h2, if_true]
    refine ⟨none, rfl, ?_, by intro x hx; cases hx⟩
    have : Nat.gcd r1 m = r1 := Nat.gcd_eq_left (Nat.dvd_of_mod_eq_zero h2)
    simp [hgm, this, ho]
  simp only [h2, if_false]
  have hq1 : 1 ≤ m / r1 := Nat.div_pos (Nat.le_of_lt hr1m) (Nat.pos_of_ne_zero hz)
  have hqm : m / r1 ≤ m := Nat.div_le_self _ _
  rw [subU_ok hqm]
  dsimp only
  -- the loop runs on `r1 = a mod m` in place of `a`
  have c0 : 1 * r1 ≡ r1 [MOD m] := by simp [Nat.ModEq]
  have c1 : (m - m / r1) * r1 ≡ m % r1 [MOD m] := by
    apply Nat.ModEq.add_right_cancel' (m / r1 * r1)
    have e1 : (m - m / r1) * r1 + m / r1 * r1 = m * r1 := by
      rw [← Nat.add_mul]; congr 1; omega
    have e2 : m % r1 + m / r1 * r1 = m := by
      rw [Nat.mul_comm]; exact Nat.mod_add_div m r1
    rw [e1, e2]
    simp [Nat.ModEq]
  obtain ⟨t, e, hlt, hc⟩ := modinvLoop_spec m r1 hm0 (m % r1) r1 1 (m - m / r1) hm1 (Nat.sub_lt hm0 hq1) c0 c1
  rw [e]
  dsimp only
  have hg2 : Nat.gcd r1 (m % r1) = Nat.gcd a m := by
    rw [hgm, Nat.gcd_rec r1 m, Nat.gcd_comm]
  by_cases hg1 : Nat.gcd r1 (m % r1) = 1
  · simp only [hg1, if_true]
    refine ⟨some t, rfl, by simp [← hg2, hg1], ?_⟩
    intro x hx; cases hx
    refine ⟨hlt, ?_⟩
    rw [hg1] at hc
    have : a * t ≡ t * r1 [MOD m] := by
      rw [Nat.mul_comm a t]
      exact Nat.ModEq.mul_left _ (by rw [← hr1]; exact (Nat.mod_modEq a m).symm)
    exact this.trans hc
  · simp only [hg1, if_false]
    exact ⟨none, rfl, by simp [← hg2, hg1], by intro x hx; cases hx⟩

theorem isOddU_spec (l : List Nat) : isOddU l = decide (val l % 2 = 1) := by
  cases l with
  | nil => simp [isOddU, val]
  | cons d ds => rw [isOddU, val_cons_mod_two]

theorem neg_fmod_nat (A M : Nat) (hM : 0 < M) (hA : A % M ≠ 0) :
    Int.fmod (-(A : Int)) (M : Int) = ((M - A % M : Nat) : Int) := by
  have hlt := Nat.mod_lt A hM
  rw [Int.fmod_eq_emod_of_nonneg _ (by omega)]
  have h := Nat.mod_add_div A M
  have e : (-(A : Int)) = ((M - A % M : Nat) : Int) + (M : Int) * (-((A / M : Nat) : Int) - 1) := by
    have h' : (A : Int) = ((A % M : Nat) : Int) + (M : Int) * ((A / M : Nat) : Int) := by
      exact_mod_cast h.symm
    rw [Nat.cast_sub (Nat.le_of_lt hlt)]
    rw [h']; push_cast; ring
  rw [e, Int.add_mul_emod_self_left]
  exact Int.emod_eq_of_lt (by omega) (by omega)

theorem signPlace_spec (xneg mneg : Bool) (M A : Nat) (hM : 0 < M) (hA : A % M ≠ 0) :
    ∃ s mag, signPlace xneg mneg M (A % M) = .ok (s, mag) ∧
      BigInt.fromBiguint s (ofNat mag) =
        BigInt.ofInt (Int.fmod (if xneg = true then -(A : Int) else A) (if mneg = true then -(M : Int) else M)) := by
  have hle : A % M ≤ M := Nat.le_of_lt (Nat.mod_lt A hM)
  cases xneg <;> cases mneg
  · refine ⟨.plus, A % M, rfl, ?_⟩
    rw [fromBiguint_plus (ofNat_canon _), ofNat_val]
    simp only [Bool.false_eq_true, if_false]
    rw [Int.ofNat_fmod]
  · refine ⟨.minus, M - A % M, by simp [signPlace, subU_ok hle], ?_⟩
    rw [fromBiguint_minus (ofNat_canon _), ofNat_val]
    simp only [Bool.false_eq_true, if_false, if_true]
    have := Int.neg_fmod_neg (-(A : Int)) (M : Int)
    rw [neg_neg] at this
    rw [this, neg_fmod_nat A M hM hA]
  · refine ⟨.plus, M - A % M, by simp [signPlace, subU_ok hle], ?_⟩
    rw [fromBiguint_plus (ofNat_canon _), ofNat_val]
    simp only [Bool.false_eq_true, if_false, if_true]
    rw [neg_fmod_nat A M hM hA]
  · refine ⟨.minus, A % M, rfl, ?_⟩
    rw [fromBiguint_minus (ofNat_canon _), ofNat_val]
    simp only [if_true]
    rw [Int.neg_fmod_neg, Int.ofNat_fmod]

theorem bigint_val_eq_ite {y : BigInt} (hy : y.Canon) :
    y.val = if decide (y.sign = .minus) = true then -(NB.val y.mag : Int) else (NB.val y.mag : Int) := by
  rcases bigint_canon_cases hy with ⟨h1, h2, _⟩ | ⟨h1, h2, h3⟩ | ⟨h1, h2, _⟩
  · simp [h1, h2]
  · simp [h1, h2, h3, NB.val]
  · simp [h1, h2]

/-- the sign of a power: negative exactly for a negative base and an odd exponent -/
theorem signed_pow (neg : Bool) (X E : Nat) :
    (if (neg && decide (E % 2 = 1)) = true then -((X ^ E : Nat) : Int) else ((X ^ E : Nat) : Int))
      = (if neg = true then -(X : Int) else (X : Int)) ^ E := by
  cases neg
  · simp
  · by_cases ho : E % 2 = 1
    · simp only [ho, decide_true, Bool.and_self, if_true]
      rw [Odd.neg_pow (Nat.odd_iff.mpr ho)]; push_cast; rfl
    · simp only [ho, decide_false, Bool.and_false, Bool.false_eq_true, if_false, if_true]
      rw [Even.neg_pow (Nat.even_iff.mpr (by omega))]; push_cast; rfl

/-- `BigInt::modpow`, given what the unsigned `modpow` returns on the magnitudes -/
theorem bigint_modpow_of (P : Params) (x e m : BigInt) (hx : x.Canon) (he : e.Canon) (hmc : m.Canon)
    (hU : NB.val m.mag ≠ 0 →
      modpowU P x.mag e.mag m.mag = .ok (ofNat (NB.val x.mag ^ NB.val e.mag % NB.val m.mag))) :
    BigInt.modpow P x e m =
      if e.val < 0 then .error .negexp
      else if m.val = 0 then .error .zeromod
      else .ok (BigInt.ofInt (Int.fmod (x.val ^ e.val.toNat) m.val)) := by
  unfold BigInt.modpow
  by_cases hes : e.sign = .minus
  · have : e.val < 0 := (bigint_canon_sign he).1.mp hes
    simp [hes, this]
  have he0 : ¬ e.val < 0 := fun h => hes ((bigint_canon_sign he).1.mpr h)
  have hE : e.val.toNat = NB.val e.mag := by
    rw [← bigint_natAbs_val he]; omega
  simp only [hes, he0, if_false]
  by_cases hms : m.sign = .nosign
  · have : m.val = 0 := (bigint_canon_sign hmc).2.1.mp hms
    simp [hms, this]
  have hm0 : m.val ≠ 0 := fun h => hms ((bigint_canon_sign hmc).2.1.mpr h)
  have hMpos : 0 < NB.val m.mag := by
    rw [← bigint_natAbs_val hmc]; omega
  simp only [hms, hm0, if_false]
  rw [hU (by omega)]
  dsimp only
  -- `x.val ^ e` is the magnitude power with the sign that `signPlace` is given
  have hpow : x.val ^ e.val.toNat
      = if (decide (x.sign = .minus) && isOddU e.mag) = true then -((NB.val x.mag ^ NB.val e.mag : Nat) : Int)
        else ((NB.val x.mag ^ NB.val e.mag : Nat) : Int) := by
    rw [isOddU_spec, signed_pow, hE, ← bigint_val_eq_ite hx]
  by_cases hR : NB.val x.mag ^ NB.val e.mag % NB.val m.mag = 0
  · have : ofNat (NB.val x.mag ^ NB.val e.mag % NB.val m.mag) = [] := (ofNat_eq_nil_iff _).mpr hR
    simp only [this, if_true]
    have hd : m.val ∣ x.val ^ e.val.toNat := by
      rw [← Int.natAbs_dvd_natAbs, Int.natAbs_pow, hE, bigint_natAbs_val hmc, bigint_natAbs_val hx]
      exact Nat.dvd_of_mod_eq_zero hR
    rw [Int.fmod_eq_zero_of_dvd hd]
    simp [BigInt.ofInt]
  · have hne : ofNat (NB.val x.mag ^ NB.val e.mag % NB.val m.mag) ≠ [] :=
      fun h => hR ((ofNat_eq_nil_iff _).mp h)
    simp only [hne, if_false, ofNat_val]
    obtain ⟨s, mag, h1, h2⟩ :=
      signPlace_spec (decide (x.sign = .minus) && isOddU e.mag) (decide (m.sign = .minus)) (NB.val m.mag)
        (NB.val x.mag ^ NB.val e.mag) hMpos hR
    rw [h1]
    dsimp only
    rw [h2, hpow, ← bigint_val_eq_ite hmc]

theorem fmod_range (a : Int) {b : Int} (hb : b ≠ 0) :
    if 0 < b then 0 ≤ a.fmod b ∧ a.fmod b < b else b < a.fmod b ∧ a.fmod b ≤ 0 := by
  by_cases h : 0 < b
  · rw [if_pos h]; exact ⟨Int.fmod_nonneg_of_pos _ h, Int.fmod_lt_of_pos _ h⟩
  · rw [if_neg h]
    have hn : 0 < -b := by omega
    have e := Int.neg_fmod_neg (-a) (-b)
    rw [neg_neg, neg_neg] at e
    have h1 := Int.fmod_nonneg_of_pos (-a) hn
    have h2 := Int.fmod_lt_of_pos (-a) hn
    omega

theorem dvd_mul_fmod_sub_one {m x a : Int} (h : m ∣ x * a - 1) : m ∣ x * a.fmod m - 1 := by
  rw [Int.fmod_def]
  have : x * (a - m * a.fdiv m) - 1 = (x * a - 1) - m * (x * a.fdiv m) := by ring
  rw [this]
  exact Int.dvd_sub h (Dvd.intro _ rfl)

theorem bigint_modinv_nonzero (x m : BigInt) (hx : x.Canon) (hmc : m.Canon) (hm : m.val ≠ 0) :
    ∃ r, BigInt.modinv x m = .ok r ∧ (r.isSome ↔ Int.gcd x.val m.val = 1) ∧
      ∀ y, r = some y → y.Canon ∧
        (if 0 < m.val then 0 ≤ y.val ∧ y.val < m.val else m.val < y.val ∧ y.val ≤ 0) ∧
        m.val ∣ x.val * y.val - 1 := by
  have hxv := bigint_val_eq_ite hx
  have hmv := bigint_val_eq_ite hmc
  have hma := bigint_natAbs_val hmc
  have hg : Int.gcd x.val m.val = Nat.gcd (NB.val x.mag) (NB.val m.mag) := by
    rw [← hma, ← bigint_natAbs_val hx]; rfl
  have hMpos : 0 < NB.val m.mag := by rw [← hma]; omega
  unfold BigInt.modinv
  obtain ⟨r0, e0, hiff, hprop⟩ := modinvU_spec (NB.val x.mag) (NB.val m.mag) (by omega)
  rw [e0, hg]
  cases r0 with
  | none => exact ⟨none, rfl, by simpa using hiff, by intro y hy; cases hy⟩
  | some t =>
    obtain ⟨htM, hat⟩ := hprop t rfl
    have hg1 : Nat.gcd (NB.val x.mag) (NB.val m.mag) = 1 := hiff.mp rfl
    dsimp only
    -- the unsigned inverse with the sign of `x` is an inverse of `x` modulo `m`
    have hdvd : m.val ∣ x.val * (if decide (x.sign = .minus) = true then -(t : Int) else t) - 1 := by
      have h1 : ((NB.val m.mag : Nat) : Int) ∣ (NB.val x.mag : Int) * t - 1 := by
        have := Nat.modEq_iff_dvd.mp (Nat.ModEq.symm hat)
        push_cast at this
        exact this
      have h2 : x.val * (if decide (x.sign = .minus) = true then -(t : Int) else t)
          = (NB.val x.mag : Int) * t := by rw [hxv]; split <;> ring
      rw [h2, hmv]
      split
      · exact Int.neg_dvd.mpr h1
      · exact h1
    -- in both branches the result is the floor-mod of the signed inverse (`0` for `t = 0`)
    have hres : ∃ y : BigInt, (if t = 0 then (Except.ok (some ⟨.nosign, []⟩) : Except Panic (Option BigInt)) else
          match signPlace (decide (x.sign = .minus)) (decide (m.sign = .minus)) (NB.val m.mag) t with
          | .error p => .error p
          | .ok (s, mag) => .ok (some (BigInt.fromBiguint s (ofNat mag)))) = .ok (some y) ∧ y.Canon ∧
        y.val = Int.fmod (if decide (x.sign = .minus) = true then -(t : Int) else t) m.val := by
      by_cases ht0 : t = 0
      · subst ht0
        exact ⟨⟨.nosign, []⟩, if_pos rfl, by decide, by simp [BigInt.val]⟩
      · have htm : t % NB.val m.mag = t := Nat.mod_eq_of_lt htM
        obtain ⟨s, mag, h1, h2⟩ :=
          signPlace_spec (decide (x.sign = .minus)) (decide (m.sign = .minus)) (NB.val m.mag) t hMpos
            (by rw [htm]; exact ht0)
        rw [htm] at h1
        rw [if_neg ht0, h1]
        dsimp only
        rw [h2, ← hmv]
        exact ⟨_, rfl, bigint_ofInt_canon _, bigint_ofInt_val _⟩
    obtain ⟨y, hy, hyc, hyv⟩ := hres
    refine ⟨some y, hy, by simp [hg1], ?_⟩
    intro y' h
    cases h
    rw [hyv]
    exact ⟨hyc, fmod_range _ hm, dvd_mul_fmod_sub_one hdvd⟩

end NB
