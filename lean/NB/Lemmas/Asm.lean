import NB.Model.Asm
import NB.Lemmas.AddSub
namespace NB.Asm

@[simp] theorem upd_same (f : Nat → Nat) (i v : Nat) : upd f i v i = v := by simp [upd]
theorem upd_ne {f : Nat → Nat} {i j v : Nat} (h : j ≠ i) : upd f i v j = f j := by simp [upd, h]

@[simp] theorem exec_nil (k : Cfg) (s : St) : exec k [] s = some s := rfl
theorem exec_cons (k : Cfg) (i : Instr) (is : List Instr) (s : St) :
    exec k (i :: is) s = (match step k i s with | none => none | some s' => exec k is s') := rfl

/-- result and carry-out of `doAdc` (NB.Model.Asm) as a function of carry-in and the two operands -/
def adcI (c : Bool) (x y : Nat) : Nat × Bool := ((x + y + b2n c) % B, decide (B ≤ x + y + b2n c))
/-- result and borrow-out of `doSbb` -/
def sbbI (c : Bool) (x y : Nat) : Nat × Bool :=
  (if y + b2n c ≤ x then x - (y + b2n c) else x + B - (y + b2n c), decide (x < y + b2n c))

/-- sequential carry chain on memory functions: digits `i … i+n-1` of `f` get `f + g + carry` -/
def chainAdd (f g : Nat → Nat) (c : Bool) (i : Nat) : Nat → (Nat → Nat) × Bool
  | 0 => (f, c)
  | n + 1 =>
    let r := chainAdd f g c i n
    let o := adcI r.2 (f (i + n)) (g (i + n))
    (upd r.1 (i + n) o.1, o.2)

/-- the same with `sbb`: digits `i … i+n-1` of `f` get `f - g - borrow` -/
def chainSub (f g : Nat → Nat) (c : Bool) (i : Nat) : Nat → (Nat → Nat) × Bool
  | 0 => (f, c)
  | n + 1 =>
    let r := chainSub f g c i n
    let o := sbbI r.2 (f (i + n)) (g (i + n))
    (upd r.1 (i + n) o.1, o.2)

/-! The two chains are one recursion over the digit operation; what holds for every operation is proved
for `chainG` and read off for `chainAdd` and `chainSub`. -/

/-- the interpreter's digit operation selected by the checker's flag -/
def opOf (isSub : Bool) : Bool → Nat → Nat → Nat × Bool := if isSub then sbbI else adcI

/-- the chain for an arbitrary register operation `op`; `chainAdd = chainG adcI`, `chainSub = chainG sbbI` -/
def chainG (op : Bool → Nat → Nat → Nat × Bool) (f g : Nat → Nat) (c : Bool) (i : Nat) :
    Nat → (Nat → Nat) × Bool
  | 0 => (f, c)
  | n + 1 =>
    let r := chainG op f g c i n
    let o := op r.2 (f (i + n)) (g (i + n))
    (upd r.1 (i + n) o.1, o.2)

theorem chainG_adc (f g : Nat → Nat) (c : Bool) (i n : Nat) : chainG adcI f g c i n = chainAdd f g c i n := by
  induction n with
  | zero => rfl
  | succ n ih => simp only [chainG, chainAdd, ih]

theorem chainG_sbb (f g : Nat → Nat) (c : Bool) (i n : Nat) : chainG sbbI f g c i n = chainSub f g c i n := by
  induction n with
  | zero => rfl
  | succ n ih => simp only [chainG, chainSub, ih]

theorem chainG_outside (op) (f g : Nat → Nat) (c : Bool) (i n j : Nat) (h : j < i ∨ i + n ≤ j) :
    (chainG op f g c i n).1 j = f j := by
  induction n with
  | zero => rfl
  | succ n ih =>
    simp only [chainG]
    rw [upd_ne (by omega)]
    exact ih (by omega)

/-- digit `j` after the chain: inside the window it is the result digit of its position -/
theorem chainG_digit (op) (f g : Nat → Nat) (c : Bool) (i n p : Nat) (hp : p < n) :
    (chainG op f g c i n).1 (i + p) = (op (chainG op f g c i p).2 (f (i + p)) (g (i + p))).1 := by
  induction n with
  | zero => omega
  | succ n ih =>
    simp only [chainG]
    by_cases h : p = n
    · subst h; exact upd_same _ _ _
    · rw [upd_ne (by omega)]
      exact ih (by omega)

/-- chains compose: n digits from i, then m digits from i+n -/
theorem chainG_add (op) (f g : Nat → Nat) (c : Bool) (i n m : Nat) :
    chainG op f g c i (n + m) =
      chainG op (chainG op f g c i n).1 g (chainG op f g c i n).2 (i + n) m := by
  induction m with
  | zero => rfl
  | succ m ih =>
    rw [← Nat.add_assoc]
    simp only [chainG]
    rw [ih, chainG_outside _ _ _ _ _ _ _ (Or.inr (Nat.le_add_right _ _)), Nat.add_assoc]

theorem chainAdd_outside (f g : Nat → Nat) (c : Bool) (i n j : Nat) (h : j < i ∨ i + n ≤ j) :
    (chainAdd f g c i n).1 j = f j := by
  rw [← chainG_adc]; exact chainG_outside adcI f g c i n j h

theorem chainSub_outside (f g : Nat → Nat) (c : Bool) (i n j : Nat) (h : j < i ∨ i + n ≤ j) :
    (chainSub f g c i n).1 j = f j := by
  rw [← chainG_sbb]; exact chainG_outside sbbI f g c i n j h

theorem chainAdd_add (f g : Nat → Nat) (c : Bool) (i n m : Nat) :
    chainAdd f g c i (n + m) =
      chainAdd (chainAdd f g c i n).1 g (chainAdd f g c i n).2 (i + n) m := by
  simp only [← chainG_adc]; exact chainG_add adcI f g c i n m

theorem chainSub_add (f g : Nat → Nat) (c : Bool) (i n m : Nat) :
    chainSub f g c i (n + m) =
      chainSub (chainSub f g c i n).1 g (chainSub f g c i n).2 (i + n) m := by
  simp only [← chainG_sbb]; exact chainG_add sbbI f g c i n m

theorem memOf_lt {l : List Nat} {i : Nat} (h : i < l.length) : memOf l i = l[i] := by
  simp [memOf, List.getD, h]

section
variable {k : Cfg} {regs : Nat → Nat} {cf zf : Bool} {a b : Nat → Nat} {is : List Instr}

theorem exec_clc : exec k (.clc :: is) ⟨regs, cf, zf, a, b⟩ = exec k is ⟨regs, false, zf, a, b⟩ := by
  rfl

theorem exec_load_a {dst base idx off : Nat} (hb : base = k.aReg) (hd1 : dst ≠ k.aReg) (hd2 : dst ≠ k.bReg)
    (h : regs idx + off < k.la) :
    exec k (.load dst base idx off :: is) ⟨regs, cf, zf, a, b⟩ = exec k is ⟨upd regs dst (a (regs idx + off)), cf, zf, a, b⟩ := by
  rw [exec_cons, step, doLoad, if_neg (not_or.mpr ⟨hd1, hd2⟩), rd, if_pos hb, if_pos h]

theorem exec_load_b {dst base idx off : Nat} (hb : base = k.bReg) (hab : k.bReg ≠ k.aReg) (hd1 : dst ≠ k.aReg) (hd2 : dst ≠ k.bReg)
    (h : regs idx + off < k.lb) :
    exec k (.load dst base idx off :: is) ⟨regs, cf, zf, a, b⟩ = exec k is ⟨upd regs dst (b (regs idx + off)), cf, zf, a, b⟩ := by
  rw [exec_cons, step, doLoad, if_neg (not_or.mpr ⟨hd1, hd2⟩), rd, if_neg (hb ▸ hab), if_pos hb, if_pos h]

theorem exec_store_a {base idx off src : Nat} (hb : base = k.aReg) (h : regs idx + off < k.la) :
    exec k (.store base idx off src :: is) ⟨regs, cf, zf, a, b⟩ = exec k is ⟨regs, cf, zf, upd a (regs idx + off) (regs src), b⟩ := by
  rw [exec_cons, step, doStore, if_pos hb, if_pos h]

theorem exec_adc {dst src : Nat} (hd1 : dst ≠ k.aReg) (hd2 : dst ≠ k.bReg) :
    exec k (.adc dst src :: is) ⟨regs, cf, zf, a, b⟩ =
      exec k is ⟨upd regs dst (adcI cf (regs dst) (regs src)).1, (adcI cf (regs dst) (regs src)).2,
                 decide ((adcI cf (regs dst) (regs src)).1 = 0), a, b⟩ := by
  rw [exec_cons, step, doAdc, if_neg (not_or.mpr ⟨hd1, hd2⟩)]
  rfl

theorem exec_sbb {dst src : Nat} (hd1 : dst ≠ k.aReg) (hd2 : dst ≠ k.bReg) :
    exec k (.sbb dst src :: is) ⟨regs, cf, zf, a, b⟩ =
      exec k is ⟨upd regs dst (sbbI cf (regs dst) (regs src)).1, (sbbI cf (regs dst) (regs src)).2,
                 decide ((sbbI cf (regs dst) (regs src)).1 = 0), a, b⟩ := by
  rw [exec_cons, step, doSbb, if_neg (not_or.mpr ⟨hd1, hd2⟩)]
  rfl

theorem exec_inc {r : Nat} (hd1 : r ≠ k.aReg) (hd2 : r ≠ k.bReg) :
    exec k (.inc r :: is) ⟨regs, cf, zf, a, b⟩ =
      exec k is ⟨upd regs r ((regs r + 1) % B), cf, decide ((regs r + 1) % B = 0), a, b⟩ := by
  rw [exec_cons, step, if_neg (not_or.mpr ⟨hd1, hd2⟩)]

theorem exec_dec {r : Nat} (hd1 : r ≠ k.aReg) (hd2 : r ≠ k.bReg) :
    exec k (.dec r :: is) ⟨regs, cf, zf, a, b⟩ =
      exec k is ⟨upd regs r ((regs r + B - 1) % B), cf, decide ((regs r + B - 1) % B = 0), a, b⟩ := by
  rw [exec_cons, step, if_neg (not_or.mpr ⟨hd1, hd2⟩)]

theorem exec_setc {r : Nat} (hd1 : r ≠ k.aReg) (hd2 : r ≠ k.bReg) :
    exec k (.setc r :: is) ⟨regs, cf, zf, a, b⟩ = exec k is ⟨upd regs r (b2n cf), cf, zf, a, b⟩ := by
  rw [exec_cons, step, if_neg (not_or.mpr ⟨hd1, hd2⟩)]
end

end NB.Asm
