/- helper lemmas for NB.Model.Radix (C06): the inexact-width bit-regrouping loops (radices 8, 32, 64, 128)
   and zero-stripping -/
import NB.Lemmas.Radix
import Mathlib.Data.Nat.Digits.Lemmas
namespace NB.Radix

theorem emitN_digits {r : Nat} (h2 : 2 ≤ r) (h256 : r ≤ 256) : ∀ (k n : Nat), n < r ^ k →
    emitN r k n = Nat.digits r n ++ List.replicate (k - (Nat.digits r n).length) 0 := by
  intro k
  induction k with
  | zero => intro n hn; rw [Nat.lt_one_iff.1 hn, Nat.digits_zero]; rfl
  | succ k ih =>
    intro n hn
    by_cases h0 : n = 0
    · rw [h0, emitN, Nat.zero_mod, Nat.zero_mod, Nat.zero_div, ih 0 (Nat.pow_pos (Nat.zero_lt_two.trans_le h2)),
        Nat.digits_zero]
      rfl
    · rw [pow_succ, Nat.mul_comm] at hn
      rw [digits_eq_cons h2 h256 h0, emitN, ih _ (Nat.div_lt_of_lt_mul hn), List.length_cons, Nat.succ_sub_succ]
      rfl

theorem stripTrailingZeros_digits (r n j : Nat) :
    stripTrailingZeros (Nat.digits r n ++ List.replicate j 0) = Nat.digits r n := by
  unfold stripTrailingZeros
  rw [List.reverse_append, List.reverse_replicate,
    List.dropWhile_append_of_pos fun a ha => by rw [List.eq_of_mem_replicate ha]; rfl]
  by_cases h0 : n = 0
  · rw [h0, Nat.digits_zero]; rfl
  · -- the most significant digit is not zero, so nothing more is dropped
    have hne : Nat.digits r n ≠ [] := Nat.digits_ne_nil_iff_ne_zero.mpr h0
    obtain ⟨init, last, hil⟩ : ∃ init last, Nat.digits r n = init ++ [last] :=
      ⟨_, _, (List.dropLast_append_getLast hne).symm⟩
    have hlast : (Nat.digits r n).getLast hne = last := by simp [hil]
    have hl : last ≠ 0 := hlast ▸ Nat.getLast_digit_ne_zero r h0
    rw [hil, List.reverse_append, List.reverse_singleton, List.singleton_append,
      List.dropWhile_cons_of_neg (by simpa using hl), List.reverse_cons, List.reverse_reverse]

theorem emitN_add_mul (r a b x y : Nat) (hr : 0 < r) :
    emitN r (a + b) (x + r ^ a * y) = emitN r a x ++ emitN r b (x / r ^ a + y) := by
  rw [emitN_add, ← emitN_mod r a (x + _), Nat.add_mul_mod_self_left, emitN_mod,
    Nat.add_mul_div_left _ _ (Nat.pow_pos hr)]


/-- `r |= c << rbits` on u64 when `r` has only its low `k` bits set -/
theorem or_shl_mod {k ro c : Nat} (hk : k ≤ 64) (hro : ro < 2 ^ k) :
    ro ||| ((c <<< k) % B) = (ro + c * 2 ^ k) % B := by
  have hB : B = 2 ^ k * 2 ^ (64 - k) := (B_split hk).trans (Nat.mul_comm _ _)
  rw [or_shl_mod_eq hk hro, hB, Nat.mod_mul, Nat.add_mul_mod_self_right, Nat.mod_eq_of_lt hro,
    Nat.add_mul_div_right _ _ (Nat.two_pow_pos _), Nat.div_eq_of_lt hro, Nat.zero_add]

/-- the inner loop once `r` holds the exact remaining bits (no digit straddles a limb any more):
    `k` digits are pushed, `m < bits` bits stay behind -/
theorem inexInner_plain {bits m : Nat} (h1 : 1 ≤ bits) (hm : m < bits) (c : Nat) :
    ∀ (k y : Nat), bits * k + m ≤ BITS →
    inexInner bits (2 ^ bits - 1) c y (bits * k + m) = (emitN (2 ^ bits) k y, y / (2 ^ bits) ^ k, m) := by
  intro k
  induction k with
  | zero =>
    intro y _
    rw [Nat.mul_zero, Nat.zero_add, inexInner, dif_neg fun h => Nat.not_le.2 hm h.1, pow_zero, Nat.div_one]
    rfl
  | succ k ih =>
    intro y hle
    rw [Nat.mul_succ, Nat.add_right_comm] at hle ⊢
    rw [inexInner, dif_pos ⟨Nat.le_add_left _ _, h1⟩]
    dsimp only
    rw [if_neg (Nat.not_lt.2 hle), Nat.add_sub_cancel, ih _ (Nat.le_trans (Nat.le_add_right _ _) hle),
      Nat.and_two_pow_sub_one_eq_mod, Nat.shiftRight_eq_div_pow,
      Nat.div_div_eq_div_mul, ← pow_succ']
    rfl

/-- after the first digit of a limb `c` is pushed, `r` is refilled with the bits of `c` that did not fit
    the u64: together with the `rb` left-over bits `ro` this is the exact quotient -/
theorem inex_refill {bits c ro rb : Nat} (hb : bits ≤ BITS) (hc : c < B) (hrb : rb < bits) (hro : ro < 2 ^ rb) :
    (if BITS < rb + BITS then c >>> (BITS - (rb + BITS - bits)) else ((ro + c * 2 ^ rb) % B) >>> bits)
      = (ro + c * 2 ^ rb) / 2 ^ bits := by
  by_cases h0 : rb = 0
  · subst h0
    rw [Nat.lt_one_iff.1 hro, if_neg (by omega), pow_zero, Nat.mul_one, Nat.zero_add, Nat.mod_eq_of_lt hc,
      Nat.shiftRight_eq_div_pow]
  · have e : BITS - (rb + BITS - bits) = bits - rb := by
      rw [Nat.add_sub_assoc hb, Nat.add_comm, ← tsub_tsub_assoc hb (Nat.le_of_lt hrb),
        Nat.sub_sub_self (Nat.le_trans (Nat.sub_le _ _) hb)]
    have hsplit : 2 ^ bits = 2 ^ rb * 2 ^ (bits - rb) := pow2_split (Nat.add_sub_cancel' (Nat.le_of_lt hrb))
    rw [if_pos (Nat.lt_add_of_pos_left (Nat.pos_of_ne_zero h0)), e, Nat.shiftRight_eq_div_pow, hsplit,
      ← Nat.div_div_eq_div_mul, Nat.add_mul_div_right _ _ (Nat.two_pow_pos _), Nat.div_eq_of_lt hro, Nat.zero_add]

/-- the inner loop for one limb `c`, entered with `rb < bits` left-over bits `ro` -/
theorem inexInner_first {bits : Nat} (h1 : 1 ≤ bits) (h8 : bits ≤ 8) {c ro rb k m : Nat} (hc : c < B)
    (hrb : rb < bits) (hro : ro < 2 ^ rb) (hk : rb + BITS = bits * k + m) (hm : m < bits) :
    inexInner bits (2 ^ bits - 1) c (ro ||| ((c <<< rb) % B)) (rb + BITS) =
      (emitN (2 ^ bits) k (ro + c * 2 ^ rb), (ro + c * 2 ^ rb) / (2 ^ bits) ^ k, m) := by
  have hb64 : bits ≤ BITS := Nat.le_trans h8 (by decide)
  obtain ⟨k, rfl⟩ : ∃ k', k = k' + 1 := Nat.exists_eq_succ_of_ne_zero (by
    rintro rfl
    rw [Nat.mul_zero, Nat.zero_add] at hk
    exact absurd (hk ▸ Nat.le_add_left BITS rb) (Nat.not_le.2 (Nat.lt_of_lt_of_le hm hb64)))
  rw [Nat.mul_succ, Nat.add_right_comm] at hk
  have hdvd : 2 ^ bits ∣ B := by rw [B_eq]; exact Nat.pow_dvd_pow 2 hb64
  have hle : bits * k + m ≤ BITS := by
    apply Nat.le_of_add_le_add_right (b := bits)
    rw [← hk, Nat.add_comm]
    exact Nat.add_le_add_left (Nat.le_of_lt hrb) _
  rw [or_shl_mod (Nat.le_trans (Nat.le_of_lt hrb) hb64) hro, inexInner,
    dif_pos ⟨Nat.le_trans hb64 (Nat.le_add_left _ _), h1⟩]
  dsimp only
  rw [inex_refill hb64 hc hrb hro, hk, Nat.add_sub_cancel, inexInner_plain h1 hm c k _ hle,
    Nat.and_two_pow_sub_one_eq_mod,
    Nat.mod_mod_of_dvd _ hdvd, Nat.div_div_eq_div_mul, ← pow_succ']
  rfl

/-- the whole digit stream before zero-stripping: the low `K` digits of the value, `K` large enough to
    cover every bit -/
theorem inexOuter_spec {bits : Nat} (h1 : 1 ≤ bits) (h8 : bits ≤ 8) :
    ∀ (cs : List Nat) (ro rb : Nat), DigitsOk cs → rb < bits → ro < 2 ^ rb →
    ∃ K, rb + BITS * cs.length ≤ bits * K ∧
      inexOuter bits (2 ^ bits - 1) cs ro rb = emitN (2 ^ bits) K (ro + 2 ^ rb * val cs) := by
  intro cs
  induction cs with
  | nil =>
    intro ro rb _ hrb hro
    by_cases h0 : rb = 0
    · exact ⟨0, by rw [h0]; rfl, by rw [inexOuter, if_neg (not_not.2 h0)]; rfl⟩
    · have hlt : ro < 2 ^ bits := Nat.lt_of_lt_of_le hro (Nat.pow_le_pow_right (by decide) (Nat.le_of_lt hrb))
      refine ⟨1, by rw [List.length_nil, Nat.mul_zero, Nat.mul_one]; exact Nat.le_of_lt hrb, ?_⟩
      rw [inexOuter, if_pos h0, val_nil, Nat.mul_zero, Nat.add_zero, emitN, Nat.mod_eq_of_lt hlt]
      rfl
  | cons c cs ih =>
    intro ro rb hok hrb hro
    have hc : c < B := hok.head
    obtain ⟨k, m, hk, hm⟩ : ∃ k m, rb + BITS = bits * k + m ∧ m < bits :=
      ⟨_, _, (Nat.div_add_mod _ _).symm, Nat.mod_lt _ h1⟩
    -- the bits seen so far: `2 ^ (rb + BITS) = (2 ^ bits) ^ k * 2 ^ m`
    have hpow : 2 ^ rb * B = (2 ^ bits) ^ k * 2 ^ m := by
      rw [show B = 2 ^ BITS from B_eq, ← pow_add, hk, pow_add, pow_mul]
    have hro' : (ro + c * 2 ^ rb) / (2 ^ bits) ^ k < 2 ^ m := by
      rw [Nat.div_lt_iff_lt_mul (Nat.pow_pos (Nat.two_pow_pos _)), Nat.mul_comm (2 ^ m), ← hpow]
      rw [Nat.mul_comm c]; exact add_mul_lt hro hc
    obtain ⟨K, hK, e⟩ := ih _ m hok.tail hm hro'
    have hN : ro + 2 ^ rb * val (c :: cs) = ro + c * 2 ^ rb + (2 ^ bits) ^ k * (2 ^ m * val cs) := by
      rw [val_cons, Nat.mul_add, ← Nat.mul_assoc (2 ^ rb) B, hpow, Nat.mul_assoc, Nat.add_assoc, Nat.mul_comm c]
    refine ⟨k + K, ?_, ?_⟩
    · rw [List.length_cons, Nat.mul_succ, Nat.add_comm (BITS * _) BITS, ← Nat.add_assoc, hk, Nat.add_assoc, Nat.mul_add]
      exact Nat.add_le_add_left hK _
    · rw [inexOuter, inexInner_first h1 h8 hc hrb hro hk hm]
      dsimp only
      rw [e, hN, emitN_add_mul _ _ _ _ _ (Nat.two_pow_pos _)]

theorem toInexactBitwiseDigitsLe_spec {bits : Nat} (h1 : 1 ≤ bits) (h8 : bits ≤ 8)
    (u : List Nat) (hc : Canon u) :
    toInexactBitwiseDigitsLe u bits = .ok (Nat.digits (2 ^ bits) (val u)) := by
  obtain ⟨hr2, hr256⟩ := pow2_range h1 h8
  obtain ⟨K, hK, e⟩ := inexOuter_spec h1 h8 u 0 0 hc.1 h1 Nat.one_pos
  rw [Nat.zero_add] at hK
  rw [pow_zero, Nat.one_mul, Nat.zero_add] at e
  have hlt : val u < (2 ^ bits) ^ K := by
    refine Nat.lt_of_lt_of_le (val_lt hc.1) ?_
    rw [B_pow, ← pow_mul]
    exact Nat.pow_le_pow_right Nat.zero_lt_two hK
  unfold toInexactBitwiseDigitsLe
  rw [if_neg fun h => Nat.ne_of_gt h1 h.1, mask_eq, e, emitN_digits hr2 hr256 _ _ hlt, stripTrailingZeros_digits]

end NB.Radix
