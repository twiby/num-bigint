/- helper lemmas for NB.Model.Radix (C06): radix tables, digit emission, the output loops -/
import NB.Lemmas.Base
import NB.Model.Radix
import Mathlib.Data.Nat.Digits.Defs
namespace NB.Radix

theorem two_le_pow {r k : Nat} (h2 : 2 ≤ r) (hk : 1 ≤ k) : 2 ≤ r ^ k :=
  Nat.le_trans h2 (Nat.le_self_pow (Nat.ne_of_gt hk) r)

/-- the `checked_mul` loop keeps `base = radix ^ power ≤ max` and stops at the largest such power.
    The fuel cannot run out: `2 ^ power ≤ radix ^ power ≤ max < 2 ^ 64` bounds `power` by 63. -/
theorem radixBaseLoop_spec {max r : Nat} (h2 : 2 ≤ r) (hmax : max < B) :
    ∀ (f power : Nat), r ^ power ≤ max → 64 < f + power →
    ∃ p, radixBaseLoop max r f (r ^ power) power = (r ^ p, p) ∧ power ≤ p ∧ r ^ p ≤ max ∧ max < r ^ p * r := by
  intro f
  induction f with
  | zero =>
    intro power hle hf
    have h1 : 2 ^ 64 < 2 ^ power := Nat.pow_lt_pow_right (by decide) (Nat.zero_add power ▸ hf)
    have h3 : 2 ^ power ≤ r ^ power := Nat.pow_le_pow_left h2 power
    exact absurd (B_eq ▸ Nat.lt_of_le_of_lt (Nat.le_trans h3 hle) hmax) (Nat.lt_asymm h1)
  | succ f ih =>
    intro power hle hf
    rw [radixBaseLoop]
    by_cases hb : r ^ power * r < B
    · by_cases hm : r ^ power * r > max
      · exact ⟨power, by simp only [hb, hm, if_true], Nat.le_refl _, hle, hm⟩
      · obtain ⟨p, e, hp, h⟩ := ih (power + 1) (by rw [pow_succ]; exact Nat.not_lt.1 hm)
          (Nat.add_right_comm f 1 power ▸ hf)
        exact ⟨p, by simp only [hb, hm, if_true, if_false]; rw [← pow_succ, e], Nat.le_of_succ_le hp, h⟩
    · exact ⟨power, by simp only [hb, if_false], Nat.le_refl _, hle, Nat.lt_of_lt_of_le hmax (Nat.not_lt.1 hb)⟩

/-- every entry of `generate_radix_bases(big_digit::MAX)` for a radix that is not a power of two is
    `(radix^power, power)` with `radix^power ≤ MAX < radix^(power+1)` -/
theorem radixBaseEntry_spec {r : Nat} (h3 : 3 ≤ r) (h256 : r < 256) (hp : isPow2 r = false) :
    ∃ p, radixBaseEntry (B - 1) r = (r ^ p, p) ∧ 1 ≤ p ∧ r ^ p ≤ B - 1 ∧ B - 1 < r ^ p * r := by
  obtain ⟨p, e, h⟩ := radixBaseLoop_spec (max := B - 1) (Nat.le_trans (by decide) h3)
    (Nat.sub_lt B_pos Nat.one_pos) BITS 1 (by rw [pow_one]; exact Nat.le_trans (Nat.le_of_lt h256) (by decide))
    (by decide)
  rw [pow_one] at e
  exact ⟨p, by unfold radixBaseEntry; rw [if_pos ⟨h3, h256, by simp [hp]⟩, e], h⟩

theorem getRadixBase_ok {r : Nat} (h2 : 2 ≤ r) (h256 : r ≤ 256) (hp : isPow2 r = false) :
    ∃ base power, getRadixBase r = .ok (base, power) ∧ base = r ^ power ∧ base < B ∧ B ≤ base * r ∧ 1 ≤ power := by
  -- 2 and 256 are powers of two, so the radix is in 3..255
  have h3 : 3 ≤ r := Nat.lt_of_le_of_ne h2 (by rintro rfl; exact absurd hp (by decide))
  have hlt : r < 256 := Nat.lt_of_le_of_ne h256 (by rintro rfl; exact absurd hp (by decide))
  obtain ⟨p, e, hp1, hle, hgt⟩ := radixBaseEntry_spec h3 hlt hp
  refine ⟨r ^ p, p, ?_, rfl, Nat.lt_of_le_sub_one B_pos hle, Nat.le_of_pred_lt hgt, hp1⟩
  unfold getRadixBase
  rw [if_pos (Nat.lt_succ_of_le h256), e]

theorem log2_le_of_le {v : Nat} (h1 : 1 ≤ v) (h : v ≤ 256) : Nat.log2 v ≤ 8 :=
  Nat.le_of_lt_succ ((Nat.log2_lt (Nat.ne_of_gt h1)).2 (Nat.lt_of_le_of_lt h (by decide)))

theorem ilog2_eq {v : Nat} (h1 : 1 ≤ v) (h : v ≤ 256) : ilog2 v = Nat.log2 v := by
  unfold ilog2 fls U8
  rw [if_neg (Nat.ne_of_gt h1), Nat.add_assoc, Nat.add_mod_right,
    Nat.mod_eq_of_lt (Nat.lt_of_le_of_lt (log2_le_of_le h1 h) (by decide))]

theorem pow2_bits {r : Nat} (h2 : 2 ≤ r) (h256 : r ≤ 256) (hp : isPow2 r = true) :
    r = 2 ^ ilog2 r ∧ 1 ≤ ilog2 r ∧ ilog2 r ≤ 8 := by
  have h1 : 1 ≤ r := Nat.le_of_lt h2
  rw [ilog2_eq h1 h256]
  have hr : r = 2 ^ Nat.log2 r := by simpa [isPow2] using hp
  refine ⟨hr, Nat.pos_of_ne_zero fun h0 => ?_, log2_le_of_le h1 h256⟩
  rw [h0] at hr; exact absurd hr (Nat.ne_of_gt h2)

theorem pow2_range {bits : Nat} (h1 : 1 ≤ bits) (h8 : bits ≤ 8) : 2 ≤ 2 ^ bits ∧ 2 ^ bits ≤ 256 :=
  ⟨two_le_pow (Nat.le_refl 2) h1, Nat.pow_le_pow_right Nat.zero_lt_two h8⟩

theorem emitN_length (r k x : Nat) : (emitN r k x).length = k := by
  induction k generalizing x with
  | zero => rfl
  | succ k ih => simp [emitN, ih]

theorem emitN_lt {r : Nat} (h2 : 2 ≤ r) (k x : Nat) : ∀ d ∈ emitN r k x, d < r := by
  induction k generalizing x with
  | zero => intro d hd; cases hd
  | succ k ih =>
    intro d hd
    simp only [emitN, List.mem_cons] at hd
    rcases hd with rfl | hd
    · exact Nat.lt_of_le_of_lt (Nat.mod_le _ _) (Nat.mod_lt _ (Nat.zero_lt_two.trans_le h2))
    · exact ih _ d hd

/-- one iteration of a `push((r % radix) as u8); r /= radix` loop -/
theorem digits_eq_cons {r : Nat} (h2 : 2 ≤ r) (h256 : r ≤ 256) {x : Nat} (hx : x ≠ 0) :
    Nat.digits r x = (x % r % U8) :: Nat.digits r (x / r) := by
  -- the `as u8` truncation is the identity for radices up to 256
  have hu8 : x % r < U8 := Nat.lt_of_lt_of_le (Nat.mod_lt x (Nat.zero_lt_two.trans_le h2)) h256
  rw [Nat.mod_eq_of_lt hu8, Nat.digits_def' h2 (Nat.pos_of_ne_zero hx)]

/-- the key step of every output loop: a zero-padded chunk followed by the digits of the quotient -/
theorem digits_emitN {r : Nat} (h2 : 2 ≤ r) (h256 : r ≤ 256) :
    ∀ (k x q : Nat), x < r ^ k → 0 < q → Nat.digits r (x + r ^ k * q) = emitN r k x ++ Nat.digits r q := by
  have hr : 0 < r := Nat.zero_lt_two.trans_le h2
  intro k
  induction k with
  | zero =>
    intro x q hx _
    rw [Nat.lt_one_iff.1 hx, pow_zero, Nat.zero_add, Nat.one_mul]; rfl
  | succ k ih =>
    intro x q hx hq
    have hne : x + r * (r ^ k * q) ≠ 0 :=
      Nat.ne_of_gt (Nat.add_pos_right _ (Nat.mul_pos hr (Nat.mul_pos (Nat.pow_pos hr) hq)))
    rw [pow_succ, Nat.mul_comm (r ^ k) r] at hx ⊢
    rw [Nat.mul_assoc, digits_eq_cons h2 h256 hne, Nat.add_mul_mod_self_left, Nat.add_mul_div_left _ _ hr,
      ih (x / r) q (Nat.div_lt_of_lt_mul hx) hq]
    rfl

/-- the same step as a loop sees it: remainder and quotient by `r ^ k` -/
theorem digits_div_mod {r : Nat} (h2 : 2 ≤ r) (h256 : r ≤ 256) {k x : Nat} (h : r ^ k ≤ x) :
    Nat.digits r x = emitN r k (x % r ^ k) ++ Nat.digits r (x / r ^ k) := by
  have hpos : 0 < r ^ k := Nat.pow_pos (Nat.zero_lt_two.trans_le h2)
  conv_lhs => rw [← Nat.mod_add_div x (r ^ k)]
  exact digits_emitN h2 h256 k _ _ (Nat.mod_lt _ hpos) (Nat.div_pos h hpos)

theorem emitN_mod (r k x : Nat) : emitN r k (x % r ^ k) = emitN r k x := by
  induction k generalizing x with
  | zero => rfl
  | succ k ih =>
    have h1 : x % r ^ (k + 1) % r = x % r :=
      Nat.mod_mod_of_dvd x (Dvd.intro_left (r ^ k) rfl)
    have h2 : x % r ^ (k + 1) / r = x / r % r ^ k := by
      rw [pow_succ, Nat.mul_comm]; exact Nat.mod_mul_right_div_self x r (r ^ k)
    simp only [emitN, h1, h2, ih]

theorem emitN_add (r a b x : Nat) : emitN r (a + b) x = emitN r a x ++ emitN r b (x / r ^ a) := by
  induction a generalizing x with
  | zero => simp [emitN]
  | succ a ih =>
    rw [Nat.add_right_comm]
    simp only [emitN, List.cons_append, ih]
    rw [Nat.div_div_eq_div_mul, pow_succ, Nat.mul_comm]

theorem emitChunks_eq (r power : Nat) : ∀ (k x : Nat),
    emitChunks r power (r ^ power) k x = emitN r (k * power) x := by
  intro k
  induction k with
  | zero => intro x; rw [Nat.zero_mul]; rfl
  | succ k ih =>
    intro x
    rw [Nat.succ_mul, Nat.add_comm (k * power), emitN_add, ← ih, ← emitN_mod]
    rfl

theorem lastDigits_spec {r : Nat} (h2 : 2 ≤ r) (h256 : r ≤ 256) (x : Nat) :
    lastDigits r x = .ok (Nat.digits r x) := by
  induction x using Nat.strong_induction_on with
  | _ x ih =>
    rw [lastDigits]
    by_cases hx : x = 0
    · rw [dif_pos hx, hx, Nat.digits_zero]
    · rw [dif_neg hx, dif_neg (Nat.ne_of_gt (Nat.lt_of_lt_of_le Nat.zero_lt_two h2)), dif_neg (Nat.ne_of_gt h2),
        ih _ (Nat.div_lt_self (Nat.pos_of_ne_zero hx) h2), digits_eq_cons h2 h256 hx]

theorem slowLoop_spec {r power base : Nat} (h2 : 2 ≤ r) (h256 : r ≤ 256) (hb : base = r ^ power)
    (hbB : base < B) (hp : 1 ≤ power) (x : Nat) (hx : x ≠ 0) :
    slowLoop r power base x = .ok (Nat.digits r x) := by
  subst hb
  have hb2 := two_le_pow h2 hp
  have hb0 : 0 < r ^ power := Nat.lt_of_lt_of_le Nat.zero_lt_two hb2
  induction x using Nat.strong_induction_on with
  | _ x ih =>
    rw [slowLoop]
    by_cases hB : B ≤ x
    · have hle : r ^ power ≤ x := Nat.le_trans (Nat.le_of_lt hbB) hB
      rw [dif_pos hB, dif_neg (Nat.ne_of_gt hb0), dif_neg (Nat.ne_of_gt hb2),
        ih _ (Nat.div_lt_self (Nat.pos_of_ne_zero hx) hb2) (Nat.ne_of_gt (Nat.div_pos hle hb0)),
        digits_div_mod h2 h256 hle]
    · rw [dif_neg hB, if_neg hx]
      exact lastDigits_spec h2 h256 x

theorem bigLoop_spec {r power base bigBase bigPower : Nat} (h2 : 2 ≤ r) (h256 : r ≤ 256)
    (hb : base = r ^ power) (hbB : base < B) (hp : 1 ≤ power)
    (hbb : bigBase = base ^ bigPower) (hbp : 1 ≤ bigPower) (x : Nat) (hx : x ≠ 0) :
    bigLoop r power base bigBase bigPower x = .ok (Nat.digits r x) := by
  have hbbr : bigBase = r ^ (bigPower * power) := by rw [hbb, hb, ← pow_mul, Nat.mul_comm]
  have hb2 : 2 ≤ base := hb ▸ two_le_pow h2 hp
  have hbb2 : 2 ≤ bigBase := hbb ▸ two_le_pow hb2 hbp
  have hbb0 : 0 < bigBase := Nat.lt_of_lt_of_le Nat.zero_lt_two hbb2
  induction x using Nat.strong_induction_on with
  | _ x ih =>
    rw [bigLoop]
    by_cases hlt : bigBase < x
    · rw [dif_pos hlt, dif_neg (Nat.ne_of_gt hbb0), dif_neg (Nat.ne_of_gt hbb2),
        if_neg (Nat.ne_of_gt (Nat.lt_of_lt_of_le Nat.zero_lt_two hb2)),
        ih _ (Nat.div_lt_self (Nat.pos_of_ne_zero hx) hbb2) (Nat.ne_of_gt (Nat.div_pos (Nat.le_of_lt hlt) hbb0)),
        hb, emitChunks_eq, hbbr,
        digits_div_mod h2 h256 (x := x) (hbbr ▸ Nat.le_of_lt hlt)]
    · rw [dif_neg hlt]
      exact slowLoop_spec h2 h256 hb hbB hp x hx

theorem nlimbs_le_iff (n k : Nat) : nlimbs n ≤ k ↔ n < B ^ k := by
  rw [nlimbs, canon_length_le_iff (ofNat_canon n), ofNat_val]

/-- `digits.data.len() > 1` is `B ≤ digits` -/
theorem nlimbs_gt_one_iff (n : Nat) : 1 < nlimbs n ↔ B ≤ n := by
  have := nlimbs_le_iff n 1
  rw [pow_one] at this
  omega

/-- squaring a value of at least half a limb's width adds a limb: with `L = nlimbs b`, `B ^ (L-1) ≤ b`
    gives `B ^ (2L-2) ≤ b²`, and `L ≤ 2L-2` unless `L ≤ 1`, where the hypothesis does it -/
theorem nlimbs_sq {b : Nat} (h : B ≤ b * b) : nlimbs b + 1 ≤ nlimbs (b * b) := by
  refine Nat.lt_of_not_le fun hc => ?_
  have h1 : b * b < B ^ nlimbs b := (nlimbs_le_iff _ _).1 hc
  rcases Nat.lt_or_ge (nlimbs b) 2 with hL | hL
  · exact Nat.lt_irrefl _ (Nat.lt_of_lt_of_le h1
      (Nat.le_trans (Nat.pow_le_pow_right B_pos (Nat.le_of_lt_succ hL)) (by rw [pow_one]; exact h)))
  · obtain ⟨L, hL'⟩ := Nat.exists_eq_add_of_le' hL
    have hge : B ^ (L + 1) ≤ b := Nat.le_of_not_lt fun hlt => by
      have := (nlimbs_le_iff b (L + 1)).2 hlt
      rw [hL'] at this
      exact Nat.not_succ_le_self (L + 1) this
    have h2 := Nat.mul_le_mul hge hge
    rw [← pow_add] at h2
    rw [hL'] at h1
    exact Nat.lt_irrefl _ (Nat.lt_of_lt_of_le h1 (Nat.le_trans
      (Nat.pow_le_pow_right B_pos (Nat.add_le_add_left (Nat.le_add_left 1 L) (L + 1))) h2))

/-- the squaring loop stops with `bb ^ 2 ^ j` before the fuel runs out: every squaring adds a limb (`nlimbs_sq`), so
    `fuel + nlimbs bb` never decreases and `t ≤ fuel + nlimbs bb` keeps the target length within reach -/
theorem squareLoop_spec (t : Nat) : ∀ (fuel bb bp : Nat), B ≤ bb * bb → t ≤ fuel + nlimbs bb →
    ∃ j, squareLoop t fuel bb bp = .ok (bb ^ (2 ^ j), bp * 2 ^ j) := by
  have stop : ∀ fuel bb bp, ¬ nlimbs bb < t → ∃ j, squareLoop t fuel bb bp = .ok (bb ^ (2 ^ j), bp * 2 ^ j) := by
    intro fuel bb bp h
    refine ⟨0, ?_⟩
    unfold squareLoop
    rw [if_neg h, pow_zero, pow_one, Nat.mul_one]
  intro fuel
  induction fuel with
  | zero => intro bb bp _ ht; exact stop 0 bb bp (Nat.not_lt.2 (by rwa [Nat.zero_add] at ht))
  | succ f ih =>
    intro bb bp hB ht
    by_cases hlt : nlimbs bb < t
    · have hsq := nlimbs_sq hB
      have hB' : B ≤ bb * bb * (bb * bb) :=
        Nat.le_trans hB (Nat.le_mul_of_pos_right _ (Nat.lt_of_lt_of_le B_pos hB))
      obtain ⟨j, hj⟩ := ih (bb * bb) (bp * 2) hB'
        (Nat.le_trans ht (by rw [Nat.add_assoc, Nat.add_comm 1]; exact Nat.add_le_add_left hsq f))
      refine ⟨j + 1, ?_⟩
      unfold squareLoop
      rw [if_pos hlt]
      show squareLoop t f (bb * bb) (bp * 2) = _
      rw [hj, ← pow_two, ← pow_mul, ← pow_succ', Nat.mul_assoc, ← pow_succ']
    · exact stop _ bb bp hlt

/-- the squaring loop started from a table entry, with the fuel `to_radix_digits_le` passes:
    `base * radix > MAX` and `radix ≤ base` give `B ≤ base²` -/
theorem squareLoop_base {r power base : Nat} (hb : base = r ^ power) (hBr : B ≤ base * r) (hp : 1 ≤ power)
    (t : Nat) : ∃ j, squareLoop t (BITS * t + 1) base 1 = .ok (base ^ 2 ^ j, 2 ^ j) := by
  have hr : r ≤ base := hb ▸ Nat.le_self_pow (Nat.ne_of_gt hp) r
  obtain ⟨j, hj⟩ := squareLoop_spec t (BITS * t + 1) base 1 (Nat.le_trans hBr (Nat.mul_le_mul_left _ hr))
    (Nat.le_trans (Nat.le_mul_of_pos_left t (by decide)) (Nat.le_trans (Nat.le_add_right _ 1) (Nat.le_add_right _ _)))
  exact ⟨j, by rw [hj, Nat.one_mul]⟩

theorem toRadixDigitsLe_spec (P : Params) {r : Nat} (h2 : 2 ≤ r) (h256 : r ≤ 256) (hp : isPow2 r = false)
    (u : List Nat) (hu : val u ≠ 0) :
    toRadixDigitsLe P u r = .ok (Nat.digits r (val u)) := by
  obtain ⟨base, power, hg, hb, hbB, hBr, hpw⟩ := getRadixBase_ok h2 h256 hp
  unfold toRadixDigitsLe
  rw [hg]
  dsimp only
  split
  · obtain ⟨j, hj⟩ := squareLoop_base hb hBr hpw (Nat.sqrt u.length)
    rw [hj]
    exact bigLoop_spec h2 h256 hb hbB hpw rfl Nat.one_le_two_pow _ hu
  · exact slowLoop_spec h2 h256 hb hbB hpw _ hu

theorem mask_eq (bits : Nat) : (1 <<< bits) - 1 = 2 ^ bits - 1 := by
  rw [Nat.shiftLeft_eq, Nat.one_mul]

theorem emitBits_eq (bits : Nat) : ∀ (n x : Nat),
    emitBits bits (2 ^ bits - 1) n x = emitN (2 ^ bits) n x := by
  intro n
  induction n with
  | zero => intro x; rfl
  | succ n ih =>
    intro x
    simp only [emitBits, emitN, ih, Nat.and_two_pow_sub_one_eq_mod, Nat.shiftRight_eq_div_pow]

theorem lastBits_spec {bits : Nat} (h1 : 1 ≤ bits) (h8 : bits ≤ 8) (x : Nat) :
    lastBits bits ((1 <<< bits) - 1) x = .ok (Nat.digits (2 ^ bits) x) := by
  obtain ⟨hr2, hr256⟩ := pow2_range h1 h8
  induction x using Nat.strong_induction_on with
  | _ x ih =>
    rw [lastBits]
    by_cases hx : x = 0
    · rw [dif_pos hx, hx, Nat.digits_zero]
    · rw [dif_neg hx, dif_neg (Nat.ne_of_gt h1), Nat.shiftRight_eq_div_pow,
        ih _ (Nat.div_lt_self (Nat.pos_of_ne_zero hx) hr2),
        mask_eq, Nat.and_two_pow_sub_one_eq_mod, digits_eq_cons hr2 hr256 hx]

theorem bitwiseLoop_spec {bits dpb : Nat} (h1 : 1 ≤ bits) (h8 : bits ≤ 8) (hB : B = (2 ^ bits) ^ dpb) :
    ∀ (u : List Nat), Canon u → u ≠ [] →
    bitwiseLoop bits ((1 <<< bits) - 1) dpb u = .ok (Nat.digits (2 ^ bits) (val u)) := by
  obtain ⟨hr2, hr256⟩ := pow2_range h1 h8
  intro u
  induction u with
  | nil => intro _ h; exact absurd rfl h
  | cons d ds ih =>
    intro hc _
    cases ds with
    | nil =>
      simp only [bitwiseLoop, val, Nat.mul_zero, Nat.add_zero]
      exact lastBits_spec h1 h8 d
    | cons e es =>
      have hct := canon_tail hc
      have hne : (e :: es) ≠ [] := List.cons_ne_nil _ _
      have hd : d < (2 ^ bits) ^ dpb := hB ▸ hc.1 d (List.mem_cons_self ..)
      rw [bitwiseLoop, ih hct hne, mask_eq, emitBits_eq, val_cons d (e :: es), hB,
        digits_emitN hr2 hr256 dpb d _ hd (canon_val_pos hct hne)]
      exact List.cons_ne_nil _ _

theorem toBitwiseDigitsLe_spec {bits : Nat} (h1 : 1 ≤ bits) (h8 : bits ≤ 8) (hdiv : BITS % bits = 0)
    (u : List Nat) (hc : Canon u) (hne : u ≠ []) :
    toBitwiseDigitsLe u bits = .ok (Nat.digits (2 ^ bits) (val u)) := by
  unfold toBitwiseDigitsLe
  rw [if_neg (Nat.ne_of_gt h1)]
  apply bitwiseLoop_spec h1 h8 _ u hc hne
  rw [← pow_mul, Nat.mul_div_cancel' (Nat.dvd_of_mod_eq_zero hdiv)]
  rfl

end NB.Radix
