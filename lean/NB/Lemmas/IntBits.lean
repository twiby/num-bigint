/- two's complement bit theory on Int (Mathlib's Int.land/lor/xor): extensionality, block decomposition, units -/
import NB.Lemmas.Bits
namespace NB.C07

theorem int_eq_of_testBit_eq {x y : Int} (h : ∀ i, x.testBit i = y.testBit i) : x = y := by
  -- a non-negative and a negative number differ at every bit above both magnitudes
  have key : ∀ m n : Nat, (∀ i, m.testBit i = !n.testBit i) → False := by
    intro m n hmn
    have := hmn (max m n)
    rw [Nat.testBit_lt_two_pow (Nat.lt_of_le_of_lt (Nat.le_max_left m n) Nat.lt_two_pow_self),
      Nat.testBit_lt_two_pow (Nat.lt_of_le_of_lt (Nat.le_max_right m n) Nat.lt_two_pow_self)] at this
    cases this
  cases x with
  | ofNat m =>
    cases y with
    | ofNat n => exact congrArg Int.ofNat (Nat.eq_of_testBit_eq h)
    | negSucc n => exact (key m n h).elim
  | negSucc m =>
    cases y with
    | ofNat n => exact (key n m fun i => (h i).symm).elim
    | negSucc n => exact congrArg Int.negSucc (Nat.eq_of_testBit_eq fun i => Bool.not_inj (h i))

theorem natCast_add_mul_negSucc {P d : Nat} (n : Nat) (hd : d < P) :
    (d : Int) + P * Int.negSucc n = Int.negSucc ((P - (d + 1)) + P * n) := by
  -- `P * (n + 1) = (M + d) + 1` for the magnitude `M` on the right, and `d - (M + d + 1) = -(M + 1)`
  have hK : P * (n + 1) = (P - (d + 1) + P * n + d) + 1 := by
    rw [Nat.mul_succ, Nat.add_assoc _ d 1, Nat.add_right_comm, Nat.sub_add_cancel hd, Nat.add_comm P]
  rw [Int.ofNat_mul_negSucc, hK]
  exact (Int.ofNat_add_negSucc_of_lt (Nat.lt_succ_of_le (Nat.le_add_left _ _))).trans
    (by rw [Nat.add_sub_cancel])

theorem int_testBit_block {k d : Nat} (x : Int) (hd : d < 2 ^ k) (j : Nat) :
    ((d : Int) + 2 ^ k * x).testBit j = if j < k then d.testBit j else x.testBit (j - k) := by
  rw [show (2 : Int) ^ k = ((2 ^ k : Nat) : Int) from (Int.natCast_pow 2 k).symm]
  cases x with
  | ofNat n => exact testBit_block n hd j
  | negSucc n =>
    -- the magnitude of the negative number has the complemented block `2^k - 1 - d`
    rw [natCast_add_mul_negSucc n hd]
    show (!(2 ^ k - (d + 1) + 2 ^ k * n).testBit j) = _
    rw [testBit_block n (Nat.sub_lt (Nat.pow_pos Nat.two_pos) (Nat.succ_pos d)),
      Nat.testBit_two_pow_sub_succ hd]
    by_cases hj : j < k
    · rw [if_pos hj, if_pos hj, decide_eq_true hj, Bool.true_and, Bool.not_not]
    · rw [if_neg hj, if_neg hj]; rfl

theorem int_block_of_testBit {f : Nat → Nat → Nat} {F : Int → Int → Int} {g : Bool → Bool → Bool}
    (hf : DigitOp f) (hfg : ∀ x y j, (f x y).testBit j = g (x.testBit j) (y.testBit j))
    (hFg : ∀ x y j, (F x y).testBit j = g (x.testBit j) (y.testBit j))
    {k d e : Nat} (x y : Int) (hd : d < 2 ^ k) (he : e < 2 ^ k) :
    F ((d : Int) + 2 ^ k * x) ((e : Int) + 2 ^ k * y) = ((f d e : Nat) : Int) + 2 ^ k * F x y := by
  apply int_eq_of_testBit_eq; intro j
  rw [hFg, int_testBit_block x hd, int_testBit_block y he, int_testBit_block _ (hf.lt hd he)]
  split
  · rw [hfg]
  · rw [hFg]

theorem int_testBit_neg_one (j : Nat) : (-1 : Int).testBit j = true := by
  show (!Nat.testBit 0 j) = true
  rw [Nat.zero_testBit]; rfl

theorem int_testBit_zero (j : Nat) : (0 : Int).testBit j = false := by
  exact Nat.zero_testBit j

theorem int_neg_one_land (x : Int) : Int.land (-1) x = x := by
  apply int_eq_of_testBit_eq; intro j; rw [Int.testBit_land, int_testBit_neg_one, Bool.true_and]
theorem int_land_zero (x : Int) : Int.land x 0 = 0 := by
  apply int_eq_of_testBit_eq; intro j; rw [Int.testBit_land, int_testBit_zero, Bool.and_false]
theorem int_zero_land (x : Int) : Int.land 0 x = 0 := by
  apply int_eq_of_testBit_eq; intro j; rw [Int.testBit_land, int_testBit_zero, Bool.false_and]
theorem int_neg_one_lor (x : Int) : Int.lor (-1) x = -1 := by
  apply int_eq_of_testBit_eq; intro j; rw [Int.testBit_lor, int_testBit_neg_one, Bool.true_or]
theorem int_lor_zero (x : Int) : Int.lor x 0 = x := by
  apply int_eq_of_testBit_eq; intro j; rw [Int.testBit_lor, int_testBit_zero, Bool.or_false]
theorem int_zero_lor (x : Int) : Int.lor 0 x = x := by
  apply int_eq_of_testBit_eq; intro j; rw [Int.testBit_lor, int_testBit_zero, Bool.false_or]
theorem int_xor_zero (x : Int) : Int.xor x 0 = x := by
  apply int_eq_of_testBit_eq; intro j; rw [Int.testBit_lxor, int_testBit_zero, Bool.xor_false]
theorem int_zero_xor (x : Int) : Int.xor 0 x = x := by
  apply int_eq_of_testBit_eq; intro j; rw [Int.testBit_lxor, int_testBit_zero, Bool.false_xor]
theorem int_testBit_compl (x : Int) (j : Nat) : (-x - 1).testBit j = !x.testBit j := by
  have : -x - 1 = Int.lnot x := by
    cases x with
    | ofNat n => show -(n : Int) - 1 = Int.negSucc n; rw [Int.negSucc_eq, Int.neg_add]; rfl
    | negSucc n => show -Int.negSucc n - 1 = (n : Int); rw [Int.neg_negSucc, Int.natCast_succ, Int.add_sub_cancel]
  rw [this, Int.testBit_lnot]
theorem int_neg_one_xor (x : Int) : Int.xor (-1) x = -x - 1 := by
  apply int_eq_of_testBit_eq; intro j
  rw [Int.testBit_lxor, int_testBit_neg_one, int_testBit_compl, Bool.true_xor]

theorem int_land_comm (x y : Int) : Int.land x y = Int.land y x := by
  apply int_eq_of_testBit_eq; intro j; rw [Int.testBit_land, Int.testBit_land, Bool.and_comm]
theorem int_lor_comm (x y : Int) : Int.lor x y = Int.lor y x := by
  apply int_eq_of_testBit_eq; intro j; rw [Int.testBit_lor, Int.testBit_lor, Bool.or_comm]
theorem int_xor_comm (x y : Int) : Int.xor x y = Int.xor y x := by
  apply int_eq_of_testBit_eq; intro j; rw [Int.testBit_lxor, Int.testBit_lxor, Bool.xor_comm]

theorem neg_succ_cast (n : Nat) : -((n + 1 : Nat) : Int) = Int.negSucc n := by
  rw [Int.negSucc_eq]; push_cast; rfl

end NB.C07
