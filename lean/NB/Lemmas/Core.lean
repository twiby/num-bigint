/- helper lemmas for NB.Model.Core (properties C04 / C19): u32 word packing, constructors,
   the BigInt `+=` / `-=` forms, and the soundness of every operation of the history machine
   (`uOps` / `iOps`) over the operation theorems of C01 / C02 / C03 / C07 -/
import NB.Model.Core
import NB.Lemmas.DigitOps
namespace NB.Core

theorem B_eq_B32_sq : B = B32 * B32 := by decide

theorem or_shift_eq {lo : Nat} (hi : Nat) (h : lo < B32) : lo ||| (hi <<< u32Bits) = lo + B32 * hi := by
  rw [Nat.shiftLeft_eq, Nat.mul_comm]
  exact or_eq_add_of_lt (k := 32) hi h

theorem WordsOk.nil : WordsOk [] := by intro w h; cases h
theorem WordsOk.head {w : Nat} {ws : List Nat} (h : WordsOk (w :: ws)) : w < B32 := h w (by simp)
theorem WordsOk.tail {w : Nat} {ws : List Nat} (h : WordsOk (w :: ws)) : WordsOk ws :=
  fun x hx => h x (List.mem_cons_of_mem _ hx)

/-- packing u32 words into u64 digits keeps the value and yields proper digits -/
theorem chunks_spec : ∀ (ws : List Nat), WordsOk ws →
    val ((chunks2 ws).map u32ChunkToU64) = val32 ws ∧ DigitsOk ((chunks2 ws).map u32ChunkToU64)
  | [], _ => ⟨rfl, DigitsOk.nil⟩
  | [a], h => ⟨by simp [chunks2, u32ChunkToU64, val, val32],
      DigitsOk.cons (Nat.lt_trans h.head (by decide)) DigitsOk.nil⟩
  | a :: b :: t, h => by
    obtain ⟨ih1, ih2⟩ := chunks_spec t h.tail.tail
    have hd : a + B32 * b < B :=
      calc a + B32 * b < B32 * (b + 1) := by rw [Nat.mul_succ, Nat.add_comm]; exact Nat.add_lt_add_left h.head _
        _ ≤ B := B_eq_B32_sq ▸ Nat.mul_le_mul_left _ h.tail.head
    simp only [chunks2, List.map_cons, u32ChunkToU64, val, val32]
    rw [or_shift_eq b h.head, ih1]
    exact ⟨by rw [B_eq_B32_sq]; ring, DigitsOk.cons hd ih2⟩

theorem assignFromSlice_eq (old ws : List Nat) (h : WordsOk ws) :
    BigUint.assignFromSlice old ws = ofNat (val32 ws) := by
  obtain ⟨h1, h2⟩ := chunks_spec ws h
  unfold BigUint.assignFromSlice
  rw [normalize_eq_ofNat h2, h1]

theorem ofNat_one : ofNat 1 = [1] := NB.ofNat_one

theorem isZero_iff (a : List Nat) : BigUint.isZero a = true ↔ a = [] := by
  unfold BigUint.isZero; exact List.isEmpty_iff

theorem canon_eq_nil_iff {a : List Nat} (h : Canon a) : a = [] ↔ val a = 0 :=
  ⟨fun e => by subst e; rfl, canon_val_zero h⟩

theorem Sign.toInt_neg (s : Sign) : Sign.toInt s.neg = - Sign.toInt s := by cases s <;> rfl

theorem bigint_val_eq (x : BigInt) : x.val = Sign.toInt x.sign * (val x.mag : Int) := by
  rcases x with ⟨s, m⟩
  cases s <;> simp [BigInt.val, Sign.toInt]

/-- `from_biguint` on an ARBITRARY sign request (also inconsistent with the magnitude) yields the
    canonical BigInt of `sign * magnitude` -/
theorem fromBiguint_eq (s : Sign) {m : List Nat} (h : NB.Canon m) :
    BigInt.fromBiguint s m = BigInt.ofInt (Sign.toInt s * (val m : Int)) := by
  rw [fromBiguint_eq_ofInt s h, bigint_val_eq]

theorem bigint_negVal_eq {x : BigInt} (h : x.Canon) : BigInt.negVal x = BigInt.ofInt (- x.val) := by
  have hc : (BigInt.negVal x).Canon := by
    obtain ⟨h1, h2⟩ := h
    refine ⟨h1, ?_⟩
    rcases x with ⟨s, m⟩
    cases s <;> simpa [BigInt.negVal, Sign.neg] using h2
  rw [bigint_canon_eq_ofInt hc]; congr 1
  rcases x with ⟨s, m⟩
  cases s <;> simp [BigInt.negVal, Sign.neg, BigInt.val]

/-- the magnitude-difference arm with the signs it is called with: `s · (|a| − |b|)` -/
theorem subMagValRef_spec (P : Params) (s : Sign) (ma mb : List Nat) (hca : Canon ma) (hcb : Canon mb) :
    BigInt.subMagValRef P s.neg s ma mb = .ok (BigInt.ofInt (Sign.toInt s * ((val ma : Int) - val mb))) := by
  unfold BigInt.subMagValRef
  rw [cmpSlice_spec hca hcb]
  rcases Nat.lt_trichotomy (val ma) (val mb) with h | h | h
  · rw [Nat.compare_eq_lt.mpr h, subRefVal_spec P mb ma hcb hca, if_neg (Nat.not_lt.mpr h.le)]
    show Except.ok (BigInt.fromBiguint s.neg _) = _
    rw [fromBiguint_eq s.neg (ofNat_canon _), ofNat_val, Sign.toInt_neg, Nat.cast_sub h.le]
    congr 2; ring
  · rw [Nat.compare_eq_eq.mpr h, h, Int.sub_self, Int.mul_zero, ofInt_zero]; rfl
  · rw [Nat.compare_eq_gt.mpr h, subAssign_spec P ma mb hca hcb, if_neg (Nat.not_lt.mpr h.le)]
    show Except.ok (BigInt.fromBiguint s _) = _
    rw [fromBiguint_eq s (ofNat_canon _), ofNat_val, Nat.cast_sub h.le]

/-- `a += &b` on BigInt: exact for all nine sign pairs, canonical, never panics -/
theorem bigint_addAssign_spec (P : Params) (a b : BigInt) (ha : a.Canon) (hb : b.Canon) :
    BigInt.addAssign P a b = .ok (BigInt.ofInt (a.val + b.val)) := by
  obtain ⟨sa, ma⟩ := a
  obtain ⟨sb, mb⟩ := b
  have hA := bigint_canon_eq_ofInt ha
  have hB := bigint_canon_eq_ofInt hb
  have hsum := addAssign_spec P ma mb ha.1 hb.1
  have hdiff := fun s => subMagValRef_spec P s ma mb ha.1 hb.1
  cases sa <;> cases sb <;>
    simp only [BigInt.addAssign, BigInt.clone, BigUint.clone, BigInt.val, Int.add_zero, Int.zero_add]
  · rw [hsum]; exact ok_from_minus (ofNat_canon _) (by rw [ofNat_val, Int.natCast_add, Int.neg_add])
  · exact congrArg _ hA
  · refine (hdiff .minus).trans ?_; rw [Sign.toInt, Int.neg_one_mul, Int.neg_sub, Int.sub_eq_add_neg, Int.add_comm]
  · exact congrArg _ hB
  · exact congrArg _ hA
  · exact congrArg _ hB
  · refine (hdiff .plus).trans ?_; rw [Sign.toInt, Int.one_mul, Int.sub_eq_add_neg]
  · exact congrArg _ hA
  · rw [hsum]; exact ok_from_plus (ofNat_canon _) (by rw [ofNat_val, Int.natCast_add])

/-- `a -= &b` on BigInt is `a += &(-b)`, already on the representation -/
theorem bigint_subAssign_spec (P : Params) (a b : BigInt) (ha : a.Canon) (hb : b.Canon) :
    BigInt.subAssign P a b = .ok (BigInt.ofInt (a.val - b.val)) := by
  have e : BigInt.subAssign P a b = BigInt.addAssign P a (BigInt.negVal b) := by
    rcases a with ⟨sa, ma⟩
    rcases b with ⟨sb, mb⟩
    cases sa <;> cases sb <;> rfl
  rw [e, bigint_negVal_eq hb, bigint_addAssign_spec P a _ ha (bigint_ofInt_canon _), bigint_ofInt_val,
    Int.sub_eq_add_neg]

theorem validMulB_iff (P : Params) : validMulB P = true ↔ P.ValidMul := by
  unfold validMulB Params.ValidMul
  rw [decide_eq_true_eq]

theorem natLdiff_eq : natLdiff = Nat.ldiff := rfl
theorem intLand_eq (x y : Int) : intLand x y = Int.land x y := by cases x <;> cases y <;> rfl
theorem intLor_eq (x y : Int) : intLor x y = Int.lor x y := by cases x <;> cases y <;> rfl
theorem intXor_eq (x y : Int) : intXor x y = Int.xor x y := by cases x <;> cases y <;> rfl
theorem intLdiff_eq (x y : Int) : intLdiff x y = Int.ldiff x y := by cases x <;> cases y <;> rfl

theorem immU64_cases {imm : List Nat} (h : immU64 imm = true) : ∃ k, imm = [k] ∧ k < B :=
  match imm, h with
  | [k], h => ⟨k, rfl, of_decide_eq_true h⟩

theorem immU128_cases {imm : List Nat} (h : immU128 imm = true) : ∃ lo hi, imm = [lo, hi] ∧ lo < B ∧ hi < B :=
  match imm, h with
  | [lo, hi], h =>
    have ⟨h1, h2⟩ := Bool.and_eq_true_iff.mp h
    ⟨lo, hi, rfl, of_decide_eq_true h1, of_decide_eq_true h2⟩

theorem immI128_elim {n lo hi : Nat} (h : immI128 [n, lo, hi] = true) :
    lo < B ∧ hi < B ∧ ((n == 1) = true → 1 ≤ lo + B * hi) := by
  simp only [immI128, Bool.and_eq_true, Bool.or_eq_true, decide_eq_true_eq, beq_iff_eq] at h ⊢
  obtain ⟨⟨hlo, hhi⟩, hpos | ⟨⟨_, hge⟩, _⟩⟩ := h
  · exact ⟨hlo, hhi, fun hn => absurd hn (by omega)⟩
  · exact ⟨hlo, hhi, fun _ => hge⟩

/-- `a *= s as u128` for every `s < 2^128`: also when `a` is zero and `s` needs two digits -/
theorem mulAssignU128_spec (P : Params) (hP : P.ValidMul) (a : List Nat) (ha : Canon a) (lo hi : Nat)
    (hlo : lo < B) (hhi : hi < B) :
    BigUint.mulAssignU128 P a (lo + B * hi) = .ok (ofNat (val a * (lo + B * hi))) := by
  unfold BigUint.mulAssignU128
  by_cases hs : lo + B * hi < B
  · rw [if_pos hs, scalar_mul_val a _ ha hs]
  · rw [if_neg hs]
    have h1 : (lo + B * hi) % B = lo := by rw [Nat.add_mul_mod_self_left]; exact Nat.mod_eq_of_lt hlo
    have h2 : (lo + B * hi) / B = hi := by
      rw [Nat.add_mul_div_left _ _ B_pos, Nat.div_eq_of_lt hlo, Nat.zero_add]
    rw [h1, h2, mul3_spec P hP a [lo, hi] ha.1 (DigitsOk.cons hlo (DigitsOk.cons hhi DigitsOk.nil))]
    simp [val]

theorem signed_ofNat (s : Sign) (n : Nat) (h : s = .nosign ↔ n = 0) :
    (⟨s, ofNat n⟩ : BigInt) = BigInt.ofInt (Sign.toInt s * (n : Int)) := by
  have hc : (⟨s, ofNat n⟩ : BigInt).Canon := ⟨ofNat_canon n, h.trans (ofNat_eq_nil_iff n).symm⟩
  refine (bigint_canon_eq_ofInt hc).trans (congrArg _ ((bigint_val_eq _).trans ?_))
  show Sign.toInt s * (val (ofNat n) : Int) = _
  rw [ofNat_val]

theorem canon_sign_mag_zero {x : BigInt} (hx : x.Canon) : x.sign = .nosign ↔ val x.mag = 0 := by
  rw [hx.2]; exact canon_eq_nil_iff hx.1

/-- `if self.data.is_zero() { self.sign = NoSign }` after the magnitude has been computed -/
theorem normSign_ofNat (s : Sign) (n : Nat) (h : s = .nosign → n = 0) :
    (⟨if BigUint.isZero (ofNat n) then .nosign else s, ofNat n⟩ : BigInt) = BigInt.ofInt (Sign.toInt s * (n : Int)) := by
  by_cases hn : n = 0
  · rw [hn, Int.natCast_zero, Int.mul_zero, ofInt_zero, ofNat_zero]; rfl
  · rw [if_neg (mt ((isZero_iff _).trans (ofNat_eq_nil_iff _)).mp hn), signed_ofNat s n ⟨h, fun e => absurd e hn⟩]

theorem bigint_mulAssignU128_spec (P : Params) (hP : P.ValidMul) (x : BigInt) (hx : x.Canon) (lo hi : Nat)
    (hlo : lo < B) (hhi : hi < B) :
    BigInt.mulAssignU128 P x (lo + B * hi) = .ok (BigInt.ofInt (x.val * ((lo + B * hi : Nat) : Int))) := by
  unfold BigInt.mulAssignU128
  rw [mulAssignU128_spec P hP x.mag hx.1 lo hi hlo hhi, bigint_val_eq x, Int.mul_assoc, ← Int.natCast_mul]
  exact congrArg _ (normSign_ofNat x.sign _ fun h => by rw [(canon_sign_mag_zero hx).mp h, Nat.zero_mul])

theorem Sign.neg_eq_nosign {s : Sign} : s.neg = .nosign ↔ s = .nosign := by cases s <;> decide

theorem bigint_mulAssignI128_spec (P : Params) (hP : P.ValidMul) (x : BigInt) (hx : x.Canon) (neg : Bool) (lo hi : Nat)
    (hlo : lo < B) (hhi : hi < B) (hpos : neg = true → 1 ≤ lo + B * hi) :
    BigInt.mulAssignI128 P x neg (lo + B * hi) =
      .ok (BigInt.ofInt (x.val * (if neg then -((lo + B * hi : Nat) : Int) else ((lo + B * hi : Nat) : Int)))) := by
  unfold BigInt.mulAssignI128
  cases neg with
  | false => simp only [Bool.false_eq_true, if_false]; exact bigint_mulAssignU128_spec P hP x hx lo hi hlo hhi
  | true =>
    have hu := hpos rfl
    simp only [if_true]
    rw [mulAssignU128_spec P hP x.mag hx.1 lo hi hlo hhi, bigint_val_eq x, Int.mul_neg, Int.mul_assoc, ← Int.neg_mul,
      ← Int.natCast_mul, ← Sign.toInt_neg]
    generalize lo + B * hi = s at hu ⊢
    -- the factor is non-zero, so the product vanishes exactly when `x` does
    exact congrArg _ (signed_ofNat x.sign.neg _ ((Sign.neg_eq_nosign.trans (canon_sign_mag_zero hx)).trans
      ⟨fun h => by rw [h, Nat.zero_mul], fun h => (Nat.mul_eq_zero.mp h).resolve_right (Nat.ne_of_gt hu)⟩))

theorem bigint_assignFromSlice_eq (x : BigInt) (s : Sign) (ws : List Nat) (h : WordsOk ws) :
    BigInt.assignFromSlice x s ws = BigInt.ofInt (Sign.toInt s * (val32 ws : Int)) := by
  unfold BigInt.assignFromSlice
  by_cases hs : s = .nosign
  · rw [if_pos hs, hs, Sign.toInt, Int.zero_mul, ofInt_zero]; rfl
  · rw [if_neg hs, assignFromSlice_eq _ ws h]
    exact normSign_ofNat s _ fun e => absurd e hs

/-- soundness of an operation at one point: the step returns the canonical representation of the
    value the spec gives … -/
theorem sound_ok {α β : Type} {f : β → α} {e : Except Panic α} {s : Option β} {y : β}
    (he : e = .ok (f y)) (hs : s = some y) : e.toOption = s.map f := by rw [he, hs]; rfl

/-- … or both fail under the same condition -/
theorem sound_ite {α β : Type} {f : β → α} {e : Except Panic α} {s : Option β} {y : β} {p : Panic}
    {c c' : Prop} [Decidable c] [Decidable c'] (hc : c ↔ c')
    (he : e = if c then .error p else .ok (f y)) (hs : s = if c' then none else some y) :
    e.toOption = s.map f := by
  by_cases h : c
  · rw [he, hs, if_pos h, if_pos (hc.mp h)]; rfl
  · rw [he, hs, if_neg h, if_neg (mt hc.mpr h)]; rfl

theorem uAddOp_sound : uAddOp.Sound := fun P _ a b _ ha hb _ =>
  sound_ok (congrArg _ (addAssign_spec P a b ha hb)) rfl

theorem uSubOp_sound : uSubOp.Sound := by
  intro P _ a b imm ha hb _
  simp only [uSubOp, subAssign_spec P a b ha hb]
  split <;> rfl

theorem uZeroOp_sound : uZeroOp.Sound := fun _ _ _ _ _ _ _ _ =>
  sound_ok (congrArg _ ofNat_zero.symm) rfl

theorem uOneOp_sound : uOneOp.Sound := fun _ _ _ _ _ _ _ _ =>
  sound_ok (congrArg _ ofNat_one.symm) rfl

theorem uCloneOp_sound : uCloneOp.Sound := fun _ _ _ _ _ _ hb _ =>
  sound_ok (congrArg _ (canon_eq_ofNat hb)) rfl

theorem uAsgOp_sound : uAsgOp.Sound := fun _ _ a _ imm _ _ hi =>
  sound_ok (congrArg _ (assignFromSlice_eq a imm (of_decide_eq_true hi))) rfl

theorem uMulOp_sound : uMulOp.Sound := fun P hv a b _ ha hb _ =>
  sound_ok (mulAssign_spec P ((validMulB_iff P).mp hv) a b ha hb) rfl

theorem uMul32Op_sound : uMul32Op.Sound := fun _ _ a _ imm ha _ hi =>
  match imm, hi with
  | [k], hi => sound_ok (congrArg _ (scalar_mul_val a k ha (Nat.lt_trans (of_decide_eq_true hi) (by decide)))) rfl

theorem uMul64Op_sound : uMul64Op.Sound := by
  intro P _ a b imm ha _ hi
  obtain ⟨k, rfl, hk⟩ := immU64_cases hi
  exact sound_ok (congrArg _ (scalar_mul_val a k ha hk)) rfl

theorem uMul128Op_sound : uMul128Op.Sound := by
  intro P hv a b imm ha _ hi
  obtain ⟨lo, hi', rfl, h1, h2⟩ := immU128_cases hi
  exact sound_ok (mulAssignU128_spec P ((validMulB_iff P).mp hv) a ha lo hi' h1 h2) rfl

theorem uDivOp_sound : uDivOp.Sound := fun P _ a b _ ha hb _ =>
  sound_ite (canon_eq_nil_iff hb) (divRef_spec P a b ha hb) rfl

theorem uRemOp_sound : uRemOp.Sound := fun P _ a b _ ha hb _ =>
  sound_ite (canon_eq_nil_iff hb) (remRef_spec P a b ha hb) rfl

/-- a shift amount that fits a `u64` never saturates the digit count -/
theorem shift_digits_lt {k : Nat} (hk : k < B) : k / C07.BITS < C07.USIZE_RANGE :=
  Nat.lt_of_le_of_lt (Nat.div_le_self _ _) hk

theorem uShlOp_sound : uShlOp.Sound := by
  intro P _ a b imm ha _ hi
  obtain ⟨k, rfl, hk⟩ := immU64_cases hi
  exact sound_ok (C07.shl_spec a (k : Nat) ha (Int.natCast_nonneg k) fun _ => shift_digits_lt hk) rfl

theorem uShrOp_sound : uShrOp.Sound := by
  intro P _ a b imm ha _ hi
  obtain ⟨k, rfl, hk⟩ := immU64_cases hi
  have := shr_ofNat (val a) k (shift_digits_lt hk)
  rw [← canon_eq_ofNat ha] at this
  exact sound_ok this rfl

theorem uAndOp_sound : uAndOp.Sound := fun _ _ a b _ ha hb _ =>
  sound_ok (congrArg _ (C07.andAssign_spec a b ha hb)) rfl

theorem uOrOp_sound : uOrOp.Sound := fun _ _ a b _ ha hb _ =>
  sound_ok (congrArg _ (C07.orAssign_spec a b ha hb)) rfl

theorem uXorOp_sound : uXorOp.Sound := fun _ _ a b _ ha hb _ =>
  sound_ok (congrArg _ (C07.xorAssign_spec a b ha hb)) rfl

theorem setBitU_spec (a : List Nat) (ha : Canon a) (k : Nat) (v : Bool) :
    C07.setBitU a k v = ofNat (if v then val a ||| 2 ^ k else Nat.ldiff (val a) (2 ^ k)) := by
  cases v
  · exact C07.set_bit_false_spec_u a ha k
  · exact C07.set_bit_true_spec_u a ha k

theorem uSetBitOp_sound : uSetBitOp.Sound := fun _ _ a _ imm ha _ hi =>
  match imm, hi with
  | [k, v], _ => sound_ok (congrArg _ (setBitU_spec a ha k (v == 1))) rfl

theorem iAddOp_sound : iAddOp.Sound := fun P _ a b _ ha hb _ =>
  sound_ok (bigint_addAssign_spec P a b ha hb) rfl

theorem iSubOp_sound : iSubOp.Sound := fun P _ a b _ ha hb _ =>
  sound_ok (bigint_subAssign_spec P a b ha hb) rfl

theorem iZeroOp_sound : iZeroOp.Sound := fun _ _ _ _ _ _ _ _ =>
  sound_ok (congrArg _ ofInt_zero.symm) rfl

theorem iOneOp_sound : iOneOp.Sound := fun _ _ _ _ _ _ _ _ =>
  sound_ok (congrArg _ ofInt_one.symm) rfl

theorem iCloneOp_sound : iCloneOp.Sound := fun _ _ _ _ _ _ hb _ =>
  sound_ok (congrArg _ (bigint_canon_eq_ofInt hb)) rfl

theorem iAsgOp_sound : iAsgOp.Sound := by
  intro P _ a b imm _ _ hi
  cases imm with
  | nil => cases hi
  | cons c ws =>
    obtain ⟨hc, hw⟩ := Bool.and_eq_true_iff.mp hi
    obtain ⟨s, hs⟩ := Option.isSome_iff_exists.mp hc
    simp only [iAsgOp, iAsgStep, iAsgSpec, hs]
    exact sound_ok (congrArg _ (bigint_assignFromSlice_eq a s ws (of_decide_eq_true hw))) rfl

theorem iNegOp_sound : iNegOp.Sound := fun _ _ _ _ _ ha _ _ =>
  sound_ok (congrArg _ (bigint_negVal_eq ha)) rfl

theorem iMulOp_sound : iMulOp.Sound := fun P hv a b _ ha hb _ =>
  sound_ok (bigint_mulAssign_spec P ((validMulB_iff P).mp hv) a b ha hb) rfl

theorem iMul128Op_sound : iMul128Op.Sound := by
  intro P hv a b imm ha _ hi
  obtain ⟨lo, hi', rfl, h1, h2⟩ := immU128_cases hi
  exact sound_ok (bigint_mulAssignU128_spec P ((validMulB_iff P).mp hv) a ha lo hi' h1 h2) rfl

theorem iMulI128Op_sound : iMulI128Op.Sound := fun P hv a _ imm ha _ hi =>
  match imm, hi with
  | [n, lo, hi], h =>
    have ⟨h1, h2, h3⟩ := immI128_elim h
    sound_ok (bigint_mulAssignI128_spec P ((validMulB_iff P).mp hv) a ha (n == 1) lo hi h1 h2 h3) rfl

theorem iDivOp_sound : iDivOp.Sound := fun P _ a b _ ha hb _ =>
  sound_ite Iff.rfl (bigint_div_spec P a b ha hb) rfl

theorem iRemOp_sound : iRemOp.Sound := fun P _ a b _ ha hb _ =>
  sound_ite Iff.rfl (bigint_rem_spec P a b ha hb) rfl

theorem iShlOp_sound : iShlOp.Sound := by
  intro P _ a b imm ha _ hi
  obtain ⟨k, rfl, hk⟩ := immU64_cases hi
  exact sound_ok (C07.bigint_shlAssign_spec a (k : Nat) ha (Int.natCast_nonneg k) fun _ => shift_digits_lt hk) rfl

theorem iShrOp_sound : iShrOp.Sound := by
  intro P _ a b imm ha _ hi
  obtain ⟨k, rfl, hk⟩ := immU64_cases hi
  have hm : digitLen a.val.natAbs = a.mag.length := by unfold digitLen; rw [← bigint_canon_mag ha]
  show (if physOk a.mag.length then C07.BigInt.shrAssign P a (k : Nat) else .error .capacity).toOption
    = (if physOk (digitLen a.val.natAbs) then some (a.val / 2 ^ k) else none).map BigInt.ofInt
  rw [hm]
  by_cases hp : physOk a.mag.length = true
  · rw [if_pos hp, if_pos hp]
    exact sound_ok (C07.bigint_shrAssign_spec P a (k : Nat) ha (Int.natCast_nonneg k) (of_decide_eq_true hp)) rfl
  · rw [if_neg hp, if_neg hp]; rfl

theorem iAndOp_sound : iAndOp.Sound := fun _ _ a b _ ha hb _ =>
  sound_ok (C07.bigint_andAssign_spec a b ha hb) (congrArg some (intLand_eq _ _))

theorem iOrOp_sound : iOrOp.Sound := fun _ _ a b _ ha hb _ =>
  sound_ok (C07.bigint_orAssign_spec a b ha hb) (congrArg some (intLor_eq _ _))

theorem iXorOp_sound : iXorOp.Sound := fun _ _ a b _ ha hb _ =>
  sound_ok (C07.bigint_xorAssign_spec a b ha hb) (congrArg some (intXor_eq _ _))

theorem iSetBitOp_sound : iSetBitOp.Sound := fun _ _ a _ imm ha _ hi =>
  match imm, hi with
  | [k, v], _ =>
    sound_ok (C07.bigint_set_bit_spec a k (v == 1) ha)
      (show some (if (v == 1) = true then intLor a.val _ else intLdiff a.val _) = _ by
        rw [intLor_eq, intLdiff_eq]; rfl)

end NB.Core
