/- layer link for C06: the digit-level general-radix output path (NB.Model.RadixD) refines the
   value-level one (NB.Model.Radix); the operator theorems used are C02's `mul_spec`, C03's
   `div_rem_spec` / `divRemDigit_spec'` and `cmpSlice_spec` -/
import NB.Lemmas.Radix
import NB.Props.C02
import NB.Props.C03
import NB.Model.RadixD
namespace NB.Radix

theorem nlimbs_val_canon {a : List Nat} (h : Canon a) : nlimbs (val a) = a.length := by
  unfold nlimbs; rw [← canon_eq_ofNat h]

/-- `data.len() > 1` is `B ≤ value` for a normalised BigUint -/
theorem canon_length_gt_one_iff {a : List Nat} (h : Canon a) : 1 < a.length ↔ B ≤ val a := by
  rw [← nlimbs_val_canon h]; exact nlimbs_gt_one_iff _

theorem fromDigit_canon {d : Nat} (hd : d < B) : Canon (fromDigit d) ∧ val (fromDigit d) = d := by
  unfold fromDigit
  by_cases h0 : d = 0
  · subst h0; exact ⟨canon_nil, rfl⟩
  · rw [if_neg h0]; exact ⟨canon_singleton_iff.mpr ⟨h0, hd⟩, by simp [val]⟩

/-- the iteration budget `BITS * u.len()` bounds the bit length of `u` -/
theorem val_lt_radixFuel {u : List Nat} (h : DigitsOk u) : val u < 2 ^ radixFuel u := by
  have := val_lt h
  rwa [B_pow] at this

theorem div_lt_pow_of_two_le {v b f : Nat} (hb : 2 ≤ b) (hv : v < 2 ^ (f + 1)) : v / b < 2 ^ f := by
  apply Nat.div_lt_of_lt_mul
  calc v < 2 ^ (f + 1) := hv
    _ = 2 * 2 ^ f := by rw [pow_succ, Nat.mul_comm]
    _ ≤ b * 2 ^ f := Nat.mul_le_mul_right _ hb

/-- `div_rem_digit` loop + final digit loop: digit level = value level, for every fuel that bounds the
    bit length of `digits` -/
theorem slowLoopD_eq {radix power base : Nat} (hb2 : 2 ≤ base) :
    ∀ (fuel : Nat) (digits : List Nat), Canon digits → val digits < 2 ^ fuel →
    slowLoopD radix power base fuel digits = slowLoop radix power base (val digits) := by
  have hb0 : base ≠ 0 := Nat.ne_of_gt (Nat.zero_lt_two.trans_le hb2)
  have hb1 : base ≠ 1 := Nat.ne_of_gt hb2
  have small : ∀ (fuel : Nat) (digits : List Nat), Canon digits → ¬ B ≤ val digits →
      slowLoopD radix power base fuel digits = slowLoop radix power base (val digits) := by
    intro fuel digits hc hB
    have hl : ¬ 1 < digits.length := fun h => hB ((canon_length_gt_one_iff hc).1 h)
    rw [slowLoop, dif_neg hB]
    unfold slowLoopD
    rw [if_neg hl]
    match digits, hc, hl with
    | [], _, _ => rfl
    | [r], hc, _ =>
      have hr : r ≠ 0 := fun e => hc.2 (by rw [e]; rfl)
      have hv : val [r] = r := Nat.add_zero r
      rw [hv, if_neg hr]
    | _ :: _ :: _, _, hl => exact absurd (Nat.le_add_left 2 _) hl
  intro fuel
  induction fuel with
  | zero =>
    intro digits hc hv
    exact small 0 digits hc fun h => Nat.lt_irrefl _ (Nat.lt_of_lt_of_le (Nat.lt_of_lt_of_le hv B_pos) h)
  | succ f ih =>
    intro digits hc hv
    by_cases hB : B ≤ val digits
    · have hl : 1 < digits.length := (canon_length_gt_one_iff hc).2 hB
      rw [slowLoop, dif_pos hB, dif_neg hb0, dif_neg hb1]
      unfold slowLoopD
      rw [if_pos hl, divRemDigit_spec' digits base hc.1 hb0]
      dsimp only
      rw [ih (ofNat (val digits / base)) (ofNat_canon _)
        (by rw [ofNat_val]; exact div_lt_pow_of_two_le hb2 hv), ofNat_val]
      cases slowLoop radix power base (val digits / base) <;> rfl
    · exact small (f + 1) digits hc hB

theorem emitChunksD_eq {radix power base : Nat} (hb0 : base ≠ 0) :
    ∀ (k : Nat) (bigR : List Nat), DigitsOk bigR →
    emitChunksD radix power base k bigR = .ok (emitChunks radix power base k (val bigR)) := by
  intro k
  induction k with
  | zero => intro _ _; rfl
  | succ k ih =>
    intro bigR h
    simp only [emitChunksD, emitChunks]
    rw [divRemDigit_spec' bigR base h hb0]
    dsimp only
    rw [ih _ (ofNat_digitsOk _), ofNat_val]

/-- the squaring loop: `&big_base * &big_base` is C02's `mulRef` -/
theorem squareLoopD_eq (P : Params) (hP : P.ValidMul) (t : Nat) :
    ∀ (fuel : Nat) (bb : List Nat) (bp : Nat), Canon bb →
    squareLoopD P t fuel bb bp = (squareLoop t fuel (val bb) bp).map (fun p => (ofNat p.1, p.2)) := by
  intro fuel
  induction fuel with
  | zero =>
    intro bb bp hc
    unfold squareLoopD squareLoop
    rw [nlimbs_val_canon hc]
    by_cases hlt : bb.length < t
    · rw [if_pos hlt, if_pos hlt]; rfl
    · rw [if_neg hlt, if_neg hlt]
      show _ = Except.ok (ofNat (val bb), bp)
      rw [← canon_eq_ofNat hc]
  | succ f ih =>
    intro bb bp hc
    unfold squareLoopD squareLoop
    rw [nlimbs_val_canon hc]
    by_cases hlt : bb.length < t
    · rw [if_pos hlt, if_pos hlt]
      dsimp only
      rw [mul_spec P hP bb bb hc hc]
      dsimp only
      rw [ih _ _ (ofNat_canon _), ofNat_val]
    · rw [if_neg hlt, if_neg hlt]
      show _ = Except.ok (ofNat (val bb), bp)
      rw [← canon_eq_ofNat hc]

/-- the super-chunk loop: `digits > big_base` is `cmp_slice`, `digits.div_rem(&big_base)` is C03's
    `divRemRef` (Knuth D) -/
theorem bigLoopD_eq (P : Params) {radix power base bigPower : Nat} {bigBase : List Nat} (hb2 : 2 ≤ base)
    (hbb : Canon bigBase) (hbb2 : 2 ≤ val bigBase) :
    ∀ (fuel : Nat) (digits : List Nat), Canon digits → val digits < 2 ^ fuel →
    bigLoopD P radix power base bigBase bigPower fuel digits
      = bigLoop radix power base (val bigBase) bigPower (val digits) := by
  have hb0 : base ≠ 0 := Nat.ne_of_gt (Nat.zero_lt_two.trans_le hb2)
  have hv0 : val bigBase ≠ 0 := Nat.ne_of_gt (Nat.zero_lt_two.trans_le hbb2)
  have hv1 : val bigBase ≠ 1 := Nat.ne_of_gt hbb2
  have hne : bigBase ≠ [] := fun e => hv0 (e ▸ val_nil)
  have small : ∀ (fuel : Nat) (digits : List Nat), Canon digits → val digits < 2 ^ fuel →
      ¬ val bigBase < val digits →
      bigLoopD P radix power base bigBase bigPower fuel digits
        = bigLoop radix power base (val bigBase) bigPower (val digits) := by
    intro fuel digits hc hv hlt
    rw [bigLoop, dif_neg hlt]
    unfold bigLoopD
    rw [cmpSlice_spec hc hbb, if_neg (mt Nat.compare_eq_gt.1 hlt)]
    exact slowLoopD_eq hb2 fuel digits hc hv
  intro fuel
  induction fuel with
  | zero =>
    intro digits hc hv
    exact small 0 digits hc hv fun h => Nat.not_lt_zero _ (Nat.lt_of_lt_of_le h (Nat.le_of_lt_succ hv))
  | succ f ih =>
    intro digits hc hv
    by_cases hlt : val bigBase < val digits
    · rw [bigLoop, dif_pos hlt, dif_neg hv0, dif_neg hv1, if_neg hb0]
      unfold bigLoopD
      rw [cmpSlice_spec hc hbb, if_pos (Nat.compare_eq_gt.2 hlt), div_rem_spec P digits bigBase hc hbb, if_neg hne]
      dsimp only
      rw [emitChunksD_eq hb0 bigPower _ (ofNat_digitsOk _)]
      dsimp only
      rw [ih (ofNat (val digits / val bigBase)) (ofNat_canon _)
        (by rw [ofNat_val]; exact div_lt_pow_of_two_le hbb2 hv), ofNat_val, ofNat_val]
      cases bigLoop radix power base (val bigBase) bigPower (val digits / val bigBase) <;> rfl
    · exact small (f + 1) digits hc hv hlt

/-- **refinement theorem**: on canonical operands the digit-level `to_radix_digits_le` computes exactly
    what the value-level model computes (radix 2..=256 and not a power of two: the only way it is called) -/
theorem toRadixDigitsLeD_eq (P : Params) (hP : P.ValidMul) {r : Nat} (h2 : 2 ≤ r) (h256 : r ≤ 256)
    (hp : isPow2 r = false) (u : List Nat) (hc : Canon u) :
    toRadixDigitsLeD P u r = toRadixDigitsLe P u r := by
  obtain ⟨base, power, hg, hb, hbB, hBr, hpw⟩ := getRadixBase_ok h2 h256 hp
  have hb2 : 2 ≤ base := hb ▸ two_le_pow h2 hpw
  have hfuel := val_lt_radixFuel hc.1
  unfold toRadixDigitsLeD toRadixDigitsLe
  rw [hg]
  dsimp only
  split
  · obtain ⟨hcb, hvb⟩ := fromDigit_canon hbB
    rw [squareLoopD_eq P hP _ _ _ _ hcb, hvb]
    obtain ⟨j, hj⟩ := squareLoop_base hb hBr hpw (Nat.sqrt u.length)
    rw [hj]
    show bigLoopD P r power base (ofNat (base ^ 2 ^ j)) (2 ^ j) (radixFuel u) u = _
    have hge : 2 ≤ val (ofNat (base ^ 2 ^ j)) := by
      rw [ofNat_val]; exact two_le_pow hb2 Nat.one_le_two_pow
    rw [bigLoopD_eq P hb2 (ofNat_canon _) hge _ u hc hfuel, ofNat_val]
  · exact slowLoopD_eq hb2 _ u hc hfuel

/-- `to_radix_le`: digit level = value level for EVERY radix (in range or not) -/
theorem toRadixLeD_eq (P : Params) (hP : P.ValidMul) (u : List Nat) (hc : Canon u) (r : Nat) :
    toRadixLeD P u r = toRadixLe P u r := by
  unfold toRadixLeD toRadixLe
  by_cases hr : 2 ≤ r ∧ r ≤ digRadixMax
  · by_cases hp : isPow2 r = true
    · rw [if_pos hp, if_pos hp]
    · rw [toRadixDigitsLeD_eq P hP hr.1 hr.2 (Bool.eq_false_iff.2 hp) u hc]
  · rw [if_pos hr, if_pos hr]

theorem toStrRadixReversedD_eq (P : Params) (hP : P.ValidMul) (u : List Nat) (hc : Canon u) (r : Nat) :
    toStrRadixReversedD P u r = toStrRadixReversed P u r := by
  unfold toStrRadixReversedD toStrRadixReversed; rw [toRadixLeD_eq P hP u hc r]
  cases toRadixLe P u r <;> rfl

end NB.Radix
