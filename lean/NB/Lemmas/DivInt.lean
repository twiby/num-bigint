/-
  Lemmas about the BigInt half of NB.Model.Div (src/bigint/division.rs and the `Integer`/`Euclid` impls in
  src/bigint.rs): `BigInt ± u32`, the `to_u32`/`to_i32` fast paths of `%`, and where each rounding convention puts
  the signs.  A canonical operand is `±A` for its magnitude `A`; `Int.tdiv/tmod`, `Int.fdiv/fmod` and `/`, `%` are the
  truncating, flooring and Euclidean specifications.
-/
import NB.Lemmas.Div
import NB.Props.C01
namespace NB

theorem fromBU_eq (m : List Nat) : BigInt.fromBU m = BigInt.fromBiguint .plus m := by
  unfold BigInt.fromBU BigInt.fromBiguint; simp

theorem fromBU_ofNat (n : Nat) : BigInt.fromBU (ofNat n) = BigInt.ofInt n := by
  rw [fromBU_eq, fromBiguint_ofNat_plus]

theorem ofInt_sign_minus (i : Int) : (BigInt.ofInt i).sign = .minus ↔ i < 0 := by
  have := (bigint_canon_sign (bigint_ofInt_canon i)).1; rwa [bigint_ofInt_val] at this

theorem ofInt_sign_nosign (i : Int) : (BigInt.ofInt i).sign = .nosign ↔ i = 0 := by
  have := (bigint_canon_sign (bigint_ofInt_canon i)).2.1; rwa [bigint_ofInt_val] at this

theorem ofInt_sign_plus (i : Int) : (BigInt.ofInt i).sign = .plus ↔ 0 < i := by
  have := (bigint_canon_sign (bigint_ofInt_canon i)).2.2; rwa [bigint_ofInt_val] at this

theorem add_ofInt (P : Params) (i j : Int) :
    BigInt.add P (BigInt.ofInt i) (BigInt.ofInt j) = .ok (BigInt.ofInt (i + j)) := by
  rw [bigint_add_spec P _ _ (bigint_ofInt_canon i) (bigint_ofInt_canon j), bigint_ofInt_val, bigint_ofInt_val]

theorem sub_ofInt (P : Params) (i j : Int) :
    BigInt.sub P (BigInt.ofInt i) (BigInt.ofInt j) = .ok (BigInt.ofInt (i - j)) := by
  rw [bigint_sub_spec P _ _ (bigint_ofInt_canon i) (bigint_ofInt_canon j), bigint_ofInt_val, bigint_ofInt_val]

theorem subDigit_spec (P : Params) (a : List Nat) (c : Nat) (ha : DigitsOk a) (hc : c < B) :
    subDigit P a c = if val a < c then .error .underflow else .ok (ofNat (val a - c)) := by
  obtain ⟨h1, h2⟩ := sub2_spec P a [c] ha (DigitsOk.cons hc DigitsOk.nil)
  rw [show val [c] = c by simp [val]] at h1 h2
  exact map_normalize_sub h1 (fun h => let ⟨r, hr, hv, _, hok⟩ := h2 h; ⟨r, hr, hv, hok⟩)

theorem digitSub_spec (c : Nat) (a : List Nat) (ha : DigitsOk a) (hc : c < B) :
    digitSub c a = if c < val a then .error .underflow else .ok (ofNat (c - val a)) := by
  have hcD : DigitsOk [c] := DigitsOk.cons hc DigitsOk.nil
  have hvc : val [c] = c := val_singleton c
  unfold digitSub
  by_cases ha0 : a = []
  · subst ha0
    simp only [if_true, val, Nat.not_lt_zero, if_false, Nat.sub_zero]
    rw [canon_eq_ofNat (normalize_canon hcD), normalize_val, hvc]
  · rw [if_neg ha0]
    obtain ⟨h1, h2⟩ := sub2rev_spec [c] a (List.length_pos_iff.mpr ha0) hcD ha
    rw [hvc] at h1 h2
    exact map_normalize_sub h1 h2

theorem fromU_eq {c : Nat} (hc : c < B) : BigInt.fromU c = BigInt.ofInt c := by
  rw [ofInt_natCast, BigInt.fromU, fromDigit_eq hc]
  by_cases h0 : c = 0
  · rw [if_pos h0, if_neg (by omega)]
  · rw [if_neg h0, if_pos (Nat.pos_of_ne_zero h0)]

/-- `BigInt + u32` on a canonical value -/
theorem addU_spec (P : Params) (a : BigInt) (c : Nat) (ha : a.Canon) (hc : c < B) :
    BigInt.addU P a c = .ok (BigInt.ofInt (a.val + c)) := by
  obtain ⟨s, m⟩ := a
  obtain ⟨hm, hs⟩ := ha
  simp only at hm hs
  have hcC : Canon (fromDigit c) := by rw [fromDigit_eq hc]; exact ofNat_canon c
  have hcv : val (fromDigit c) = c := by rw [fromDigit_eq hc, ofNat_val]
  cases s with
  | nosign => simp [BigInt.addU, BigInt.val, fromU_eq hc]
  | plus =>
    simp only [BigInt.addU, BigInt.val, addDigit_spec P m c hm hc, fromBU_ofNat]
    congr 2
  | minus =>
    simp only [BigInt.addU, BigInt.val]
    rw [cmpSlice_spec hm hcC, hcv]
    rcases Nat.lt_trichotomy (val m) c with h | h | h
    · rw [Nat.compare_eq_lt.mpr h]
      have : ¬ (c < val m) := by omega
      simp only [digitSub_spec c m hm.1 hc, this, if_false, Except.map, fromBU_ofNat]
      congr 2; omega
    · rw [Nat.compare_eq_eq.mpr h]
      simp only [← ofInt_zero]; congr 2; omega
    · rw [Nat.compare_eq_gt.mpr h]
      have : ¬ (val m < c) := by omega
      simp only [subDigit_spec P m c hm.1 hc, this, if_false, Except.map, fromBU_ofNat, neg_ofInt]
      congr 2; omega

/-- `a - c` is computed as `-((-a) + c)`, arm by arm -/
theorem subU_eq_addU_neg (P : Params) (a : BigInt) (c : Nat) :
    BigInt.subU P a c = (BigInt.addU P a.neg c).map BigInt.neg := by
  obtain ⟨s, m⟩ := a
  cases s with
  | nosign => rfl
  | minus => rfl
  | plus =>
    simp only [BigInt.subU, BigInt.addU, BigInt.neg, Sign.neg]
    cases cmpSlice m (fromDigit c) with
    | eq => rfl
    | lt => cases digitSub c m <;> rfl
    | gt =>
      cases subDigit P m c with
      | error _ => rfl
      | ok v => exact congrArg Except.ok (neg_neg_bigint _).symm

/-- `BigInt - u32` on a canonical value -/
theorem subU_spec (P : Params) (a : BigInt) (c : Nat) (ha : a.Canon) (hc : c < B) :
    BigInt.subU P a c = .ok (BigInt.ofInt (a.val - c)) := by
  rw [subU_eq_addU_neg, bigint_canon_eq_ofInt ha, neg_ofInt,
    addU_spec P _ c (bigint_ofInt_canon _) hc, bigint_ofInt_val, bigint_ofInt_val]
  show Except.ok (BigInt.ofInt _).neg = _
  rw [neg_ofInt]; congr 2; ring

theorem addU_one (P : Params) (i : Int) : BigInt.addU P (BigInt.ofInt i) 1 = .ok (BigInt.ofInt (i + 1)) := by
  rw [addU_spec P _ 1 (bigint_ofInt_canon i) (by decide), bigint_ofInt_val]; rfl

theorem subU_one (P : Params) (i : Int) : BigInt.subU P (BigInt.ofInt i) 1 = .ok (BigInt.ofInt (i - 1)) := by
  rw [subU_spec P _ 1 (bigint_ofInt_canon i) (by decide), bigint_ofInt_val]; rfl

theorem tdiv_cast (A D : Nat) : Int.tdiv (A : Int) (D : Int) = ((A / D : Nat) : Int) := by
  rw [Int.tdiv_eq_ediv_of_nonneg (Int.natCast_nonneg A)]; exact (Int.natCast_ediv A D).symm

theorem tmod_cast (A D : Nat) : Int.tmod (A : Int) (D : Int) = ((A % D : Nat) : Int) := by
  rw [Int.tmod_eq_emod_of_nonneg (Int.natCast_nonneg A)]; exact (Int.natCast_emod A D).symm

/-- Euclidean quotient/remainder from the truncated pair, exactly as `Euclid for BigInt` computes it -/
theorem euclid_from_trunc (a b : Int) (hb : b ≠ 0) :
    a / b = (if Int.tmod a b < 0 then (if 0 < b then Int.tdiv a b - 1 else Int.tdiv a b + 1) else Int.tdiv a b) ∧
    a % b = (if Int.tmod a b < 0 then (if 0 < b then Int.tmod a b + b else Int.tmod a b - b) else Int.tmod a b) := by
  rw [Int.tdiv_eq_ediv, Int.tmod_eq_emod]
  have h1 := Int.emod_nonneg a hb
  have h2 := Int.emod_lt a hb
  by_cases hc : 0 ≤ a ∨ b ∣ a
  · simp only [hc, if_true]
    have : ¬ (a % b - ((0 : Nat) : Int) < 0) := by omega
    simp only [this, if_false]
    constructor <;> omega
  · simp only [hc, if_false]
    have : a % b - (b.natAbs : Int) < 0 := by omega
    simp only [this, if_true]
    by_cases hp : 0 < b
    · simp only [hp, if_true, Int.sign_eq_one_of_pos hp]
      constructor <;> omega
    · have hn : b < 0 := by omega
      simp only [hp, if_false, Int.sign_eq_neg_one_of_neg hn]
      constructor <;> omega

/-- the `to_u32` / `to_i32` fast paths of `Rem for BigInt` agree with the general path -/
theorem bigint_rem_eq (P : Params) (a b : BigInt) (ha : a.Canon) (hb : b.Canon) :
    BigInt.rem P a b = (BigInt.divRem P a b).map (·.2) := by
  obtain ⟨sa, ma⟩ := a
  obtain ⟨sb, mb⟩ := b
  have hdig : ∀ d, mb = [d] → BigInt.remU ⟨sa, ma⟩ d = (BigInt.divRem P ⟨sa, ma⟩ ⟨sb, mb⟩).map (·.2) := by
    intro d hd
    subst hd
    obtain ⟨hd0, hdB⟩ := canon_singleton_iff.mp hb.1
    have hv : val [d] = d := val_singleton d
    have hne : ¬ ([d] = ([] : List Nat)) := by simp
    simp only [BigInt.remU, BigInt.divRem, remDigit_spec' ma d ha.1.1 hd0, divRemRef_spec' P ma [d] ha.1 hb.1,
      hne, if_false, hv, Except.map]
    rw [fromDigit_eq (Nat.lt_trans (Nat.mod_lt _ (Nat.pos_of_ne_zero hd0)) hdB)]
    by_cases hm : sb = .minus <;> simp [hm]
  unfold BigInt.rem
  cases sb with
  | nosign =>
    obtain rfl : mb = [] := hb.2.mp rfl
    simp [BigInt.toU32, BigInt.remU, remDigit, BigInt.divRem, divRemRef, Except.map]
  | plus =>
    simp only [BigInt.toU32, BigInt.toI32Abs]
    cases mb with
    | nil => exact absurd (hb.2.mpr rfl) (by decide)
    | cons d t =>
      cases t with
      | nil =>
        by_cases hd : d < U32
        · simp only [toU32, hd, if_true]; exact hdig d rfl
        · simp only [toU32, hd, if_false]
      | cons e es => simp only [toU32]
  | minus =>
    simp only [BigInt.toU32, BigInt.toI32Abs]
    cases mb with
    | nil => exact absurd (hb.2.mpr rfl) (by decide)
    | cons d t =>
      cases t with
      | nil =>
        by_cases hd : d ≤ I32MINABS
        · simp only [hd, if_true]; exact hdig d rfl
        · simp only [hd, if_false]
      | cons e es => rfl

/-- `fdiv`/`fmod` of `±A` by `±D`; the two letters are the signs of dividend and divisor (`p`, `n`) -/
theorem fdiv_pp (A D : Nat) : Int.fdiv (A : Int) (D : Int) = ((A / D : Nat) : Int) := by
  rw [Int.fdiv_eq_ediv_of_nonneg _ (Int.natCast_nonneg D)]; exact (Int.natCast_ediv A D).symm

theorem fmod_pp (A D : Nat) : Int.fmod (A : Int) (D : Int) = ((A % D : Nat) : Int) := by
  rw [Int.fmod_eq_emod_of_nonneg _ (Int.natCast_nonneg D)]; exact (Int.natCast_emod A D).symm

theorem natCast_dvd_iff (A D : Nat) : ((D : Int) ∣ (A : Int)) ↔ A % D = 0 :=
  Int.natCast_dvd_natCast.trans Nat.dvd_iff_mod_eq_zero

theorem fdiv_np (A D : Nat) (hD : 0 < D) : Int.fdiv (-(A : Int)) (D : Int) =
    (if A % D = 0 then -((A / D : Nat) : Int) else -((A / D : Nat) : Int) - 1) := by
  rw [Int.fdiv_eq_ediv_of_nonneg _ (Int.natCast_nonneg D), Int.neg_ediv,
    Int.sign_natCast_of_ne_zero (Nat.ne_of_gt hD)]
  simp only [natCast_dvd_iff, Int.natCast_ediv]
  split
  · exact Int.sub_zero _
  · rfl

theorem fmod_np (A D : Nat) : Int.fmod (-(A : Int)) (D : Int) =
    (if A % D = 0 then 0 else (D : Int) - ((A % D : Nat) : Int)) := by
  rw [Int.fmod_eq_emod_of_nonneg _ (Int.natCast_nonneg D), Int.neg_emod, Int.natAbs_natCast]
  simp only [natCast_dvd_iff, Int.natCast_emod]

theorem fdiv_pn (A D : Nat) (hD : 0 < D) : Int.fdiv (A : Int) (-(D : Int)) =
    (if A % D = 0 then -((A / D : Nat) : Int) else -((A / D : Nat) : Int) - 1) := by
  have := Int.neg_fdiv_neg (-(A : Int)) (D : Int)
  rw [neg_neg] at this; rw [this]; exact fdiv_np A D hD

theorem fmod_pn (A D : Nat) : Int.fmod (A : Int) (-(D : Int)) =
    (if A % D = 0 then 0 else ((A % D : Nat) : Int) - (D : Int)) := by
  have := Int.neg_fmod_neg (-(A : Int)) (D : Int)
  rw [neg_neg] at this; rw [this, fmod_np A D]
  split <;> omega

theorem fdiv_nn (A D : Nat) : Int.fdiv (-(A : Int)) (-(D : Int)) = ((A / D : Nat) : Int) := by
  rw [Int.neg_fdiv_neg]; exact fdiv_pp A D

theorem fmod_nn (A D : Nat) : Int.fmod (-(A : Int)) (-(D : Int)) = -((A % D : Nat) : Int) := by
  rw [Int.neg_fmod_neg, fmod_pp]

theorem canon_mag_nil_iff {b : BigInt} (hb : b.Canon) : b.mag = [] ↔ b.val = 0 :=
  hb.2.symm.trans (bigint_canon_sign hb).2.1

/-- where truncated division puts the signs: the quotient of the magnitudes takes the sign of `a`, flipped for a
    negative `b`; the remainder takes the sign of `a` -/
theorem trunc_signs (a b : BigInt) (hb : b.sign ≠ .nosign) :
    Int.tdiv a.val b.val = (if b.sign = .minus then -BigInt.val ⟨a.sign, ofNat (val a.mag / val b.mag)⟩
      else BigInt.val ⟨a.sign, ofNat (val a.mag / val b.mag)⟩) ∧
    Int.tmod a.val b.val = BigInt.val ⟨a.sign, ofNat (val a.mag % val b.mag)⟩ := by
  obtain ⟨sa, ma⟩ := a
  obtain ⟨sb, mb⟩ := b
  cases sb with
  | nosign => exact absurd rfl hb
  | plus => cases sa <;> simp [BigInt.val, ofNat_val, Int.neg_tdiv, Int.neg_tmod, tmod_cast]
  | minus =>
    cases sa <;> simp [BigInt.val, ofNat_val, Int.neg_tdiv, Int.tdiv_neg, Int.neg_tmod, Int.tmod_neg, tmod_cast]

/-- Floor division by sign class, as `div_floor`, `mod_floor`, `div_mod_floor` and `div_ceil` split it:
    `Q`, `R` are quotient and remainder of the magnitudes, `M` is the remainder with the sign of `b`.
    With equal signs `a fdiv b = Q` and `a fmod b = M`; with opposite signs the quotient is `-Q`,
    one less if `R ≠ 0`, and the remainder is `b - M` unless `R = 0` (then `M = 0`).  A zero `a` falls in either
    class.  `(-a) fdiv b` (for the ceiling) is in the other class. -/
theorem floor_classes (a b : BigInt) (ha : a.Canon) (hb : b.Canon) (hb0 : b.val ≠ 0) {Q R : Nat}
    (hQ : Q = val a.mag / val b.mag) (hR : R = val a.mag % val b.mag) :
    ∃ M : Int, BigInt.fromBiguint b.sign (ofNat R) = BigInt.ofInt M ∧ (M = 0 ↔ R = 0) ∧
      ((sameSignClass a.sign b.sign = some true ∧ Int.fdiv a.val b.val = Q ∧
          Int.fdiv (-a.val) b.val = (if R = 0 then -(Q : Int) else -(Q : Int) - 1) ∧
          Int.fmod a.val b.val = M) ∨
       (sameSignClass a.sign b.sign = some false ∧
          Int.fdiv a.val b.val = (if R = 0 then -(Q : Int) else -(Q : Int) - 1) ∧
          Int.fdiv (-a.val) b.val = Q ∧
          Int.fmod a.val b.val = (if R = 0 then M else b.val - M))) := by
  subst hQ hR
  obtain ⟨sa, ma⟩ := a
  obtain ⟨sb, mb⟩ := b
  have hD : 0 < val mb := canon_val_pos hb.1 (mt (canon_mag_nil_iff hb).mp hb0)
  cases sb with
  | nosign => exact absurd rfl hb0
  | plus =>
    cases sa with
    | nosign =>
      -- `a = 0` counts as `+0` against a positive divisor
      obtain rfl : ma = [] := ha.2.mp rfl
      exact ⟨_, fromBiguint_ofNat_plus _, Int.natCast_eq_zero, .inl ⟨rfl, fdiv_pp _ _, fdiv_np _ _ hD, fmod_pp _ _⟩⟩
    | minus =>
      refine ⟨_, fromBiguint_ofNat_plus _, Int.natCast_eq_zero, .inr ⟨rfl, fdiv_np _ _ hD,
        by simp only [BigInt.val, neg_neg]; exact fdiv_pp _ _, ?_⟩⟩
      simp only [BigInt.val, fmod_np]; split <;> omega
    | plus =>
      exact ⟨_, fromBiguint_ofNat_plus _, Int.natCast_eq_zero, .inl ⟨rfl, fdiv_pp _ _, fdiv_np _ _ hD, fmod_pp _ _⟩⟩
  | minus =>
    have hM := Int.neg_eq_zero.trans (Int.natCast_eq_zero (n := val ma % val mb))
    cases sa with
    | nosign =>
      -- and as `-0` against a negative one
      obtain rfl : ma = [] := ha.2.mp rfl
      refine ⟨_, fromBiguint_ofNat_minus _, hM, .inr ⟨rfl, fdiv_pn _ _ hD, fdiv_nn _ _, ?_⟩⟩
      show Int.fmod ((val ([] : List Nat) : Nat) : Int) (-((val mb : Nat) : Int)) = _
      rw [fmod_pn]; simp only [BigInt.val]; split <;> omega
    | minus =>
      exact ⟨_, fromBiguint_ofNat_minus _, hM, .inl ⟨rfl, fdiv_nn _ _,
        by simp only [BigInt.val, neg_neg]; exact fdiv_pn _ _ hD, fmod_nn _ _⟩⟩
    | plus =>
      refine ⟨_, fromBiguint_ofNat_minus _, hM, .inr ⟨rfl, fdiv_pn _ _ hD, fdiv_nn _ _, ?_⟩⟩
      simp only [BigInt.val, fmod_pn]; split <;> omega

theorem bigint_isZero_iff {b : BigInt} (hb : b.Canon) : b.isZero = true ↔ b.val = 0 :=
  decide_eq_true_iff.trans (bigint_canon_sign hb).2.1

/-- a projection of an outcome `divzero iff c, else v` -/
theorem map_of_spec {α β} {x : Except Panic α} {c : Prop} [Decidable c] {v : α}
    (h : x = if c then .error .divzero else .ok v) (f : α → β) :
    x.map f = if c then .error .divzero else .ok (f v) := by
  rw [h]; split <;> rfl

/-- an outcome `divzero iff c, else v` is never an internal error -/
theorem not_internal_of_spec {α} {x : Except Panic α} {c : Prop} [Decidable c] {v : α}
    (h : x = if c then .error .divzero else .ok v) (tag : String) : x ≠ .error (.internal tag) := by
  rw [h]; split <;> simp

/-- the zero-divisor guard in front of an outcome `divzero iff zp, else v` -/
theorem checked_of_spec {α} (z : Bool) (zp : Prop) [Decidable zp] (hz : z = true ↔ zp) (f : Except Panic α) (v : α)
    (hf : f = if zp then .error .divzero else .ok v) :
    checked z f = .ok (if zp then none else some v) := by
  unfold checked
  by_cases h : zp
  · simp [h, hz.mpr h]
  · have : z = false := by
      cases z with
      | true => exact absurd (hz.mp rfl) h
      | false => rfl
    simp [h, this, hf, Except.map]

end NB
