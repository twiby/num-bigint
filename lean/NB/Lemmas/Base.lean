/- Facts about the vocabulary of NB/Base.lean only: `val`, `DigitsOk`, `normalize`, `Canon`, `ofNat`, `cmpSlice`,
   powers of `B` and bit facts about single digits, and the plumbing (`Except.map`, lifting from `ofNat`
   arguments to canonical lists) that every digit-level file uses.  Nothing here mentions a model operation. -/
import NB.Base
import Mathlib.Tactic.Ring
import Mathlib.Tactic.Linarith
import Mathlib.Data.List.Induction
namespace NB

theorem one_lt_B : 1 < B := by decide

theorem eq_nil_or_snoc {α : Type} (l : List α) : l = [] ∨ ∃ init t, l = init ++ [t] := by
  rcases List.eq_nil_or_concat l with h | ⟨init, t, h⟩
  · exact Or.inl h
  · exact Or.inr ⟨init, t, h.trans List.concat_eq_append⟩

theorem val_nil : val [] = 0 := rfl
theorem val_cons (d : Nat) (ds : List Nat) : val (d :: ds) = d + B * val ds := rfl
theorem val_singleton (d : Nat) : val [d] = d := by rw [val_cons, val_nil, Nat.mul_zero, Nat.add_zero]

theorem val_append (a b : List Nat) : val (a ++ b) = val a + B ^ a.length * val b := by
  induction a with
  | nil => simp [val]
  | cons d ds ih => simp only [List.cons_append, val, ih, List.length_cons, pow_succ]; ring

theorem val_split_at (a : List Nat) (n : Nat) : val a = val (a.take n) + B ^ n * val (a.drop n) := by
  induction a generalizing n with
  | nil => simp [val]
  | cons d ds ih =>
    cases n with
    | zero => simp [val]
    | succ n =>
      rw [List.take_succ_cons, List.drop_succ_cons, val_cons, val_cons, ih n, pow_succ]
      ring

theorem val_snoc (l : List Nat) (x : Nat) : val (l ++ [x]) = val l + x * B ^ l.length := by
  rw [val_append, val_singleton, Nat.mul_comm]

theorem val_cons_eq_zero {d : Nat} {ds : List Nat} : val (d :: ds) = 0 ↔ d = 0 ∧ val ds = 0 := by
  rw [val_cons, Nat.add_eq_zero_iff, Nat.mul_eq_zero, or_iff_right (Nat.ne_of_gt B_pos)]

theorem val_eq_zero_iff (l : List Nat) : val l = 0 ↔ ∀ d ∈ l, d = 0 := by
  induction l with
  | nil => simp [val]
  | cons a as ih => rw [val_cons_eq_zero, ih, List.forall_mem_cons]

theorem val_replicate_zero (n : Nat) : val (List.replicate n 0) = 0 :=
  (val_eq_zero_iff _).mpr fun _ h => List.eq_of_mem_replicate h

theorem even_B : B % 2 = 0 := by decide

theorem val_cons_mod_two (d : Nat) (ds : List Nat) : val (d :: ds) % 2 = d % 2 := by
  rw [val_cons, show B = 2 * 2 ^ 63 from by decide, Nat.mul_assoc, Nat.add_mul_mod_self_left]

theorem DigitsOk.nil : DigitsOk [] := by intro d h; cases h

theorem DigitsOk.cons {d : Nat} {ds : List Nat} (h : d < B) (hs : DigitsOk ds) : DigitsOk (d :: ds) := by
  intro x hx; cases hx with
  | head => exact h
  | tail _ h' => exact hs x h'

theorem DigitsOk.head {d : Nat} {ds : List Nat} (h : DigitsOk (d :: ds)) : d < B := h d (by simp)
theorem DigitsOk.tail {d : Nat} {ds : List Nat} (h : DigitsOk (d :: ds)) : DigitsOk ds :=
  fun x hx => h x (List.mem_cons_of_mem _ hx)

theorem DigitsOk.append {a b : List Nat} (ha : DigitsOk a) (hb : DigitsOk b) : DigitsOk (a ++ b) := by
  intro x hx; rcases List.mem_append.mp hx with h | h
  · exact ha x h
  · exact hb x h

theorem DigitsOk.take {a : List Nat} (n : Nat) (ha : DigitsOk a) : DigitsOk (a.take n) :=
  fun x hx => ha x (List.mem_of_mem_take hx)

theorem DigitsOk.drop {a : List Nat} (n : Nat) (ha : DigitsOk a) : DigitsOk (a.drop n) :=
  fun x hx => ha x (List.mem_of_mem_drop hx)

theorem DigitsOk.left {a b : List Nat} (h : DigitsOk (a ++ b)) : DigitsOk a :=
  fun x hx => h x (List.mem_append_left _ hx)
theorem DigitsOk.right {a b : List Nat} (h : DigitsOk (a ++ b)) : DigitsOk b :=
  fun x hx => h x (List.mem_append_right _ hx)

theorem digitsOk_replicate_zero (n : Nat) : DigitsOk (List.replicate n 0) := fun d hd => by
  rw [List.eq_of_mem_replicate hd]; exact B_pos

theorem digit_lt_of_mem {d : Nat} {ds : List Nat} (h : DigitsOk ds) (hd : d ∈ ds) : d < 2 ^ 64 :=
  B_eq ▸ h d hd

theorem add_mul_lt {lo P q T : Nat} (h1 : lo < P) (h2 : q < T) : lo + P * q < P * T :=
  calc lo + P * q < P * (q + 1) := by rw [Nat.mul_succ]; omega
    _ ≤ P * T := Nat.mul_le_mul_left _ h2

theorem val_lt {a : List Nat} (h : DigitsOk a) : val a < B ^ a.length := by
  induction a with
  | nil => exact Nat.one_pos
  | cons d ds ih => rw [List.length_cons, Nat.pow_succ']; exact add_mul_lt h.head (ih h.tail)

theorem normalize_cons (d : Nat) (ds : List Nat) :
    normalize (d :: ds) = if normalize ds = [] then (if d = 0 then [] else [d]) else d :: normalize ds := by
  rw [normalize]
  cases normalize ds <;> simp

theorem normalize_val (a : List Nat) : val (normalize a) = val a := by
  induction a with
  | nil => rfl
  | cons d ds ih =>
    rw [normalize_cons]
    by_cases hn : normalize ds = []
    · have h0 : val ds = 0 := by rw [← ih, hn]; rfl
      rw [if_pos hn, val_cons, h0, Nat.mul_zero, Nat.add_zero]
      by_cases hd : d = 0
      · rw [if_pos hd, hd]; rfl
      · rw [if_neg hd, val_singleton]
    · rw [if_neg hn, val_cons, val_cons, ih]

theorem normalize_digitsOk {a : List Nat} (h : DigitsOk a) : DigitsOk (normalize a) := by
  induction a with
  | nil => exact h
  | cons d ds ih =>
    rw [normalize_cons]
    split
    · split
      · exact DigitsOk.nil
      · exact DigitsOk.cons h.head DigitsOk.nil
    · exact DigitsOk.cons h.head (ih h.tail)

theorem normalize_getLast (a : List Nat) : (normalize a).getLast? ≠ some 0 := by
  induction a with
  | nil => simp [normalize]
  | cons d ds ih =>
    rw [normalize_cons]
    by_cases hn : normalize ds = []
    · rw [if_pos hn]
      by_cases hd : d = 0 <;> simp [hd]
    · rw [if_neg hn, List.getLast?_cons_of_ne_nil hn] <;> exact ih

theorem normalize_canon {a : List Nat} (h : DigitsOk a) : Canon (normalize a) :=
  ⟨normalize_digitsOk h, normalize_getLast a⟩

/-- `normalize` changes nothing when the top digit is not zero (proper digits are not needed) -/
theorem normalize_of_getLast_ne {a : List Nat} (h : a.getLast? ≠ some 0) : normalize a = a := by
  induction a with
  | nil => rfl
  | cons d ds ih =>
    cases ds with
    | nil =>
      have hd : d ≠ 0 := fun hd => h (by simp [hd])
      simp [normalize, hd]
    | cons e es =>
      have ht : normalize (e :: es) = e :: es := ih (by simpa [List.getLast?_cons_cons] using h)
      rw [normalize, ht]

theorem normalize_of_canon {a : List Nat} (h : Canon a) : normalize a = a := normalize_of_getLast_ne h.2

theorem canon_nil : Canon [] := ⟨DigitsOk.nil, by simp⟩

theorem canon_tail {d : Nat} {ds : List Nat} (h : Canon (d :: ds)) : Canon ds := by
  refine ⟨h.1.tail, ?_⟩
  have := h.2
  cases ds with
  | nil => simp
  | cons e es => simpa [List.getLast?_cons_cons] using this

theorem canon_val_zero {a : List Nat} (h : Canon a) (hv : val a = 0) : a = [] := by
  induction a with
  | nil => rfl
  | cons d ds ih =>
    obtain ⟨rfl, hvs⟩ := val_cons_eq_zero.mp hv
    rw [ih (canon_tail h) hvs] at h
    exact absurd rfl h.2

theorem canon_unique {a b : List Nat} (ha : Canon a) (hb : Canon b) (h : val a = val b) : a = b := by
  induction a generalizing b with
  | nil => exact (canon_val_zero hb (by simpa [val] using h.symm)).symm
  | cons d ds ih =>
    cases b with
    | nil => exact canon_val_zero ha (by simpa [val] using h)
    | cons e es =>
      have hd := ha.1.head
      have he := hb.1.head
      simp only [val] at h
      have h1 : d = e := by
        have := congrArg (· % B) h
        simp only [Nat.add_mul_mod_self_left] at this
        rwa [Nat.mod_eq_of_lt hd, Nat.mod_eq_of_lt he] at this
      subst h1
      have h2 : val ds = val es := by
        have : B * val ds = B * val es := by omega
        exact Nat.eq_of_mul_eq_mul_left B_pos this
      rw [ih (canon_tail ha) (canon_tail hb) h2]

theorem canon_val_pos {a : List Nat} (h : Canon a) (hne : a ≠ []) : 0 < val a :=
  Nat.pos_of_ne_zero fun h0 => hne (canon_val_zero h h0)

theorem canon_val_ge {a : List Nat} (h : Canon a) (hne : a ≠ []) : B ^ (a.length - 1) ≤ val a := by
  induction a with
  | nil => exact absurd rfl hne
  | cons d ds ih =>
    cases ds with
    | nil =>
      have : d ≠ 0 := by intro hd; exact h.2 (by simp [hd])
      simp [val]; omega
    | cons e es =>
      have := ih (canon_tail h) (by simp)
      simp only [val, List.length_cons, Nat.add_sub_cancel] at this ⊢
      calc B ^ (es.length + 1) = B * B ^ es.length := by ring
        _ ≤ B * (e + B * val es) := Nat.mul_le_mul_left _ this
        _ ≤ d + B * (e + B * val es) := Nat.le_add_left _ _

theorem val_lt_of_getLast_zero {r : List Nat} (h : DigitsOk r) (h0 : r.getLast? = some 0) :
    val r < B ^ (r.length - 1) := by
  rcases eq_nil_or_snoc r with hr | ⟨init, x, rfl⟩
  · subst hr; simp at h0
  · have hx : x = 0 := by simpa using h0
    subst hx
    rw [val_snoc, Nat.zero_mul, Nat.add_zero, List.length_append, List.length_singleton, Nat.add_sub_cancel]
    exact val_lt h.left

/-- a proper digit list whose value reaches `B^(len-1)` has a non-zero top digit -/
theorem canon_of_val_ge {r : List Nat} (h : DigitsOk r) (hge : r ≠ [] → B ^ (r.length - 1) ≤ val r) : Canon r := by
  refine ⟨h, ?_⟩
  intro h0
  have hne : r ≠ [] := by intro hr; subst hr; simp at h0
  have := val_lt_of_getLast_zero h h0
  have := hge hne
  omega

theorem canon_append_singleton {r : List Nat} {c : Nat} (h : DigitsOk r) (hc : c < B) (hc0 : c ≠ 0) : Canon (r ++ [c]) := by
  refine ⟨h.append (DigitsOk.cons hc DigitsOk.nil), ?_⟩
  simp [hc0]

theorem canon_singleton_iff {d : Nat} : Canon [d] ↔ d ≠ 0 ∧ d < B :=
  ⟨fun h => ⟨fun h0 => h.2 (by simp [h0]), h.1 d (by simp)⟩,
   fun h => ⟨DigitsOk.cons h.2 DigitsOk.nil, by simp [h.1]⟩⟩

theorem canon_one : Canon [1] := by decide

theorem ofNat_zero : ofNat 0 = [] := by unfold ofNat; simp

theorem ofNat_of_ne_zero {n : Nat} (h : n ≠ 0) : ofNat n = n % B :: ofNat (n / B) := by
  rw [ofNat, dif_neg h]

theorem ofNat_val (n : Nat) : val (ofNat n) = n := by
  induction n using Nat.strongRecOn with
  | _ n ih =>
    by_cases h : n = 0
    · rw [h, ofNat_zero]; rfl
    · rw [ofNat_of_ne_zero h, val_cons, ih (n / B) (Nat.div_lt_self (Nat.pos_of_ne_zero h) one_lt_B)]
      exact Nat.mod_add_div n B

theorem ofNat_eq_nil_iff (n : Nat) : ofNat n = [] ↔ n = 0 :=
  ⟨fun h => by have := congrArg val h; rwa [ofNat_val, val_nil] at this, fun h => h ▸ ofNat_zero⟩

theorem ofNat_digitsOk (n : Nat) : DigitsOk (ofNat n) := by
  induction n using Nat.strongRecOn with
  | _ n ih =>
    by_cases h : n = 0
    · rw [h, ofNat_zero]; exact DigitsOk.nil
    · rw [ofNat_of_ne_zero h]
      exact DigitsOk.cons (Nat.mod_lt _ B_pos) (ih (n / B) (Nat.div_lt_self (Nat.pos_of_ne_zero h) one_lt_B))

theorem ofNat_canon (n : Nat) : Canon (ofNat n) := by
  refine ⟨ofNat_digitsOk n, ?_⟩
  induction n using Nat.strongRecOn with
  | _ n ih =>
    by_cases h : n = 0
    · rw [h, ofNat_zero]; simp
    · have := ih (n / B) (Nat.div_lt_self (Nat.pos_of_ne_zero h) one_lt_B)
      rw [ofNat_of_ne_zero h]
      cases hl : ofNat (n / B) with
      | nil =>
        -- the quotient is zero, so `n` is its own last digit
        have hq : n / B = 0 := (ofNat_eq_nil_iff _).mp hl
        have hn : n % B = n := Nat.mod_eq_of_lt ((Nat.div_eq_zero_iff_lt B_pos).mp hq)
        simp [hn, h]
      | cons e es =>
        rw [hl] at this
        simpa [List.getLast?_cons_cons] using this

/-- a canonical digit list is determined by its value -/
theorem canon_eq_ofNat {a : List Nat} (h : Canon a) : a = ofNat (val a) :=
  canon_unique h (ofNat_canon _) (ofNat_val _).symm

/-- the canonical digits of a value given by any proper digit list -/
theorem normalize_eq_ofNat {a : List Nat} (h : DigitsOk a) : normalize a = ofNat (val a) := by
  have := canon_eq_ofNat (normalize_canon h)
  rwa [normalize_val] at this

theorem ofNat_digit {d : Nat} (h0 : d ≠ 0) (h : d < B) : ofNat d = [d] := by
  have := canon_eq_ofNat (canon_singleton_iff.mpr ⟨h0, h⟩)
  rw [val_singleton] at this
  exact this.symm

theorem ofNat_one : ofNat 1 = [1] := ofNat_digit (by decide) (by decide)

theorem ofNat_eq_one_iff (n : Nat) : ofNat n = [1] ↔ n = 1 :=
  ⟨fun h => by have := ofNat_val n; rw [h, val_singleton] at this; exact this.symm, fun h => h ▸ ofNat_one⟩

/-- digits `r` with carry-out `k` of a value that reaches the top digit of `r`: pushing the carry when it
    is non-zero gives the canonical digits -/
theorem push_carry_spec {r : List Nat} {k v : Nat} (hr : DigitsOk r) (hk : k ≤ 1)
    (hv : val r + B ^ r.length * k = v) (hge : r ≠ [] → B ^ (r.length - 1) ≤ v) :
    (if k ≠ 0 then r ++ [k] else r) = ofNat v := by
  by_cases hk0 : k = 0
  · subst hk0
    have hc : Canon r := canon_of_val_ge hr (fun hne => by have := hge hne; omega)
    rw [if_neg (by simp)]
    exact (canon_eq_ofNat hc).trans (congrArg ofNat (by omega))
  · have hc : Canon (r ++ [k]) := canon_append_singleton hr (Nat.lt_of_le_of_lt hk (by decide)) hk0
    rw [if_pos hk0]
    exact (canon_eq_ofNat hc).trans (congrArg ofNat (by rw [val_append, val_singleton]; omega))

/-- a number between `B^(m-1)` and `B^n` has at most `n` digits when `m` counts them -/
theorem le_of_pow_pred_le_of_lt {m n x : Nat} (h1 : B ^ (m - 1) ≤ x) (h2 : x < B ^ n) : m ≤ n :=
  Nat.le_of_pred_lt ((Nat.pow_lt_pow_iff_right one_lt_B).mp (Nat.lt_of_le_of_lt h1 h2))

theorem ofNat_length_le (v n : Nat) (h : v < B ^ n) : (ofNat v).length ≤ n := by
  by_cases hne : ofNat v = []
  · rw [hne]; exact Nat.zero_le _
  · have h1 := canon_val_ge (ofNat_canon v) hne
    rw [ofNat_val] at h1
    exact le_of_pow_pred_le_of_lt h1 h

theorem ofNat_length_le_of_le_val {n : Nat} {a : List Nat} (ha : DigitsOk a) (h : n ≤ val a) :
    (ofNat n).length ≤ a.length :=
  ofNat_length_le n a.length (Nat.lt_of_le_of_lt h (val_lt ha))

theorem canon_length_le_iff {x : List Nat} (h : Canon x) (k : Nat) : x.length ≤ k ↔ val x < B ^ k := by
  constructor
  · intro hk
    exact Nat.lt_of_lt_of_le (val_lt h.1) (Nat.pow_le_pow_right B_pos hk)
  · intro hv
    rw [canon_eq_ofNat h]
    exact ofNat_length_le _ _ hv

theorem length_ge_of_val_ge {l : List Nat} (h : DigitsOk l) {n : Nat} (hge : B ^ (n - 1) ≤ val l) :
    n ≤ l.length :=
  le_of_pow_pred_le_of_lt hge (val_lt h)

theorem val_lt_of_length_lt {a b : List Nat} (ha : DigitsOk a) (hb : Canon b) (h : a.length < b.length) :
    val a < val b :=
  calc val a < B ^ a.length := val_lt ha
    _ ≤ B ^ (b.length - 1) := Nat.pow_le_pow_right B_pos (by omega)
    _ ≤ val b := canon_val_ge hb (by rintro rfl; simp at h)

/-- with equally long lower parts the top digit decides -/
theorem val_concat_lt {a b : List Nat} (hl : a.length = b.length) (ha : DigitsOk a) {x y : Nat}
    (hxy : x < y) : val (a ++ [x]) < val (b ++ [y]) := by
  rw [val_append, val_append, ← hl, val_singleton, val_singleton]
  calc val a + B ^ a.length * x < B ^ a.length + B ^ a.length * x := Nat.add_lt_add_right (val_lt ha) _
    _ = B ^ a.length * (x + 1) := by ring
    _ ≤ B ^ a.length * y := Nat.mul_le_mul_left _ hxy
    _ ≤ val b + B ^ a.length * y := Nat.le_add_left _ _

theorem cmpRev_spec : ∀ (a b : List Nat), a.length = b.length → DigitsOk a → DigitsOk b →
    cmpRev a.reverse b.reverse = compare (val a) (val b) := by
  intro a
  induction a using List.reverseRecOn with
  | nil =>
    intro b hl _ _
    rw [List.length_eq_zero_iff.mp hl.symm]; rfl
  | append_singleton as x ih =>
    intro b hl ha hb
    rcases eq_nil_or_snoc b with rfl | ⟨bs, y, rfl⟩
    · simp at hl
    · have hlen : as.length = bs.length := by simpa using hl
      rw [List.reverse_append, List.reverse_append]
      simp only [List.reverse_singleton, List.singleton_append, cmpRev]
      rcases Nat.lt_trichotomy x y with hxy | rfl | hxy
      · rw [if_pos hxy, Nat.compare_eq_lt.mpr (val_concat_lt hlen ha.left hxy)]
      · rw [if_neg (Nat.lt_irrefl x), if_neg (Nat.lt_irrefl x), ih bs hlen ha.left hb.left,
          val_append, val_append, hlen]
        simp only [Nat.compare_eq_ite_lt, Nat.add_lt_add_iff_right]
      · rw [if_neg (Nat.lt_asymm hxy), if_pos hxy,
          Nat.compare_eq_gt.mpr (val_concat_lt hlen.symm hb.left hxy)]

theorem cmpSlice_spec {a b : List Nat} (ha : Canon a) (hb : Canon b) :
    cmpSlice a b = compare (val a) (val b) := by
  unfold cmpSlice
  rcases Nat.lt_trichotomy a.length b.length with h | h | h
  · rw [if_pos h, Nat.compare_eq_lt.mpr (val_lt_of_length_lt ha.1 hb h)]
  · rw [if_neg (by omega), if_neg (by omega)]
    exact cmpRev_spec a b h ha.1 hb.1
  · rw [if_neg (Nat.lt_asymm h), if_pos h, Nat.compare_eq_gt.mpr (val_lt_of_length_lt hb.1 ha h)]

theorem cmpSlice_ofNat (a b : Nat) : cmpSlice (ofNat a) (ofNat b) = compare a b := by
  rw [cmpSlice_spec (ofNat_canon a) (ofNat_canon b), ofNat_val, ofNat_val]

theorem B_pow (n : Nat) : B ^ n = 2 ^ (64 * n) := by rw [B_eq, ← Nat.pow_mul]

theorem pow2_split {x y z : Nat} (h : y + z = x) : (2 : Nat) ^ x = 2 ^ y * 2 ^ z := by
  rw [← h, Nat.pow_add]

theorem pow2_succ {x y : Nat} (h : y + 1 = x) : (2 : Nat) ^ x = 2 * 2 ^ y := by
  rw [← h, Nat.pow_succ, Nat.mul_comm]

theorem B_split {s : Nat} (hs : s ≤ 64) : B = 2 ^ (64 - s) * 2 ^ s :=
  B_eq.trans (pow2_split (Nat.sub_add_cancel hs))

/-- a low part below `2^k` and a multiple of `2^k` have disjoint bits: `or` is addition -/
theorem or_eq_add_of_lt {k x : Nat} (t : Nat) (hx : x < 2 ^ k) : x ||| (2 ^ k * t) = x + 2 ^ k * t := by
  rw [Nat.or_comm, Nat.mul_comm, ← Nat.shiftLeft_eq, ← Nat.shiftLeft_add_eq_or_of_lt hx, Nat.add_comm]

/-- the same with the high part written as a shift reduced mod `B`, as the digit loops compute it -/
theorem or_shl_mod_eq {k lo hi : Nat} (hk : k ≤ 64) (hl : lo < 2 ^ k) :
    lo ||| ((hi <<< k) % B) = lo + 2 ^ k * (hi % 2 ^ (64 - k)) := by
  rw [Nat.shiftLeft_eq, B_split hk, Nat.mul_mod_mul_right, Nat.mul_comm (hi % _), or_eq_add_of_lt _ hl]

/-- all-ones mask: xor is the complement -/
theorem xor_two_pow_sub_one {k d : Nat} (h : d < 2 ^ k) : d ^^^ (2 ^ k - 1) = 2 ^ k - 1 - d := by
  apply Nat.eq_of_testBit_eq; intro i
  rw [Nat.testBit_xor, Nat.testBit_two_pow_sub_one, Nat.sub_sub, Nat.add_comm 1 d,
    Nat.testBit_two_pow_sub_succ h]
  by_cases hi : i < k
  · simp [hi]
  · simp only [hi, decide_false, Bool.false_and, Bool.bne_false]
    exact Nat.testBit_lt_two_pow (Nat.lt_of_lt_of_le h (Nat.pow_le_pow_right Nat.two_pos (Nat.le_of_not_lt hi)))

/-- floor division of a negated natural number -/
theorem neg_ediv_pow (A k : Nat) :
    (-(A : Int)) / (2 : Int) ^ k =
      -((A / 2 ^ k : Nat) : Int) - (if A % 2 ^ k = 0 then 0 else 1) := by
  have hs : ((2 ^ k : Nat) : Int).sign = 1 :=
    Int.sign_eq_one_of_pos (Int.natCast_pos.2 (Nat.pow_pos Nat.two_pos))
  rw [show (2 : Int) ^ k = ((2 ^ k : Nat) : Int) from (Int.natCast_pow 2 k).symm, Int.neg_ediv, hs,
    Int.natCast_ediv]
  simp only [Int.natCast_dvd_natCast, Nat.dvd_iff_mod_eq_zero]

theorem Except.map_map {ε α β γ} (f : α → β) (g : β → γ) (x : Except ε α) :
    (x.map f).map g = x.map (fun a => g (f a)) := by
  cases x <;> rfl

theorem Except.map_congr {ε α β} {f g : α → β} (x : Except ε α) (h : ∀ a, f a = g a) : x.map f = x.map g := by
  cases x
  · rfl
  · simp only [Except.map, h]

theorem Except.map_ite {ε α β} (c : Prop) [Decidable c] (f : α → β) (e : ε) (x : α) :
    (if c then Except.error e else Except.ok x).map f = if c then .error e else .ok (f x) := by
  split <;> rfl

/-- refinement through `if`: both sides branch on the same condition -/
theorem ite_map {α β : Type} {g : α → β} {c : Prop} [Decidable c] {aD bD : Except Panic β}
    {a b : Except Panic α} (ha : c → aD = a.map g) (hb : ¬ c → bD = b.map g) :
    (if c then aD else bD) = (if c then a else b).map g := by
  split
  · exact ha ‹_›
  · exact hb ‹_›

/-- refinement through the propagation of a panic: the digit-level continuation is only met on `ofNat v` -/
theorem bind_map {β δ : Type} {g : β → δ} (r : Except Panic Nat) {kD : List Nat → Except Panic δ}
    {k : Nat → Except Panic β} (h : ∀ v, kD (ofNat v) = (k v).map g) :
    (match r.map ofNat with
      | .error e => .error e
      | .ok y => kD y : Except Panic δ) =
    (match r with
      | .error e => .error e
      | .ok v => k v : Except Panic β).map g := by
  cases r with
  | error e => rfl
  | ok v => exact h v

/-- a statement proved on `ofNat` states holds of canonical operands (likewise for two operands) -/
theorem canon_lift {α : Sort _} {f : List Nat → α} {g : Nat → α} (h : ∀ x, f (ofNat x) = g x)
    {a : List Nat} (ha : Canon a) : f a = g (val a) :=
  (congrArg f (canon_eq_ofNat ha)).trans (h (val a))

theorem canon_lift₂ {α : Sort _} {f : List Nat → List Nat → α} {g : Nat → Nat → α}
    (h : ∀ x y, f (ofNat x) (ofNat y) = g x y) {a b : List Nat} (ha : Canon a) (hb : Canon b) :
    f a b = g (val a) (val b) :=
  (congrArg₂ f (canon_eq_ofNat ha) (canon_eq_ofNat hb)).trans (h (val a) (val b))

/-- the same under a side condition on both operands (a size bound) -/
theorem canon_lift₂_of {α : Sort _} {p : List Nat → Prop} {f : List Nat → List Nat → α} {g : Nat → Nat → α}
    (h : ∀ x y, p (ofNat x) → p (ofNat y) → f (ofNat x) (ofNat y) = g x y) {a b : List Nat}
    (ha : Canon a) (hb : Canon b) (hpa : p a) (hpb : p b) : f a b = g (val a) (val b) := by
  rw [canon_eq_ofNat ha] at hpa
  rw [canon_eq_ofNat hb] at hpb
  exact (congrArg₂ f (canon_eq_ofNat ha) (canon_eq_ofNat hb)).trans (h _ _ hpa hpb)

/-- the drivers' `pU`: limbs are checked to be digits and normalised, as `BigUint::new` does -/
theorem checked_normalize_canon {o : Option (List Nat)} {a : List Nat}
    (h : (do let l ← o; if l.all (fun d => decide (d < B)) then pure (normalize l) else none) = some a) :
    Canon a := by
  obtain ⟨l, -, hl⟩ := Option.bind_eq_some_iff.mp h
  by_cases hall : l.all (fun d => decide (d < B)) = true
  · rw [if_pos hall] at hl
    cases hl
    exact normalize_canon fun d hd => of_decide_eq_true (List.all_eq_true.mp hall d hd)
  · rw [if_neg hall] at hl; cases hl

end NB
