/- helper lemmas for C18: word lists, packing u32 words into u64 digits, the top-word shift,
   `bits`, the explicit inverse of the candidate map, the two rejection loops -/
import NB.Lemmas.Canon
import NB.Model.Rand
namespace NB.Rand

theorem WB_pos : 0 < WB := by decide
theorem WB_sq : WB * WB = B := by decide

theorem WordsOk.nil : WordsOk [] := fun _ h => nomatch h
theorem WordsOk.cons {w : Nat} {ws : List Nat} (h : w < WB) (hs : WordsOk ws) : WordsOk (w :: ws) :=
  List.forall_mem_cons.mpr ⟨h, hs⟩
theorem WordsOk.head {w : Nat} {ws : List Nat} (h : WordsOk (w :: ws)) : w < WB := (List.forall_mem_cons.mp h).1
theorem WordsOk.tail {w : Nat} {ws : List Nat} (h : WordsOk (w :: ws)) : WordsOk ws := (List.forall_mem_cons.mp h).2
theorem WordsOk.append {a b : List Nat} (ha : WordsOk a) (hb : WordsOk b) : WordsOk (a ++ b) :=
  List.forall_mem_append.mpr ⟨ha, hb⟩
theorem WordsOk.of_append {a b : List Nat} (h : WordsOk (a ++ b)) : WordsOk a ∧ WordsOk b :=
  List.forall_mem_append.mp h
theorem WordsOk.take {a : List Nat} (n : Nat) (ha : WordsOk a) : WordsOk (a.take n) :=
  fun x hx => ha x (List.mem_of_mem_take hx)
theorem WordsOk.drop {a : List Nat} (n : Nat) (ha : WordsOk a) : WordsOk (a.drop n) :=
  fun x hx => ha x (List.mem_of_mem_drop hx)
theorem WordsOk.replicate_zero (k : Nat) : WordsOk (List.replicate k 0) :=
  fun _ hx => (List.eq_of_mem_replicate hx) ▸ WB_pos

theorem wordsVal_append (a b : List Nat) : wordsVal (a ++ b) = wordsVal a + WB ^ a.length * wordsVal b := by
  induction a with
  | nil => simp [wordsVal]
  | cons d ds ih =>
    rw [List.cons_append, wordsVal, ih, wordsVal, List.length_cons, Nat.pow_succ', Nat.mul_add, Nat.mul_assoc,
      Nat.add_assoc]

theorem wordsVal_lt {a : List Nat} (h : WordsOk a) : wordsVal a < WB ^ a.length := by
  induction a with
  | nil => exact Nat.one_pos
  | cons d ds ih => rw [List.length_cons, Nat.pow_succ']; exact add_mul_lt h.head (ih h.tail)

theorem wordsVal_replicate_zero (k : Nat) : wordsVal (List.replicate k 0) = 0 := by
  induction k with
  | zero => rfl
  | succ k ih => simp [List.replicate_succ, wordsVal, ih]

/-- the u64 view of a u32 buffer has the same value -/
theorem packWords_val (ws : List Nat) : val (packWords ws) = wordsVal ws := by
  fun_induction packWords ws with
  | case1 => rfl
  | case2 a => simp [val, wordsVal]
  | case3 a b t ih => simp only [val, wordsVal, ih, ← WB_sq]; ring

theorem packWords_ok {ws : List Nat} (h : WordsOk ws) : DigitsOk (packWords ws) := by
  fun_induction packWords ws with
  | case1 => exact DigitsOk.nil
  | case2 a => exact DigitsOk.cons (Nat.lt_trans h.head (by decide)) DigitsOk.nil
  | case3 a b t ih => exact DigitsOk.cons (WB_sq ▸ add_mul_lt h.head h.tail.head) (ih h.tail.tail)

theorem shrLast_length (s : Nat) (ws : List Nat) : (shrLast s ws).length = ws.length := by
  fun_induction shrLast s ws <;> simp_all

theorem shrLast_ok {s : Nat} {ws : List Nat} (h : WordsOk ws) : WordsOk (shrLast s ws) := by
  fun_induction shrLast s ws with
  | case1 => exact h
  | case2 w => exact .cons (Nat.lt_of_le_of_lt (Nat.div_le_self _ _) h.head) .nil
  | case3 w ws hne ih => exact .cons h.head (ih h.tail)

/-- `data[last] >>= s` -/
theorem shrLast_snoc (s : Nat) (lo : List Nat) (top : Nat) : shrLast s (lo ++ [top]) = lo ++ [top / 2 ^ s] := by
  induction lo with
  | nil => rfl
  | cons w lo ih =>
    cases lo with
    | nil => rfl
    | cons v lo => exact congrArg (w :: ·) ih

theorem exists_snoc {ws : List Nat} {k : Nat} (h : ws.length = k + 1) :
    ∃ lo top, ws = lo ++ [top] ∧ lo.length = k := by
  rcases eq_nil_or_snoc ws with rfl | ⟨lo, top, rfl⟩
  · cases h
  · exact ⟨lo, top, rfl, by simpa using h⟩

theorem bindE_ok_some {α β : Type} (v : α) (t : Tape) (f : α → Except Panic β) :
    R.bindE (.ok (some (v, t))) f = match f v with | .error p => .error p | .ok w => .ok (some (w, t)) := rfl

theorem specLen_of_rem_zero {n : Nat} (h : n % WBITS = 0) : specLen n = n / WBITS := by
  unfold specLen; rw [h]; rfl

theorem specLen_of_rem_pos {n : Nat} (h : n % WBITS ≠ 0) : specLen n = n / WBITS + 1 := by
  unfold specLen; rw [if_pos (Nat.pos_of_ne_zero h)]

theorem specLen_pos {n : Nat} (h : 0 < n) : 0 < specLen n := by
  by_cases hr : n % WBITS = 0
  · rw [specLen_of_rem_zero hr]
    exact Nat.div_pos (Nat.le_of_dvd h (Nat.dvd_of_mod_eq_zero hr)) (by decide)
  · rw [specLen_of_rem_pos hr]; exact Nat.succ_pos _

theorem two_pow_split (n : Nat) : 2 ^ n = WB ^ (n / WBITS) * 2 ^ (n % WBITS) := by
  rw [WB_eq, ← Nat.pow_mul, ← Nat.pow_add, Nat.div_add_mod]

theorem WB_split {r : Nat} (h : r ≤ WBITS) : WB = 2 ^ (WBITS - r) * 2 ^ r :=
  WB_eq.trans (pow2_split (Nat.sub_add_cancel h))

theorem pad_bits {n : Nat} (hr : n % WBITS ≠ 0) : WBITS * specLen n - n = WBITS - n % WBITS := by
  have := Nat.add_sub_add_left (WBITS * (n / WBITS)) WBITS (n % WBITS)
  rwa [Nat.div_add_mod, ← Nat.mul_succ, Nat.succ_eq_add_one, ← specLen_of_rem_pos hr] at this

theorem pad_bits_zero {n : Nat} (hr : n % WBITS = 0) : WBITS * specLen n - n = 0 := by
  rw [specLen_of_rem_zero hr]; exact Nat.sub_eq_zero_of_le (Nat.mul_div_le n WBITS)

theorem divCeil_bounds (a : Nat) {b : Nat} (hb : 0 < b) : a ≤ b * divCeil a b ∧ b * divCeil a b < a + b := by
  have h1 := Nat.div_add_mod a b
  have h2 := Nat.mod_lt a hb
  unfold divCeil
  split <;> rw [Nat.mul_add] <;> omega

/-- the native buffer holds the `specLen n` words, with at most one spare: both counts are ceilings -/
theorem specLen_native (n : Nat) : specLen n ≤ divCeil n DBITS * 2 ∧ divCeil n DBITS * 2 ≤ specLen n + 1 := by
  have h1 := divCeil_bounds n (show 0 < DBITS by decide)
  have h2 : n ≤ WBITS * specLen n ∧ WBITS * specLen n < n + WBITS := divCeil_bounds n (by decide)
  unfold DBITS at *; unfold WBITS at *
  omega

theorem specLen_pad (n : Nat) :
    divCeil n 64 * 2 - (n / 32 + (if n % 32 > 0 then 1 else 0)) ≤ 1 :=
  Nat.sub_le_iff_le_add'.mpr (specLen_native n).2

/-- when `n % 32 ≠ 0` the `specLen n` words are `n / 32` full ones and a top word, of which
    `cand` keeps the high `n % 32` bits and `discarded` the rest -/
theorem cand_snoc {n : Nat} (hr : n % WBITS ≠ 0) {lo : List Nat} (top : Nat) (hl : lo.length = n / WBITS) :
    cand n (lo ++ [top]) = wordsVal lo + WB ^ (n / WBITS) * (top / 2 ^ (WBITS - n % WBITS)) ∧
    discarded n (lo ++ [top]) = top % 2 ^ (WBITS - n % WBITS) := by
  have e : specLen n - 1 = lo.length := by rw [specLen_of_rem_pos hr, hl]; rfl
  unfold cand discarded
  rw [if_neg hr, if_neg hr, e, List.take_left' rfl, List.getD_eq_getElem?_getD, List.getElem?_concat_length, hl]
  exact ⟨rfl, rfl⟩

theorem cand_lt (n : Nat) (ws : List Nat) (hok : WordsOk ws) (hl : ws.length = specLen n) :
    cand n ws < 2 ^ n := by
  rw [two_pow_split n]
  by_cases hr : n % WBITS = 0
  · have := wordsVal_lt hok
    rw [hl, specLen_of_rem_zero hr] at this
    rwa [hr, Nat.pow_zero, Nat.mul_one, cand, if_pos hr]
  · obtain ⟨lo, top, rfl, hlo⟩ := exists_snoc (hl.trans (specLen_of_rem_pos hr))
    obtain ⟨h1, h2⟩ := hok.of_append
    rw [(cand_snoc hr top hlo).1]
    refine add_mul_lt (hlo ▸ wordsVal_lt h1) (Nat.div_lt_of_lt_mul ?_)
    rw [← WB_split (Nat.le_of_lt (Nat.mod_lt n (by decide)))]
    exact h2.head

/-- `gen_bits` on a long enough tape: the data words, the top one shifted, denote the candidate -/
theorem genBits_spec (rp : RandParams) (hv : rp.Valid) (n : Nat) (tape : Tape) (ht : WordsOk tape)
    (hl : ¬ tape.length < specLen n) :
    ∃ ws, genBits rp (specLen n) (n % WBITS) tape = .ok (some (ws, tape.drop (specLen n))) ∧
      WordsOk ws ∧ wordsVal ws = cand n (tape.take (specLen n)) := by
  have hlen : (tape.take (specLen n)).length = specLen n := List.length_take_of_le (Nat.not_lt.mp hl)
  have hok := ht.take (specLen n)
  obtain ⟨_, hshift, _⟩ := hv
  simp only [genBits, fill, if_neg hl, hshift]
  by_cases hr : n % WBITS = 0
  · refine ⟨_, by rw [hr]; rfl, hok, ?_⟩
    rw [cand, if_pos hr]
  · obtain ⟨lo, top, e, hlo⟩ := exists_snoc (hlen.trans (specLen_of_rem_pos hr))
    have hrl := Nat.mod_lt n (show 0 < WBITS by decide)
    rw [if_pos (Nat.pos_of_ne_zero hr), if_neg (specLen_of_rem_pos hr ▸ Nat.succ_ne_zero _),
      if_neg (Nat.not_lt.mpr hrl.le), if_neg (Nat.not_le.mpr (Nat.sub_lt (by decide) (Nat.pos_of_ne_zero hr)))]
    refine ⟨_, rfl, shrLast_ok hok, ?_⟩
    rw [e, shrLast_snoc, wordsVal_append, (cand_snoc hr top hlo).1, hlo]
    simp [wordsVal]

theorem genBiguint_spec (rp : RandParams) (hv : rp.Valid) (n : Nat) (tape : Tape) (ht : WordsOk tape) :
    genBiguint rp n tape = .ok ((genSpec n tape).map fun (c, t) => (ofNat c, t)) := by
  unfold genBiguint genSpec
  obtain ⟨hdiv, _, hnative⟩ := id hv
  simp only [hdiv, hnative]
  rw [show n / WBITS + (if n % WBITS > 0 then 1 else 0) = specLen n from rfl, if_neg (Nat.not_lt.mpr (specLen_native n).1)]
  by_cases hs : tape.length < specLen n
  · simp only [genBits, fill, if_pos hs]; rfl
  · obtain ⟨ws, hg, hok, hval⟩ := genBits_spec rp hv n tape ht hs
    rw [hg, bindE_ok_some, if_neg hs, normalize_eq_ofNat (packWords_ok (hok.append (.replicate_zero _))),
      packWords_val, wordsVal_append, wordsVal_replicate_zero, Nat.mul_zero, Nat.add_zero, hval]
    rfl

theorem wordsOf_length (k x : Nat) : (wordsOf k x).length = k := by
  induction k generalizing x with
  | zero => rfl
  | succ k ih => simp [wordsOf, ih]

theorem wordsOf_ok (k x : Nat) : WordsOk (wordsOf k x) := by
  induction k generalizing x with
  | zero => exact WordsOk.nil
  | succ k ih => exact WordsOk.cons (Nat.mod_lt _ WB_pos) (ih _)

theorem wordsOf_val (k x : Nat) : wordsVal (wordsOf k x) = x % WB ^ k := by
  induction k generalizing x with
  | zero => simp [wordsOf, wordsVal, Nat.mod_one]
  | succ k ih =>
    simp only [wordsOf, wordsVal, ih, pow_succ]
    rw [Nat.mul_comm (WB ^ k) WB, Nat.mod_mul]

theorem wordsOf_wordsVal (ws : List Nat) (h : WordsOk ws) : wordsOf ws.length (wordsVal ws) = ws := by
  induction ws with
  | nil => rfl
  | cons w ws ih =>
    have hw := h.head
    simp only [List.length_cons, wordsOf, wordsVal]
    rw [Nat.add_mul_mod_self_left, Nat.mod_eq_of_lt hw, Nat.add_mul_div_left _ _ WB_pos,
      Nat.div_eq_of_lt hw, Nat.zero_add, ih h.tail]

theorem encode_decode (n : Nat) (ws : List Nat) (hok : WordsOk ws) (hl : ws.length = specLen n) :
    encode n (cand n ws) (discarded n ws) = ws := by
  unfold encode
  by_cases hr : n % WBITS = 0
  · rw [if_pos hr, cand, if_pos hr, ← hl]; exact wordsOf_wordsVal ws hok
  · obtain ⟨lo, top, rfl, hlo⟩ := exists_snoc (hl.trans (specLen_of_rem_pos hr))
    have hlow := wordsVal_lt hok.of_append.1
    rw [hlo] at hlow
    rw [if_neg hr, specLen_of_rem_pos hr, Nat.add_sub_cancel, (cand_snoc hr _ hlo).1, (cand_snoc hr _ hlo).2,
      Nat.add_mul_mod_self_left, Nat.mod_eq_of_lt hlow, Nat.add_mul_div_left _ _ (Nat.pow_pos WB_pos),
      Nat.div_eq_of_lt hlow, Nat.zero_add, Nat.div_add_mod', ← hlo, wordsOf_wordsVal lo hok.of_append.1]

theorem log2_add_mul {m lo d : Nat} (hlo : lo < 2 ^ m) (hd : d ≠ 0) :
    lo + 2 ^ m * d ≠ 0 ∧ (lo + 2 ^ m * d).log2 = m + d.log2 := by
  have hne : lo + 2 ^ m * d ≠ 0 := by
    have := Nat.mul_pos (Nat.two_pow_pos m) (Nat.pos_of_ne_zero hd); omega
  rw [Nat.log2_eq_iff hne, Nat.add_assoc, Nat.pow_add, Nat.pow_add]
  exact ⟨hne, Nat.le_trans (Nat.mul_le_mul_left _ (Nat.log2_self_le hd)) (Nat.le_add_left ..),
    add_mul_lt hlo Nat.lt_log2_self⟩

/-- `BigUint::bits` of a canonical value is the bit length of the number -/
theorem bits_eq_natBits {a : List Nat} (ha : Canon a) : bits a = natBits (val a) := by
  unfold bits natBits
  cases hlast : a.getLast? with
  | none => rw [List.getLast?_eq_none_iff.mp hlast]; rfl
  | some d =>
    obtain ⟨init, rfl⟩ := List.getLast?_eq_some_iff.mp hlast
    have hd0 : d ≠ 0 := fun h => ha.2 (h ▸ hlast)
    have hL : d.log2 < 64 := (Nat.log2_lt hd0).mpr (ha.1 d (by simp))
    have hinit := val_lt ha.1.left
    have hv : val (init ++ [d]) = val init + 2 ^ (64 * init.length) * d := by
      rw [val_append, B_pow]; simp [val]
    rw [B_pow] at hinit
    obtain ⟨hne, hlog⟩ := log2_add_mul hinit hd0
    simp only [hv, hlog, if_neg hne, bitLen, if_neg hd0, List.length_append, List.length_singleton]
    unfold DBITS
    rw [Nat.succ_mul, Nat.add_sub_assoc (Nat.sub_le _ _), Nat.sub_sub_self hL, Nat.mul_comm, Nat.add_assoc]

theorem natBits_pos {v : Nat} (h : v ≠ 0) : 0 < natBits v := by
  unfold natBits; simp [h]

theorem natBits_spec (v : Nat) : v < 2 ^ natBits v ∧ (v ≠ 0 → 2 ^ (natBits v - 1) ≤ v) := by
  unfold natBits
  by_cases h : v = 0
  · rw [if_pos h, h]; exact ⟨Nat.one_pos, fun h0 => absurd rfl h0⟩
  · rw [if_neg h, Nat.add_sub_cancel]; exact ⟨Nat.lt_log2_self, fun _ => Nat.log2_self_le h⟩

/-- A fuelled loop that reads a tape in blocks of `L` words and stops at the first block it accepts
    returns the output of the first accepted complete block and the tape behind it, or nothing when
    no complete block is accepted.  `acc` and `out` look at the tape from the start of the block. -/
theorem firstBlock_char {α : Type} {L : Nat} (hL : 0 < L) (acc : List Nat → Prop) [DecidablePred acc]
    (out : List Nat → α) (loop : Nat → List Nat → Option (α × List Nat))
    (hloop : ∀ f t, loop (f + 1) t =
      if t.length < L then none else if acc t then some (out t, t.drop L) else loop f (t.drop L)) :
    ∀ (fuel : Nat) (t : List Nat), t.length < fuel →
      (∃ k, (k + 1) * L ≤ t.length ∧ acc (t.drop (k * L)) ∧ (∀ j, j < k → ¬ acc (t.drop (j * L))) ∧
            loop fuel t = some (out (t.drop (k * L)), t.drop ((k + 1) * L)))
      ∨ ((∀ k, (k + 1) * L ≤ t.length → ¬ acc (t.drop (k * L))) ∧ loop fuel t = none) := by
  intro fuel
  induction fuel with
  | zero => intro t h; omega
  | succ f ih =>
    intro t hf
    have hk : ∀ k, L ≤ (k + 1) * L := fun k => Nat.le_mul_of_pos_left _ k.succ_pos
    have hd : ∀ k, (t.drop L).drop (k * L) = t.drop ((k + 1) * L) := fun k => by
      rw [List.drop_drop, Nat.succ_mul, Nat.add_comm]
    have h0 : t.drop (0 * L) = t := by rw [Nat.zero_mul, List.drop_zero]
    rw [hloop]
    by_cases hs : t.length < L
    · exact .inr ⟨fun k h => absurd (Nat.le_trans (hk k) h) (Nat.not_le.mpr hs), if_pos hs⟩
    · rw [if_neg hs]
      by_cases ha : acc t
      · exact .inl ⟨0, by rw [Nat.zero_add, Nat.one_mul]; exact Nat.not_lt.mp hs, h0.symm ▸ ha, fun j hj => absurd hj (Nat.not_lt_zero j),
          by rw [if_pos ha, h0, Nat.zero_add, Nat.one_mul]⟩
      · rw [if_neg ha]
        have step : ∀ k, (k + 1) * L ≤ (t.drop L).length ↔ (k + 1 + 1) * L ≤ t.length := fun k => by
          rw [List.length_drop, Nat.succ_mul (k + 1)]; exact Nat.le_sub_iff_add_le (Nat.not_lt.mp hs)
        rcases ih (t.drop L) (by rw [List.length_drop]; omega) with ⟨k, h1, h2, h3, h4⟩ | ⟨h1, h2⟩
        · exact .inl ⟨k + 1, (step k).mp h1, hd k ▸ h2,
            fun | 0, _ => h0.symm ▸ ha | j + 1, hj => hd j ▸ h3 j (Nat.lt_of_succ_lt_succ hj),
            by rw [h4, hd, hd]⟩
        · exact .inr ⟨fun | 0, _ => h0.symm ▸ ha | k + 1, hk => hd k ▸ h1 k ((step k).mpr hk), h2⟩

theorem chunk_zero (len : Nat) (tape : List Nat) : chunk len 0 tape = tape.take len := by
  rw [chunk, Nat.zero_mul, List.drop_zero]

theorem chunk_succ (len k : Nat) (tape : List Nat) :
    chunk len (k + 1) tape = chunk len k (tape.drop len) := by
  rw [chunk, chunk, List.drop_drop, Nat.succ_mul, Nat.add_comm]

theorem blockCand_zero (n : Nat) (tape : List Nat) : blockCand n 0 tape = cand n (tape.take (specLen n)) := by
  rw [blockCand, Nat.zero_mul, List.drop_zero]

theorem blockSign_zero (n : Nat) (tape : List Nat) :
    blockSign n 0 tape = decide (WB / 2 ≤ (tape.drop (specLen n)).headD 0) := by
  rw [blockSign, Nat.zero_mul, Nat.zero_add]

theorem blockCand_succ (n k : Nat) (tape : List Nat) :
    blockCand n (k + 1) tape = blockCand n k (tape.drop (specLen n + 1)) := by
  rw [blockCand, blockCand, List.drop_drop, Nat.succ_mul, Nat.add_comm]

theorem blockSign_succ (n k : Nat) (tape : List Nat) :
    blockSign n (k + 1) tape = blockSign n k (tape.drop (specLen n + 1)) := by
  rw [blockSign, blockSign, List.drop_drop, Nat.succ_mul, Nat.add_comm (k * _), Nat.add_assoc]

theorem blockVal_succ (n k : Nat) (tape : List Nat) :
    blockVal n (k + 1) tape = blockVal n k (tape.drop (specLen n + 1)) := by
  rw [blockVal, blockVal, blockCand_succ, blockSign_succ]

/-- one round of `gen_bigint(n)` reads `specLen n + 1` words: a candidate and a sign word; a zero
    candidate with the sign bit set is drawn again -/
theorem bigintSpecLoop_succ (n f : Nat) (t : List Nat) :
    bigintSpecLoop n (f + 1) t =
      if t.length < specLen n + 1 then none
      else if ¬ (cand n (t.take (specLen n)) = 0 ∧ decide (WB / 2 ≤ (t.drop (specLen n)).headD 0) = true) then
        some (if cand n (t.take (specLen n)) = 0 then 0
              else if decide (WB / 2 ≤ (t.drop (specLen n)).headD 0) then (cand n (t.take (specLen n)) : Int)
              else -(cand n (t.take (specLen n)) : Int), t.drop (specLen n + 1))
      else bigintSpecLoop n f (t.drop (specLen n + 1)) := by
  rw [bigintSpecLoop, genSpec]
  by_cases hs : t.length < specLen n
  · rw [if_pos hs, if_pos (Nat.lt_succ_of_lt hs)]
  · rw [if_neg hs, ← List.drop_drop]
    cases hd : t.drop (specLen n) with
    | nil => rw [if_pos (Nat.lt_succ_of_le (List.drop_eq_nil_iff.mp hd))]; rfl
    | cons w t2 =>
      have := congrArg List.length hd
      rw [List.length_drop, List.length_cons] at this
      rw [if_neg (by omega)]
      by_cases hc : cand n (t.take (specLen n)) = 0 <;> cases hb : decide (WB / 2 ≤ w) <;> simp [boolSpec, hc, hb]

/-- lift a spec-level result (value as a Nat) to the model's result type -/
def liftU (r : Option (Nat × List Nat)) (off : Nat := 0) : R (List Nat) :=
  .ok (r.map fun (c, t) => (ofNat (off + c), t))

theorem belowLoop_spec (rp : RandParams) (hv : rp.Valid) (n : Nat) (hn : 0 < specLen n)
    (bound : List Nat) (hb : Canon bound) :
    ∀ (fuel : Nat) (tape : Tape), WordsOk tape → tape.length < fuel →
      belowLoop rp n bound fuel tape
        = .ok ((belowSpecLoop n (val bound) fuel tape).map fun (c, t) => (ofNat c, t)) := by
  intro fuel
  induction fuel with
  | zero => intro tape _ h; omega
  | succ f ih =>
    intro tape ht hf
    rw [belowLoop, belowSpecLoop, genBiguint_spec rp hv n tape ht]
    unfold genSpec
    by_cases hs : tape.length < specLen n
    · rw [if_pos hs, if_pos hs]; rfl
    · simp only [hs, if_false, Option.map]
      rw [cmpSlice_spec (ofNat_canon _) hb, ofNat_val]
      by_cases hc : cand n (tape.take (specLen n)) < val bound
      · rw [if_pos (Nat.compare_eq_lt.mpr hc), if_pos hc]
      · have hne : compare (cand n (tape.take (specLen n))) (val bound) ≠ .lt := by
          rw [Ne, Nat.compare_eq_lt]; exact hc
        simp only [hne, hc, if_false]
        exact ih _ (ht.drop _) (by rw [List.length_drop]; omega)

theorem genBool_eq (t : Tape) : genBool t = boolSpec t := by
  cases t <;> rfl

theorem boolSpec_some {t t2 : List Nat} {b : Bool} (h : boolSpec t = some (b, t2)) :
    t2.length + 1 = t.length ∧ (WordsOk t → WordsOk t2) := by
  cases t with
  | nil => simp [boolSpec] at h
  | cons w r =>
    simp only [boolSpec, Option.some.injEq, Prod.mk.injEq] at h
    obtain ⟨_, rfl⟩ := h
    exact ⟨rfl, fun hw => hw.tail⟩

theorem genSpec_some {n : Nat} {tape t1 : List Nat} {c : Nat} (h : genSpec n tape = some (c, t1)) :
    t1.length + specLen n = tape.length ∧ c = cand n (tape.take (specLen n)) ∧ t1 = tape.drop (specLen n) := by
  unfold genSpec at h
  split at h
  · simp at h
  · simp only [Option.some.injEq, Prod.mk.injEq] at h
    obtain ⟨rfl, rfl⟩ := h
    refine ⟨by rw [List.length_drop]; omega, rfl, rfl⟩

theorem genBigintLoop_spec (rp : RandParams) (hv : rp.Valid) (n : Nat) :
    ∀ (fuel : Nat) (tape : Tape), WordsOk tape → tape.length < fuel →
      genBigintLoop rp n fuel tape
        = .ok ((bigintSpecLoop n fuel tape).map fun (c, t) => (BigInt.ofInt c, t)) := by
  intro fuel
  induction fuel with
  | zero => intro tape _ h; omega
  | succ f ih =>
    intro tape ht hf
    rw [genBigintLoop, bigintSpecLoop, genBiguint_spec rp hv n tape ht]
    cases hg : genSpec n tape with
    | none => rfl
    | some ct =>
      obtain ⟨c, t1⟩ := ct
      obtain ⟨hl1, _, ht1⟩ := genSpec_some hg
      have hw1 : WordsOk t1 := by rw [ht1]; exact ht.drop _
      simp only [Option.map, ofNat_eq_nil_iff, genBool_eq]
      cases hbs : boolSpec t1 with
      | none => by_cases hc : c = 0 <;> simp [hc]
      | some bt =>
        obtain ⟨b, t2⟩ := bt
        obtain ⟨hl2, hw2⟩ := boolSpec_some hbs
        by_cases hc : c = 0
        · subst hc
          simp only [if_true]
          cases b with
          | true => simp only [if_true]; exact ih t2 (hw2 hw1) (by omega)
          | false => rfl
        · simp only [hc, if_false]
          cases b with
          | true =>
            simp only [if_true, fromBiguint_ofNat_plus]
          | false =>
            simp only [Bool.false_eq_true, if_false, fromBiguint_ofNat_minus]

end NB.Rand
