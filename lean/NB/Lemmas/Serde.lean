/- helper lemmas for C17: the serde split / join of 64-bit digits -/
import NB.Lemmas.Iter
import NB.Model.Serde
namespace NB.Serde
open NB.Bytes NB.Iter

theorem flatMap_eq_flat (init : List Nat) :
    init.flatMap (fun x => [x % W, (x >>> halfBits) % W]) = flat init := by
  induction init with
  | nil => rfl
  | cons x xs ih => simp [flat, lo32, hi32, ih]

theorem ser_snoc (init : List Nat) (last : Nat) :
    ser (init ++ [last]) =
      ⟨some (init.length * 2 + 1 + (if hi32 last ≠ 0 then 1 else 0)),
        flat init ++ [lo32 last] ++ (if hi32 last ≠ 0 then [hi32 last] else [])⟩ := by
  simp only [ser, List.getLast?_append, List.getLast?_singleton, Option.some_or, List.dropLast_concat,
    flatMap_eq_flat]
  rfl

/-- the emitted elements are exactly what a fresh `U32Digits` iterator would yield -/
theorem ser_elems_eq_abs (d : List Nat) : (ser d).elems = Iter.abs (U32Digits.new d) := by
  rcases eq_nil_or_snoc d with rfl | ⟨init, last, rfl⟩
  · rfl
  · rw [ser_snoc, abs_new_snoc]

theorem joinPairs_eq_pairUp : ∀ (ws : List Nat), Below W ws → joinPairs ws = pairUp ws
  | [], _ => rfl
  | [a], _ => rfl
  | a :: b :: t, h => by
    simp only [joinPairs, pairUp, joinPairs_eq_pairUp t h.tail.tail]
    rw [or_shl32 h.head h.tail.head]

theorem de_eq (hint : Option Nat) (ws : List Nat) (h : Below W ws) : de hint ws = ofNat (valBase W ws) := by
  unfold de visitSeq
  simp only
  rw [joinPairs_eq_pairUp ws h, normalize_eq_ofNat (pairUp_ok ws h), pairUp_val]

theorem deElemTok_eq_some (t : TokKind × Int) (w : Nat) :
    deElemTok t = some w ↔ (t.1.accepted = true ∧ 0 ≤ t.2 ∧ t.2 < 2 ^ 32) ∧ w = t.2.toNat := by
  unfold deElemTok
  simp only [Bool.and_eq_true, decide_eq_true_eq, Int.reducePow]
  constructor
  · intro h
    split_ifs at h with hc
    obtain ⟨⟨hk, h0⟩, hlt⟩ := hc
    cases h; exact ⟨⟨hk, h0, hlt⟩, rfl⟩
  · rintro ⟨⟨hk, h0, hlt⟩, rfl⟩; rw [if_pos ⟨⟨hk, h0⟩, hlt⟩]

theorem deElems_eq_some : ∀ (toks : List (TokKind × Int)) (ws : List Nat),
    deElems toks = some ws ↔
      (∀ t ∈ toks, t.1.accepted = true ∧ 0 ≤ t.2 ∧ t.2 < 2 ^ 32) ∧ ws = toks.map (fun t => t.2.toNat)
  | [], ws => by
    constructor
    · intro h; cases h; exact ⟨fun _ h => (nomatch h), rfl⟩
    · rintro ⟨_, rfl⟩; rfl
  | t :: ts, ws => by
    have step : deElems (t :: ts) = some ws ↔
        ∃ w ws', deElemTok t = some w ∧ deElems ts = some ws' ∧ ws = w :: ws' := by
      rw [deElems]
      cases deElemTok t with
      | none => simp
      | some w =>
        cases deElems ts with
        | none => simp
        | some ws' =>
          constructor
          · intro h; cases h; exact ⟨w, ws', rfl, rfl, rfl⟩
          · rintro ⟨_, _, h1, h2, rfl⟩; cases h1; cases h2; rfl
    rw [step, List.forall_mem_cons, List.map_cons]
    constructor
    · rintro ⟨w, ws', hw, hws, rfl⟩
      obtain ⟨h1, rfl⟩ := (deElemTok_eq_some t w).mp hw
      obtain ⟨h2, rfl⟩ := (deElems_eq_some ts ws').mp hws
      exact ⟨⟨h1, h2⟩, rfl⟩
    · rintro ⟨⟨h1, h2⟩, rfl⟩
      exact ⟨_, _, (deElemTok_eq_some t _).mpr ⟨h1, rfl⟩, (deElems_eq_some ts _).mpr ⟨h2, rfl⟩, rfl⟩

end NB.Serde
