/- helper lemmas for NB.Model.Radix (C06): text parsing against the grammar, UTF-8 gate -/
import NB.Lemmas.RadixParse
namespace NB.Radix

theorem sub_add_ten {b c : Nat} (h : c + 10 ≤ b) : b - c = b - (c + 10) + 10 := by
  rw [Nat.sub_add_eq, Nat.sub_add_cancel (Nat.le_sub_of_add_le' h)]

/-- the parser's table `byteDigit` and the grammar's `Spec.digitVal?` agree: a byte is the same digit for both
    (and then an ASCII digit or letter), or a digit for neither (`u8::MAX` in the parser's table) -/
theorem digitVal?_cases (b : Nat) :
    (Spec.digitVal? b = some (byteDigit b) ∧ ((48 ≤ b ∧ b ≤ 57) ∨ (97 ≤ b ∧ b ≤ 122) ∨ (65 ≤ b ∧ b ≤ 90))) ∨
    (Spec.digitVal? b = none ∧ byteDigit b = 255) := by
  unfold Spec.digitVal? byteDigit
  by_cases h1 : 48 ≤ b ∧ b ≤ 57
  · rw [if_pos h1, if_pos h1]
    exact Or.inl ⟨rfl, Or.inl h1⟩
  · rw [if_neg h1, if_neg h1]
    by_cases h2 : 97 ≤ b ∧ b ≤ 122
    · rw [if_pos h2, if_pos h2]
      exact Or.inl ⟨congrArg some (sub_add_ten (c := 87) h2.1), Or.inr (Or.inl h2)⟩
    · rw [if_neg h2, if_neg h2]
      by_cases h3 : 65 ≤ b ∧ b ≤ 90
      · rw [if_pos h3, if_pos h3]
        exact Or.inl ⟨congrArg some (sub_add_ten (c := 55) h3.1), Or.inr (Or.inr h3)⟩
      · rw [if_neg h3, if_neg h3]
        exact Or.inr ⟨rfl, rfl⟩

theorem isDigit_eq {r : Nat} (hr : r ≤ 36) (b : Nat) : Spec.isDigit r b = decide (byteDigit b < r) := by
  unfold Spec.isDigit
  rcases digitVal?_cases b with ⟨h, -⟩ | ⟨h, h255⟩
  · rw [h]
  · rw [h, h255]; exact (decide_eq_false (Nat.not_lt.2 (Nat.le_trans hr (by decide)))).symm

theorem isDigit_props {r b : Nat} (h : Spec.isDigit r b = true) :
    Spec.digitVal? b = some (byteDigit b) ∧ b < 128 ∧ b ≠ 95 ∧ b ≠ 43 ∧ b ≠ 45 := by
  rcases digitVal?_cases b with ⟨h1, h2⟩ | ⟨h1, -⟩
  · exact ⟨h1, by omega⟩
  · unfold Spec.isDigit at h; rw [h1] at h; cases h

theorem body_cons {r c : Nat} {t : List Nat} (h : Spec.body r (c :: t) = true) :
    Spec.isDigit r c = true ∧ ∀ b ∈ t, b = 95 ∨ Spec.isDigit r b = true := by
  simpa only [Spec.body, Bool.and_eq_true, List.all_eq_true, Bool.or_eq_true, beq_iff_eq] using h

theorem body_of_forall {r : Nat} {s : List Nat} (hne : s ≠ []) (h : ∀ b ∈ s, Spec.isDigit r b = true) :
    Spec.body r s = true := by
  rcases s with _ | ⟨c, t⟩
  · exact absurd rfl hne
  · simp only [Spec.body, Bool.and_eq_true, List.all_eq_true, Bool.or_eq_true]
    exact ⟨h c List.mem_cons_self, fun b hb => Or.inr (h b (List.mem_cons_of_mem c hb))⟩

theorem body_head {r : Nat} {s : List Nat} (h : Spec.body r s = true) : s.head? ≠ some 43 ∧ s.head? ≠ some 45 := by
  rcases s with _ | ⟨c, t⟩
  · cases h
  · obtain ⟨-, -, -, h43, h45⟩ := isDigit_props (body_cons h).1
    exact ⟨fun e => h43 (Option.some.inj e), fun e => h45 (Option.some.inj e)⟩

theorem body_ascii {r : Nat} (s : List Nat) (h : Spec.body r s = true) : ∀ b ∈ s, b < 128 := by
  rcases s with _ | ⟨c, t⟩
  · cases h
  · intro b hb
    rcases List.mem_cons.1 hb with rfl | hb'
    · exact (isDigit_props (body_cons h).1).2.1
    · rcases (body_cons h).2 b hb' with rfl | hd
      · decide
      · exact (isDigit_props hd).2.1

theorem stripPlus_of_head_ne {s : List Nat} (h : s.head? ≠ some 43) : stripPlus s = s := by
  unfold stripPlus
  split
  · exact absurd rfl h
  · rfl

theorem stripPlus_plus_of_head_ne {t : List Nat} (h : t.head? ≠ some 43) : stripPlus (43 :: t) = t := by
  rw [stripPlus]
  intro tail e
  exact h (by rw [e]; rfl)

theorem wellFormedU_of_head_ne {s : List Nat} (r : Nat) (h : s.head? ≠ some 43) :
    Spec.wellFormedU r s = Spec.body r s := by
  unfold Spec.wellFormedU
  split
  · exact absurd rfl h
  · rfl

theorem denoteMag_of_head_ne {s : List Nat} (r : Nat) (h43 : s.head? ≠ some 43) (h45 : s.head? ≠ some 45) :
    Spec.denoteMag r s = Spec.denoteBody r s := by
  unfold Spec.denoteMag
  split
  · exact absurd rfl h43
  · exact absurd rfl h45
  · rfl

/-- what `stripPlus` leaves is what the grammar calls the body of a BigUint text -/
theorem stripPlus_spec (r : Nat) (s : List Nat) :
    Spec.body r (stripPlus s) = Spec.wellFormedU r s ∧
    (Spec.wellFormedU r s = true → Spec.denoteBody r (stripPlus s) = Spec.denoteMag r s) ∧
    Spec.errKindU s = (if stripPlus s = [] then .empty else .invalid) := by
  by_cases h : s.head? = some 43
  · obtain ⟨t, rfl⟩ := List.head?_eq_some_iff.1 h
    by_cases h' : t.head? = some 43
    · obtain ⟨t', rfl⟩ := List.head?_eq_some_iff.1 h'
      exact ⟨rfl, fun hw => absurd hw Bool.false_ne_true, rfl⟩
    · rw [stripPlus_plus_of_head_ne h']
      refine ⟨rfl, fun _ => rfl, ?_⟩
      unfold Spec.errKindU
      simp only [List.cons.injEq, true_and, reduceCtorEq, false_or]
  · rw [stripPlus_of_head_ne h, wellFormedU_of_head_ne r h]
    refine ⟨rfl, fun hw => (denoteMag_of_head_ne r h (body_head hw).2).symm, ?_⟩
    exact if_congr (or_iff_left fun e => h (by rw [e]; rfl)) rfl rfl

theorem stripMinus_of_head_ne {s : List Nat} (h : s.head? ≠ some 45) : stripMinus s = (.plus, s) := by
  rw [stripMinus]
  intro tail e
  exact h (by rw [e]; rfl)

theorem stripMinus_minus_of_head_ne {t : List Nat} (h : t.head? ≠ some 43) : stripMinus (45 :: t) = (.minus, t) := by
  rw [stripMinus]
  intro tail e
  exact h (by rw [e]; rfl)

theorem wellFormedI_eq_wellFormedU {s : List Nat} (r : Nat) (h : s.head? ≠ some 45) :
    Spec.wellFormedI r s = Spec.wellFormedU r s := by
  unfold Spec.wellFormedI
  split
  · rfl
  · exact absurd rfl h
  · rename_i h43 _
    exact (wellFormedU_of_head_ne r fun e => (List.head?_eq_some_iff.1 e).elim h43).symm

theorem denoteInt_of_head_ne {s : List Nat} (r : Nat) (h : s.head? ≠ some 45) :
    Spec.denoteInt r s = Spec.denoteMag r s := by
  unfold Spec.denoteInt
  split
  · exact absurd rfl h
  · rfl

/-- the parser's digit check (drop `_`, look each byte up, compare with the radix) is the grammar's body -/
theorem all_byteDigit_eq_body {r b : Nat} (h36 : r ≤ 36) (hb : b ≠ 95) (rest : List Nat) :
    (((b :: rest).filter (fun x => x != 95)).map byteDigit).all (fun d => decide (d < r)) = Spec.body r (b :: rest) := by
  have hfun : ∀ c, (!(c != 95) || ((fun d => decide (d < r)) ∘ byteDigit) c) = (c == 95 || Spec.isDigit r c) :=
    fun c => by rw [isDigit_eq h36, bne, Bool.not_not]; rfl
  rw [List.all_map, List.all_filter, List.all_congr rfl hfun, List.all_cons, Spec.body, beq_false_of_ne hb, Bool.false_or]

theorem denoteBody_eq {r : Nat} (h36 : r ≤ 36) (s : List Nat)
    (h : ∀ d ∈ (s.filter (fun x => x != 95)).map byteDigit, d < r) :
    Spec.denoteBody r s = Nat.ofDigits r ((s.filter (fun x => x != 95)).map byteDigit).reverse := by
  unfold Spec.denoteBody
  rw [beValue_eq_ofDigits]
  congr 2
  refine List.map_congr_left fun c hc => ?_
  rw [(isDigit_props (r := r) (by rw [isDigit_eq h36]; exact decide_eq_true (h _ (List.mem_map_of_mem hc)))).1]
  rfl

/-- everything after the radix check of `BigUint::from_str_radix`, in the grammar's terms -/
theorem fromStrRadixU_core {r : Nat} (h2 : 2 ≤ r) (h36 : r ≤ 36) (s : List Nat) :
    fromStrRadixU s r = .ok (if Spec.body r (stripPlus s) then .ok (ofNat (Spec.denoteBody r (stripPlus s)))
                             else .error (if stripPlus s = [] then .empty else .invalid)) := by
  unfold fromStrRadixU strRadixMax
  rw [if_neg (not_not_intro ⟨h2, h36⟩)]
  generalize stripPlus s = s'
  rcases s' with _ | ⟨b, rest⟩
  · rfl
  · have hmod : r % U8 = r := Nat.mod_eq_of_lt (Nat.lt_of_le_of_lt h36 (by decide))
    dsimp only
    rw [if_neg (List.cons_ne_nil b rest), hmod]
    by_cases hb : b = 95
    · subst hb; rfl
    · rw [List.head?_cons, if_neg (fun e => hb (Option.some.inj e)), all_byteDigit_eq_body h36 hb]
      by_cases hbody : Spec.body r (b :: rest) = true
      · have hv : ∀ d ∈ ((b :: rest).filter (fun x => x != 95)).map byteDigit, d < r := by
          simpa only [List.all_eq_true, decide_eq_true_eq] using (all_byteDigit_eq_body h36 hb rest).trans hbody
        have key := digitsToBigUint_spec h2 (Nat.le_trans h36 (by decide))
          (((b :: rest).filter (fun x => x != 95)).map byteDigit).reverse
          (List.ne_nil_of_mem (List.mem_reverse.2 (List.mem_map_of_mem (List.mem_filter.2 ⟨List.mem_cons_self, bne_iff_ne.2 hb⟩))))
          (fun d hd => hv d (List.mem_reverse.1 hd))
        rw [List.reverse_reverse] at key
        rw [if_pos hbody, if_pos hbody, key, denoteBody_eq h36 _ hv]
      · rw [if_neg hbody, if_neg hbody, if_neg (List.cons_ne_nil b rest)]

theorem utf8Valid_ascii : ∀ (s : List Nat), (∀ b ∈ s, b < 128) → utf8Valid s = true := by
  intro s
  induction s with
  | nil => intro _; rfl
  | cons b t ih =>
    intro h
    unfold utf8Valid
    rw [if_pos (h b List.mem_cons_self)]
    exact ih (fun x hx => h x (List.mem_cons_of_mem _ hx))

theorem fromRadixBe_eq (ds : List Nat) (r : Nat) : fromRadixBe ds r = fromRadixLe ds.reverse r := by
  unfold fromRadixBe fromRadixLe
  rw [List.any_reverse, List.reverse_reverse]
  simp only [List.reverse_eq_nil_iff]

theorem ite_ok_eq_ok_iff {ε α : Type} {w : Bool} {a v : α} {e : ε} :
    (if w = true then Except.ok a else Except.error e) = Except.ok v ↔ w = true ∧ v = a := by
  cases w
  · simp only [Bool.false_eq_true, if_false, reduceCtorEq, false_and]
  · exact ⟨fun h => ⟨rfl, (Except.ok.inj h).symm⟩, fun h => by rw [h.2]; rfl⟩

theorem wellFormedU_utf8 {r : Nat} {s : List Nat} (h : Spec.wellFormedU r s = true) : utf8Valid s = true := by
  apply utf8Valid_ascii
  unfold Spec.wellFormedU at h
  split at h
  · exact List.forall_mem_cons.2 ⟨by decide, body_ascii _ h⟩
  · exact body_ascii s h

theorem wellFormedI_utf8 {r : Nat} {s : List Nat} (h : Spec.wellFormedI r s = true) : utf8Valid s = true := by
  apply utf8Valid_ascii
  unfold Spec.wellFormedI at h
  split at h
  · exact List.forall_mem_cons.2 ⟨by decide, body_ascii _ h⟩
  · exact List.forall_mem_cons.2 ⟨by decide, body_ascii _ h⟩
  · exact body_ascii s h

theorem fillN_length (fill : List Nat) (n : Nat) : (fillN fill n).length = n * fill.length := by
  unfold fillN
  induction n with
  | zero => rw [Nat.zero_mul]; rfl
  | succ n ih => rw [List.replicate_succ, List.flatten_cons, List.length_append, ih, Nat.succ_mul, Nat.add_comm]

theorem half_add_half (n : Nat) : n / 2 + (n + 1) / 2 = n := by
  rcases Nat.even_or_odd' n with ⟨k, rfl | rfl⟩
  · rw [Nat.mul_div_cancel_left k (by decide), Nat.mul_add_div (by decide), Nat.two_mul]; rfl
  · show (2 * k + 1) / 2 + (2 * (k + 1)) / 2 = 2 * k + 1
    rw [Nat.mul_add_div (by decide), Nat.mul_div_cancel_left _ (by decide), Nat.two_mul]
    exact (Nat.add_assoc k k 1).symm

theorem padSplit_add (a d : Align) (n : Nat) : (padSplit a d n).1 + (padSplit a d n).2 = n := by
  unfold padSplit
  split
  · exact Nat.zero_add n
  · exact Nat.add_zero n
  · exact Nat.add_zero n
  · exact half_add_half n

end NB.Radix
