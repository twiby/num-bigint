/- refinement lemmas for the `U32Digits` and `U64Digits` state machines (C09) -/
import NB.Lemmas.Bytes
import NB.Model.Iter
namespace NB.Iter
open NB.Bytes

/-- both halves of every remaining native digit, least significant first -/
def flat : List Nat → List Nat
  | [] => []
  | x :: xs => lo32 x :: hi32 x :: flat xs

/-- the abstraction: the u32 digits the iterator still has to yield -/
def abs (s : U32Digits) : List Nat :=
  let l := flat s.data
  let l := if s.nextIsLo then l else l.tail
  if s.lastHiIsZero then l.dropLast else l

/-- the invariant: proper digits, and an exhausted iterator has its flags reset -/
def Inv (s : U32Digits) : Prop :=
  DigitsOk s.data ∧ (s.data = [] → s.nextIsLo = true ∧ s.lastHiIsZero = false)

instance (s : U32Digits) : Decidable (Inv s) := by unfold Inv; infer_instance

theorem flat_append (a b : List Nat) : flat (a ++ b) = flat a ++ flat b := by
  induction a with
  | nil => rfl
  | cons x xs ih => simp [flat, ih]

theorem flat_length (a : List Nat) : (flat a).length = a.length * 2 := by
  induction a with
  | nil => rfl
  | cons x xs ih => rw [flat, List.length_cons, List.length_cons, ih, List.length_cons, Nat.add_mul]

theorem flat_snoc (init : List Nat) (last : Nat) :
    flat (init ++ [last]) = flat init ++ [lo32 last, hi32 last] := by
  rw [flat_append]; rfl

theorem flat_ne_nil {a : List Nat} (h : a ≠ []) : flat a ≠ [] := by
  cases a with
  | nil => exact absurd rfl h
  | cons x xs => simp [flat]

theorem hi32_eq {x : Nat} (h : x < B) : hi32 x = x / W := by
  unfold hi32
  rw [Nat.shiftRight_eq_div_pow, show halfBits = 32 from rfl, ← W_eq]
  apply Nat.mod_eq_of_lt
  apply Nat.div_lt_of_lt_mul
  rw [W_mul_W]; exact h

theorem lo32_lt (x : Nat) : lo32 x < W := Nat.mod_lt _ (by decide)
theorem hi32_lt (x : Nat) : hi32 x < W := Nat.mod_lt _ (by decide)

theorem lo_hi {x : Nat} (h : x < B) : lo32 x + W * hi32 x = x := by
  rw [hi32_eq h]; unfold lo32; exact Nat.mod_add_div x W

theorem flat_below (a : List Nat) : Below W (flat a) := by
  induction a with
  | nil => exact Below.nil
  | cons x xs ih => exact Below.cons (lo32_lt x) (Below.cons (hi32_lt x) ih)

theorem flat_val {a : List Nat} (h : DigitsOk a) : valBase W (flat a) = val a := by
  induction a with
  | nil => rfl
  | cons x xs ih =>
    simp only [flat, valBase, val, ih h.tail]
    have := lo_hi h.head
    have hw := W_mul_W
    rw [← hw]; conv_rhs => rw [← this]
    ring

theorem next_spec (s : U32Digits) (hi : Inv s) :
    s.next.1 = (abs s).head? ∧ abs s.next.2 = (abs s).tail ∧ Inv s.next.2 := by
  obtain ⟨data, lo, lhz⟩ := s
  obtain ⟨hok, hemp⟩ := hi
  simp only at hok hemp
  cases data with
  | nil =>
    -- exhausted: by the invariant the flags are reset and `abs` is empty
    obtain ⟨h1, h2⟩ := hemp rfl
    subst h1; subst h2
    simp [U32Digits.next, abs, flat, Inv, DigitsOk.nil]
  | cons first rest =>
    cases lo with
    | true =>
      -- yields the low half and stays on the digit: `abs` loses its head `lo32 first`; the high half is
      -- still behind it, so a pending `dropLast` acts on the other end
      cases lhz with
      | false => simp [U32Digits.next, abs, flat, Inv, hok]
      | true =>
        have : (hi32 first :: flat rest) ≠ [] := by simp
        simp [U32Digits.next, abs, flat, Inv, hok, List.dropLast_cons_of_ne_nil this]
    | false =>
      cases rest with
      | nil =>
        -- last digit, low half gone: `abs` is `[hi32 first]`, or `[]` if that half is a suppressed zero;
        -- the iterator is exhausted afterwards and resets its flags
        cases lhz with
        | true => simp [U32Digits.next, abs, flat, Inv, DigitsOk.nil]
        | false => simp [U32Digits.next, abs, flat, Inv, DigitsOk.nil]
      | cons r rs =>
        -- yields the high half and moves on: `abs` was `hi32 first :: flat rest` up to a `dropLast`,
        -- which acts on the non-empty `flat rest`
        have hne : flat (r :: rs) ≠ [] := by simp [flat]
        cases lhz with
        | true => simp [U32Digits.next, abs, flat, Inv, hok.tail, List.dropLast_cons_of_ne_nil]
        | false => simp [U32Digits.next, abs, flat, Inv, hok.tail]

theorem next_cases (s : U32Digits) (hi : Inv s) :
    (abs s = [] ∧ ∃ s', s.next = (none, s') ∧ abs s' = [] ∧ Inv s') ∨
    (∃ x xs s', abs s = x :: xs ∧ s.next = (some x, s') ∧ abs s' = xs ∧ Inv s') := by
  obtain ⟨h1, h2, h3⟩ := next_spec s hi
  rcases hn : s.next with ⟨o, s'⟩
  rw [hn] at h1 h2 h3
  cases ha : abs s with
  | nil =>
    rw [ha] at h1 h2
    obtain rfl : o = none := h1
    exact Or.inl ⟨rfl, s', rfl, h2, h3⟩
  | cons x xs =>
    rw [ha] at h1 h2
    obtain rfl : o = some x := h1
    exact Or.inr ⟨x, xs, s', rfl, rfl, h2, h3⟩

theorem nextBack_spec (s : U32Digits) (hi : Inv s) :
    s.nextBack.1 = (abs s).getLast? ∧ abs s.nextBack.2 = (abs s).dropLast ∧ Inv s.nextBack.2 := by
  obtain ⟨data, lo, lhz⟩ := s
  obtain ⟨hok, hemp⟩ := hi
  simp only at hok hemp
  rcases eq_nil_or_snoc data with h | ⟨init, last, rfl⟩
  · subst h
    obtain ⟨h1, h2⟩ := hemp rfl
    subst h1; subst h2
    simp [U32Digits.nextBack, abs, flat, Inv, DigitsOk.nil]
  · have hfl := flat_snoc init last
    have hoki : DigitsOk init := hok.left
    cases lhz with
    | true =>
      -- the high half of the last digit is not to be yielded: yields its low half and drops the digit, so
      -- `abs` (which already lacked that high half) loses its last element; with one digit whose low half
      -- went out at the front nothing is left and the flags are reset
      cases lo with
      | true =>
        simp only [U32Digits.nextBack, abs, hfl, List.getLast?_append, List.dropLast_concat, Inv]
        simp [hoki]
      | false =>
        cases init with
        | nil => simp [U32Digits.nextBack, abs, flat, Inv, DigitsOk.nil]
        | cons i is =>
          simp only [U32Digits.nextBack, abs, hfl, List.getLast?_append, List.dropLast_concat, Inv]
          simp [hoki, flat, List.dropLast_cons_of_ne_nil, List.getLast?_cons, List.getLast?_append]
    | false =>
      -- yields the high half of the last digit and keeps the data: the new state differs only in
      -- `lastHiIsZero := true`, which is one more `dropLast` in `abs`; a `tail` in front does not reach it
      cases lo with
      | true =>
        simp only [U32Digits.nextBack, abs, hfl, List.getLast?_append, List.dropLast_concat, Inv]
        simp [hok, hfl]
      | false =>
        cases init with
        | nil =>
          have : DigitsOk [last] := by simpa using hok
          simp [U32Digits.nextBack, abs, flat, Inv, this]
        | cons i is =>
          have hok' : DigitsOk (i :: (is ++ [last])) := by simpa using hok
          simp only [U32Digits.nextBack, abs, hfl, List.getLast?_append, List.dropLast_concat, Inv]
          simp [hok', flat, flat_append, List.getLast?_cons, List.getLast?_append]

theorem abs_length (s : U32Digits) :
    (abs s).length =
      s.data.length * 2 - (if s.lastHiIsZero then 1 else 0) - (if !s.nextIsLo then 1 else 0) := by
  obtain ⟨data, lo, lhz⟩ := s
  rw [← flat_length]
  cases lo <;> cases lhz
  · exact List.length_tail
  · exact List.length_dropLast.trans (congrArg (· - 1) List.length_tail)
  · rfl
  · exact List.length_dropLast

theorem len_spec (s : U32Digits) (hi : Inv s) : s.len = .ok (abs s).length := by
  -- no underflow: an exhausted iterator has both flags reset, otherwise there are at least two halves
  have hle : (if s.lastHiIsZero then 1 else 0) + (if !s.nextIsLo then 1 else 0) ≤ s.data.length * 2 := by
    by_cases hd : s.data = []
    · obtain ⟨h1, h2⟩ := hi.2 hd
      rw [h1, h2]; exact Nat.zero_le _
    · have hb : (if s.lastHiIsZero then 1 else 0) ≤ 1 := by split <;> decide
      have hc : (if !s.nextIsLo then 1 else 0) ≤ 1 := by split <;> decide
      exact Nat.le_trans (Nat.add_le_add hb hc) (Nat.mul_le_mul_right 2 (List.length_pos_iff.mpr hd))
  unfold U32Digits.len
  dsimp only
  rw [if_neg (Nat.not_lt.mpr (Nat.le_trans (Nat.le_add_right _ _) hle)),
    if_neg (Nat.not_lt.mpr (Nat.le_sub_of_add_le' hle)), abs_length]

theorem sizeHint_spec (s : U32Digits) (hi : Inv s) :
    s.sizeHint = .ok ((abs s).length, some (abs s).length) := by
  unfold U32Digits.sizeHint; rw [len_spec s hi]

theorem last_spec (s : U32Digits) (hi : Inv s) : s.last = (abs s).getLast? :=
  (nextBack_spec s hi).1

theorem count_spec (s : U32Digits) (hi : Inv s) : s.count = .ok (abs s).length := len_spec s hi

theorem nth_spec (n : Nat) (s : U32Digits) (hi : Inv s) :
    (U32Digits.nth n s).1 = ((abs s).drop n).head? ∧ abs (U32Digits.nth n s).2 = (abs s).drop (n + 1) ∧
    Inv (U32Digits.nth n s).2 := by
  induction n generalizing s with
  | zero =>
    obtain ⟨h1, h2, h3⟩ := next_spec s hi
    exact ⟨h1, h2.trans List.drop_one.symm, h3⟩
  | succ n ih =>
    rw [U32Digits.nth]
    rcases next_cases s hi with ⟨ha, s', hn, ha', hi'⟩ | ⟨x, xs, s', ha, hn, ha', hi'⟩
    · rw [hn, ha]; exact ⟨rfl, ha', hi'⟩
    · rw [hn, ha, ← ha']; exact ih s' hi'

theorem run32_spec : ∀ (calls : List Call) (s : U32Digits), Inv s → run32 calls s = specRun calls (abs s) := by
  intro calls
  induction calls with
  | nil => intro s _; rfl
  | cons c cs ih =>
    intro s hi
    cases c with
    | next =>
      obtain ⟨h1, h2, h3⟩ := next_spec s hi
      simp only [run32, specRun, h1, ih _ h3, h2]
    | nextBack =>
      obtain ⟨h1, h2, h3⟩ := nextBack_spec s hi
      simp only [run32, specRun, h1, ih _ h3, h2]
    | len => simp only [run32, specRun, len_spec s hi, resNum, ih s hi]
    | sizeHint => simp only [run32, specRun, sizeHint_spec s hi, resHint, ih s hi]
    | nth k =>
      obtain ⟨h1, h2, h3⟩ := nth_spec k s hi
      simp only [run32, specRun, h1, ih _ h3, h2]
    | last => simp only [run32, specRun, last_spec s hi]
    | count => simp only [run32, specRun, count_spec s hi, resNum]

theorem new_inv (d : List Nat) (h : DigitsOk d) : Inv (U32Digits.new d) := by
  refine ⟨h, ?_⟩
  intro hd
  simp only [U32Digits.new] at hd ⊢
  subst hd
  simp

/-- the fresh iterator on a non-empty vector yields every half except a zero top half -/
theorem abs_new_snoc (init : List Nat) (last : Nat) :
    abs (U32Digits.new (init ++ [last])) =
      flat init ++ [lo32 last] ++ (if hi32 last ≠ 0 then [hi32 last] else []) := by
  simp only [U32Digits.new, abs, if_true, List.getLast?_append, List.getLast?_singleton, Option.some_or,
    flat_snoc]
  by_cases hh : hi32 last = 0
  · rw [if_neg (not_not.mpr hh), if_pos (beq_iff_eq.mpr hh), List.append_cons, List.dropLast_concat,
      List.append_nil]
  · rw [if_pos hh, if_neg (mt beq_iff_eq.mp hh), List.append_assoc]; rfl

/-- for a canonical digit vector the abstraction of the fresh iterator is exactly the base-2^32
    positional representation of the value -/
theorem abs_new {d : List Nat} (hc : Canon d) : abs (U32Digits.new d) = Nat.digits W (val d) := by
  rcases eq_nil_or_snoc d with rfl | ⟨init, last, rfl⟩
  · exact (Nat.digits_zero W).symm
  · have hlh := lo_hi hc.1.right.head
    have hlast0 : last ≠ 0 := by
      rintro rfl; exact hc.2 (by rw [List.getLast?_append, List.getLast?_singleton]; rfl)
    have hB : Below W (flat init ++ [lo32 last]) := (flat_below init).append (Below.cons (lo32_lt _) Below.nil)
    rw [abs_new_snoc, ← flat_val hc.1, flat_snoc, List.append_cons (flat init) (lo32 last) [hi32 last],
      valBase_snoc]
    by_cases hh : hi32 last = 0
    · -- the top half is zero and not yielded; it does not contribute to the value either
      rw [if_neg (not_not.mpr hh), List.append_nil, hh, Nat.mul_zero, Nat.add_zero]
      refine digits_unique (by decide) hB ?_
      rw [List.getLast?_concat]
      rw [hh, Nat.mul_zero, Nat.add_zero] at hlh
      exact fun h => hlast0 (hlh.symm.trans (Option.some.inj h))
    · rw [if_pos hh, ← valBase_snoc]
      refine digits_unique (by decide) (hB.append (Below.cons (hi32_lt _) Below.nil)) ?_
      rw [List.getLast?_concat]
      exact fun h => hh (Option.some.inj h)

theorem collectFuel_spec (f : Nat) (s : U32Digits) (hi : Inv s) (hl : (abs s).length < f) :
    U32Digits.collectFuel f s = abs s := by
  induction f generalizing s with
  | zero => exact absurd hl (Nat.not_lt_zero _)
  | succ f ih =>
    rw [U32Digits.collectFuel]
    rcases next_cases s hi with ⟨ha, s', hn, _, _⟩ | ⟨x, xs, s', ha, hn, ha', hi'⟩
    · rw [hn, ha]
    · rw [hn, ha]
      rw [ha] at hl
      exact congrArg (x :: ·) ((ih s' hi' (ha' ▸ Nat.lt_of_succ_lt_succ hl)).trans ha')

theorem toU32Digits_eq_abs (u : List Nat) (h : DigitsOk u) : toU32Digits u = abs (U32Digits.new u) := by
  unfold toU32Digits
  apply collectFuel_spec _ _ (new_inv u h)
  rw [abs_length]
  exact Nat.lt_succ_of_le (Nat.le_trans (Nat.sub_le _ _) (Nat.le_trans (Nat.sub_le _ _) (Nat.le_of_eq (Nat.mul_comm _ _))))

theorem collectFuel64_spec (f : Nat) (l : List Nat) (hl : l.length < f) : U64Digits.collectFuel f ⟨l⟩ = l := by
  induction f generalizing l with
  | zero => exact absurd hl (Nat.not_lt_zero _)
  | succ f ih =>
    cases l with
    | nil => rfl
    | cons x xs => exact congrArg (x :: ·) (ih xs (Nat.lt_of_succ_lt_succ hl))

theorem toU64Digits_eq (u : List Nat) : toU64Digits u = u := by
  unfold toU64Digits U64Digits.new
  exact collectFuel64_spec _ _ (Nat.lt_succ_self _)

theorem next64_eq (l : List Nat) : U64Digits.next ⟨l⟩ = (l.head?, ⟨l.tail⟩) := by
  cases l <;> rfl

theorem nextBack64_eq (l : List Nat) : U64Digits.nextBack ⟨l⟩ = (l.getLast?, ⟨l.dropLast⟩) := by
  rcases eq_nil_or_snoc l with rfl | ⟨init, last, rfl⟩
  · rfl
  · simp only [U64Digits.nextBack, List.getLast?_concat]

theorem nth64_eq (k : Nat) (l : List Nat) : U64Digits.nth k ⟨l⟩ = ((l.drop k).head?, ⟨l.drop (k + 1)⟩) := by
  unfold U64Digits.nth
  split
  · next hk => rw [List.drop_eq_nil_of_le hk, List.drop_eq_nil_of_le (Nat.le_succ_of_le hk)]; rfl
  · rfl

theorem run64_spec : ∀ (calls : List Call) (l : List Nat), run64 calls ⟨l⟩ = specRun calls l
  | [], _ => rfl
  | c :: cs, l => by
    cases c <;>
      simp only [run64, specRun, next64_eq, nextBack64_eq, nth64_eq, U64Digits.last, U64Digits.len,
        U64Digits.sizeHint, U64Digits.count, run64_spec cs]

end NB.Iter
