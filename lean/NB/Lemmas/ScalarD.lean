/- helper lemmas for the digit-level scalar leaves (NB.Model.ScalarD, theorems in NB.Props.C10D):
   the two type-tag vocabularies, `From<uN>`, the value/digit views `toV`/`ofV` of a BigInt, `Except.map` plumbing -/
import NB.Model.ScalarD
import NB.Lemmas.Scalar
import NB.Lemmas.Convert
namespace NB.SD
open NB NB.Conv

theorem pty_minV (t : STy) : (pty t).minV = t.lo := by cases t <;> decide

theorem pty_maxV (t : STy) : (pty t).maxV = t.hi := by cases t <;> decide

theorem pty_inRange (t : STy) (v : Int) : (pty t).InRange v ↔ t.InRange v := by
  unfold PTy.InRange STy.InRange; rw [pty_minV, pty_maxV]

theorem bound_le (t : STy) : bound t ≤ B * B := by
  unfold bound; split
  · exact Nat.le_refl _
  · exact Nat.le_mul_of_pos_left B B_pos

theorem uFrom_eq (t : STy) (s : Nat) : uFrom t s = ofNat s := by
  cases t <;> simp only [uFrom, fromU64_eq_ofNat, fromU128_eq_ofNat]

theorem iFromU_eq (t : STy) (u : Nat) : iFromU t u = ofV (VInt.fromNat u) := by
  have key : (if u > 0 then (⟨.plus, ofNat u⟩ : BigInt) else ⟨.nosign, []⟩) = ofV (VInt.fromNat u) := by
    unfold VInt.fromNat VInt.zero ofV
    by_cases h : u = 0
    · subst h; simp [ofNat_zero]
    · simp [h, Nat.pos_of_ne_zero h]
  unfold iFromU I.fromU64 I.fromU128
  simp only [fromU64_eq_ofNat, fromU128_eq_ofNat]
  split <;> exact key

theorem compare_eq_cmpNat (a b : Nat) : compare a b = cmpNat a b := by
  unfold cmpNat
  by_cases h1 : a < b
  · simp only [h1, if_true]; exact Nat.compare_eq_lt.2 h1
  · by_cases h2 : a = b
    · subst h2; simp
    · simp only [h1, h2, if_false]; exact Nat.compare_eq_gt.2 (by omega)

theorem cmpSlice_uFrom {m : List Nat} (h : Canon m) (t : STy) (u : Nat) :
    cmpSlice m (uFrom t u) = cmpNat (val m) u := by
  rw [uFrom_eq, cmpSlice_spec h (ofNat_canon u), ofNat_val, compare_eq_cmpNat]

theorem nd_val {a : List Nat} (h : Canon a) : nd (val a) = a.length := by
  unfold nd; rw [← canon_eq_ofNat h]

theorem ofV_toV {a : BigInt} (h : a.Canon) : ofV (toV a) = a := by
  obtain ⟨s, m⟩ := a
  unfold ofV toV; simp only
  rw [← canon_eq_ofNat h.1]

theorem toV_canon {a : BigInt} (h : a.Canon) : (toV a).Canon := by
  obtain ⟨s, m⟩ := a
  obtain ⟨hc, hs⟩ := h
  simp only at hc hs
  unfold VInt.Canon toV; simp only
  rw [hs]
  constructor
  · intro e; subst e; rfl
  · intro e
    have := canon_eq_ofNat hc
    rw [e, ofNat_zero] at this; exact this

theorem toV_val (a : BigInt) : (toV a).val = a.val := by
  obtain ⟨s, m⟩ := a
  cases s <;> rfl

theorem toV_neg (a : BigInt) : toV a.neg = (toV a).neg := rfl

theorem ofV_neg (v : VInt) : (ofV v).neg = ofV v.neg := rfl

theorem ofV_zero : ofV VInt.zero = ⟨.nosign, []⟩ := by
  unfold ofV VInt.zero; simp [ofNat_zero]

theorem ofV_ofInt (i : Int) : ofV (VInt.ofInt i) = BigInt.ofInt i := by
  unfold VInt.ofInt BigInt.ofInt ofV
  by_cases h1 : i < 0
  · simp [h1]
  · by_cases h2 : i = 0
    · simp [h2, ofNat_zero]
    · simp [h1, h2]

/-- `BigInt::from(BigUint)` on canonical digits -/
theorem iFromBiguint_ofNat (n : Nat) : I.fromBiguint (ofNat n) = ofV (VInt.fromNat n) := by
  unfold I.fromBiguint VInt.fromNat VInt.zero ofV
  by_cases h : n = 0
  · subst h; simp [ofNat_zero]
  · have : ofNat n ≠ [] := fun e => h ((ofNat_eq_nil_iff n).1 e)
    simp [h, this]

/-- `BigInt::from_biguint` on canonical digits -/
theorem bigFromBiguint_ofNat (s : Sign) (n : Nat) :
    BigInt.fromBiguint s (ofNat n) = ofV (VInt.fromBiguint s n) := by
  rw [fromBiguint_ofNat, VInt.fromBiguint_toInt, ofV_ofInt]
  cases s <;> simp [BigInt.val, Sign.toInt, ofNat_val]

/-- the `is_zero → NoSign` tail on canonical digits -/
theorem fixZero_ofNat (s : Sign) (n : Nat) :
    fixZero s (ofNat n) = ofV (if n = 0 then (⟨.nosign, n⟩ : VInt) else ⟨s, n⟩) := by
  unfold fixZero ofV
  by_cases h : n = 0
  · subst h; simp [ofNat_zero]
  · have : ofNat n ≠ [] := fun e => h ((ofNat_eq_nil_iff n).1 e)
    simp [h, this]

/-- the shape of every refinement step: a digit-level leaf `x.map ofNat` post-processed by `F`
    equals the value-level post-processing `G` followed by `ofV` -/
theorem map_ofNat_ofV {ε} (x : Except ε Nat) (F : List Nat → BigInt) (G : Nat → VInt)
    (h : ∀ n, F (ofNat n) = ofV (G n)) :
    (x.map ofNat).map F = (x.map G).map ofV := by
  rw [Except.map_map, Except.map_map]; exact Except.map_congr x h

end NB.SD

namespace NB

theorem bigint_neg_canon {a : BigInt} (h : a.Canon) : a.neg.Canon := by
  obtain ⟨sg, m⟩ := a
  obtain ⟨hc, hs⟩ := h
  refine ⟨hc, ?_⟩
  simp only [BigInt.neg] at hs ⊢
  rw [← hs]
  cases sg <;> simp [Sign.neg]

theorem canon_val_ne_zero_iff {a : List Nat} (ha : Canon a) : val a ≠ 0 ↔ a ≠ [] := by
  constructor
  · intro h e; subst e; exact h rfl
  · intro h; exact Nat.ne_of_gt (canon_val_pos ha h)

/-- the length bound of C07's `>>` theorems (bit count below `2^64`) in the form `iShr_spec` takes it -/
theorem hbits_of_len {m : List Nat} (hm : DigitsOk m) (hlen : C07.BITS * m.length < C07.U64_RANGE) :
    ∀ K : Nat, 2 ^ 64 ≤ K → val m < 2 ^ K := by
  intro K hK
  calc val m < B ^ m.length := val_lt hm
    _ = 2 ^ (64 * m.length) := B_pow _
    _ ≤ 2 ^ K := Nat.pow_le_pow_right (by decide) (by unfold C07.BITS C07.U64_RANGE B at hlen; omega)

theorem two_pow_128 : (2 : Nat) ^ 128 = 340282366920938463463374607431768211456 := by norm_num

end NB
