/- helper lemmas for NB.Model.Radix (C06): the input paths (chunked Horner, bit regrouping) -/
import NB.Lemmas.RadixBits
import NB.Lemmas.AddSub
import NB.Lemmas.Canon
namespace NB.Radix

theorem beValue_nil (r : Nat) : Spec.beValue r [] = 0 := rfl

theorem beValue_snoc (r : Nat) (ds : List Nat) (d : Nat) :
    Spec.beValue r (ds ++ [d]) = Spec.beValue r ds * r + d := by
  unfold Spec.beValue; rw [List.foldl_append]; rfl

theorem beValue_eq_ofDigits (r : Nat) (ds : List Nat) : Spec.beValue r ds = Nat.ofDigits r ds.reverse := by
  induction ds using List.reverseRecOn with
  | nil => rfl
  | append_singleton ds d ih =>
    rw [beValue_snoc, ih, List.reverse_append, List.reverse_singleton, List.singleton_append, Nat.ofDigits_cons,
      Nat.mul_comm, Nat.add_comm]

theorem beValue_append (r : Nat) (a b : List Nat) :
    Spec.beValue r (a ++ b) = Spec.beValue r a * r ^ b.length + Spec.beValue r b := by
  rw [beValue_eq_ofDigits, beValue_eq_ofDigits, beValue_eq_ofDigits, List.reverse_append, Nat.ofDigits_append,
    List.length_reverse, Nat.add_comm, Nat.mul_comm]

theorem beValue_lt {r : Nat} (hr : 2 ≤ r) (ds : List Nat) (h : ∀ d ∈ ds, d < r) :
    Spec.beValue r ds < r ^ ds.length := by
  rw [beValue_eq_ofDigits, ← List.length_reverse]
  exact Nat.ofDigits_lt_base_pow_length hr fun d hd => h d (List.mem_reverse.1 hd)

/-- the wrapping u64 fold does not wrap as long as `radix^len` fits a digit -/
theorem beFold_eq {r : Nat} (hr : 2 ≤ r) (ds : List Nat) (h : ∀ d ∈ ds, d < r) (hB : r ^ ds.length ≤ B) :
    beFold r ds = Spec.beValue r ds := by
  induction ds using List.reverseRecOn with
  | nil => rfl
  | append_singleton ds d ih =>
    have hlt := Nat.lt_of_lt_of_le (beValue_lt hr _ h) hB
    rw [List.length_append] at hB
    have ih' := ih (fun x hx => h x (List.mem_append_left _ hx))
      (Nat.le_trans (Nat.pow_le_pow_right (Nat.le_of_lt hr) (Nat.le_add_right _ _)) hB)
    have e : beFold r (ds ++ [d]) = (beFold r ds * r + d) % B := by
      unfold beFold; rw [List.foldl_append]; rfl
    rw [e, ih', ← beValue_snoc, Nat.mod_eq_of_lt hlt]

theorem beFold_chunk {r power : Nat} (hr : 2 ≤ r) (hB : r ^ power < B) (ds : List Nat) (h : ∀ d ∈ ds, d < r)
    (hl : ds.length ≤ power) : beFold r ds = Spec.beValue r ds ∧ beFold r ds < r ^ power := by
  have hle : r ^ ds.length ≤ r ^ power := Nat.pow_le_pow_right (Nat.zero_lt_two.trans_le hr) hl
  have e := beFold_eq hr ds h (Nat.le_trans hle (Nat.le_of_lt hB))
  exact ⟨e, e ▸ Nat.lt_of_lt_of_le (beValue_lt hr ds h) hle⟩

/-- a carry out of the top position vanishes when the total fits below it -/
theorem carry_zero {v P c t : Nat} (h : v + P * c = t) (ht : t < P) : c = 0 :=
  (Nat.eq_zero_or_pos c).resolve_right fun hpos => Nat.lt_irrefl _ (Nat.lt_of_le_of_lt
    (Nat.le_trans (Nat.le_mul_of_pos_right P hpos) (Nat.le_add_left _ v)) (h ▸ ht))

/-- one `mac_with_carry` of the sweep, value side: low digit and new carry put back together -/
theorem mac_step {t v P c x : Nat} (h : v + P * c = x + t / B) : t % B + B * v + P * B * c = t + B * x := by
  rw [Nat.add_assoc, Nat.mul_assoc P, Nat.mul_left_comm P, ← Nat.mul_add, h, Nat.mul_add, ← Nat.add_assoc,
    Nat.add_right_comm, Nat.mod_add_div]

theorem mac_carry_lt {d base carry : Nat} (hd : d < B) (hb : base < B) (hc : carry < B) :
    (carry + d * base) / B < B := by
  apply Nat.div_lt_of_lt_mul
  have h1 : d * base ≤ d * B := Nat.mul_le_mul_left _ (Nat.le_of_lt hb)
  have h2 : (d + 1) * B ≤ B * B := Nat.mul_le_mul_right _ hd
  rw [Nat.add_mul, Nat.one_mul] at h2
  omega

theorem mulSweep_spec {base : Nat} (hb : base < B) : ∀ (ds : List Nat) (carry : Nat), DigitsOk ds → carry < B →
    (mulSweep base ds carry).1.length = ds.length ∧ DigitsOk (mulSweep base ds carry).1 ∧
    (mulSweep base ds carry).2 < B ∧
    val (mulSweep base ds carry).1 + B ^ ds.length * (mulSweep base ds carry).2 = val ds * base + carry := by
  intro ds
  induction ds with
  | nil => intro carry _ hc; exact ⟨rfl, DigitsOk.nil, hc, by simp [mulSweep, val]⟩
  | cons d ds ih =>
    intro carry hok hc
    obtain ⟨i1, i2, i3, i4⟩ := ih _ hok.tail (mac_carry_lt hok.head hb hc)
    simp only [mulSweep, macWithCarry, Nat.add_zero, List.length_cons, val_cons, pow_succ]
    generalize mulSweep base ds ((carry + d * base) / B) = R at i1 i2 i3 i4 ⊢
    refine ⟨by rw [i1], DigitsOk.cons (Nat.mod_lt _ B_pos) i2, i3, ?_⟩
    rw [mac_step i4, Nat.add_mul, Nat.mul_assoc, Nat.add_comm carry, Nat.add_right_comm]

/-- low digit `lo.1`, carry `lo.2` into the high part `v`, carry-out `c`: a sum below `P * B` has `c = 0` -/
theorem add2_fit {lo1 lo2 v c vs d n P : Nat} (a1 : lo1 + B * lo2 = d + n) (p1 : v + P * c = vs + lo2)
    (hfit : d + B * vs + n < P * B) : c = 0 ∧ lo1 + B * v = d + B * vs + n := by
  have h3 : B * v + P * B * c = B * vs + B * lo2 := by
    rw [← Nat.mul_add, ← p1, Nat.mul_add, Nat.mul_left_comm, Nat.mul_assoc]
  have hs : lo1 + B * v + P * B * c = d + B * vs + n := by
    rw [Nat.add_assoc, h3, Nat.add_left_comm, a1, Nat.add_left_comm, ← Nat.add_assoc]
  have hz := carry_zero hs hfit
  rw [hz, Nat.mul_zero, Nat.add_zero] at hs
  exact ⟨hz, hs⟩

/-- `add2` of one digit into a vector whose value leaves room for it: no carry leaves the top -/
theorem add2Digit_spec (a : List Nat) (n : Nat) (ha : DigitsOk a) (hlen : 1 ≤ a.length) (hn : n < B)
    (hfit : val a + n < B ^ a.length) :
    ∃ r, add2Digit a n = .ok r ∧ DigitsOk r ∧ r.length = a.length ∧ val r = val a + n := by
  obtain ⟨d, ds, rfl⟩ := List.exists_cons_of_ne_nil (List.ne_nil_of_length_pos hlen)
  obtain ⟨a1, a2, a3⟩ := adc_spec ha.head hn (Nat.zero_le 1)
  obtain ⟨p1, p2, p3, -⟩ := adcProp_spec ds (adc 0 d n).2 ha.tail a3
  rw [Nat.add_zero] at a1
  rw [List.length_cons, pow_succ, val_cons] at hfit
  have e : add2Digit (d :: ds) n = if (adcProp (adc 0 d n).2 ds).2 = 0
      then .ok ((adc 0 d n).1 :: (adcProp (adc 0 d n).2 ds).1) else .error (.internal "add2 carry") := rfl
  generalize adcProp (adc 0 d n).2 ds = hi at p1 p2 p3 e
  generalize adc 0 d n = lo at a1 a2 p1 e
  obtain ⟨hz, hv⟩ := add2_fit a1 p1 hfit
  exact ⟨_, by rw [e, if_pos hz], DigitsOk.cons a2 p3, by rw [List.length_cons, p2, List.length_cons], hv⟩

/-- the digit vector after the `push(0)` guard: same value, and the top digit is zero -/
theorem hornerExt_spec {data D : List Nat} (hd : DigitsOk data) (hne : data ≠ [])
    (hD : (if data.getLast? ≠ some 0 then data ++ [0] else data) = D) :
    DigitsOk D ∧ 1 ≤ D.length ∧ val D = val data ∧ val D + 1 ≤ B ^ (D.length - 1) := by
  subst hD
  split
  · refine ⟨hd.append (DigitsOk.cons B_pos DigitsOk.nil), ?_, ?_, ?_⟩
    · rw [List.length_append]; exact Nat.le_add_left _ _
    · rw [val_append, val_cons, val_nil, Nat.mul_zero, Nat.mul_zero]; rfl
    · rw [val_append, val_cons, val_nil, Nat.mul_zero, Nat.mul_zero, List.length_append]
      exact val_lt hd
  · exact ⟨hd, List.length_pos_of_ne_nil hne, rfl, val_lt_of_getLast_zero hd (not_not.1 ‹_›)⟩

/-- a value with a zero top digit times a digit, plus a smaller digit, still fits -/
theorem horner_fit {v base P n : Nat} (hv : v + 1 ≤ P) (hb : base < B) (hn : n < base) : v * base + n < P * B := by
  have h1 : (v + 1) * base ≤ P * B := Nat.mul_le_mul hv (Nat.le_of_lt hb)
  rw [Nat.add_mul, Nat.one_mul] at h1
  omega

theorem hornerStep_spec {radix base : Nat} (data chunk : List Nat) (hd : DigitsOk data) (hne : data ≠ [])
    (hb : base < B) (hn : beFold radix chunk < base) :
    ∃ d', hornerStep radix base data chunk = .ok d' ∧ DigitsOk d' ∧ d' ≠ [] ∧
      val d' = val data * base + beFold radix chunk := by
  unfold hornerStep
  dsimp only
  generalize hD : (if data.getLast? ≠ some 0 then data ++ [0] else data) = D
  obtain ⟨hDok, hDlen, hDval, hDlt⟩ := hornerExt_spec hd hne hD
  obtain ⟨s1, s2, -, s4⟩ := mulSweep_spec hb D 0 hDok B_pos
  have hfit := horner_fit hDlt hb hn
  rw [← pow_succ, Nat.sub_add_cancel hDlen] at hfit
  -- no carry leaves the sweep, and the chunk value still fits
  have hc0 : (mulSweep base D 0).2 = 0 :=
    carry_zero s4 (Nat.lt_of_le_of_lt (Nat.add_le_add_left (Nat.zero_le _) _) hfit)
  rw [hc0, Nat.mul_zero, Nat.add_zero, Nat.add_zero] at s4
  obtain ⟨r, hr, hrok, hrlen, hrval⟩ := add2Digit_spec (mulSweep base D 0).1 (beFold radix chunk) s2
    (s1 ▸ hDlen) (Nat.lt_trans hn hb) (by rw [s1, s4]; exact hfit)
  rw [if_neg (not_not.2 hc0)]
  refine ⟨r, hr, hrok, ?_, by rw [hrval, s4, hDval]⟩
  intro e; rw [e, s1] at hrlen; exact absurd hrlen.symm (Nat.ne_of_gt hDlen)

theorem hornerLoop_spec {r base power : Nat} (hr : 2 ≤ r) (hb : base = r ^ power) (hp : 0 < power)
    (hB : r ^ power < B) : ∀ (n : Nat) (tail : List Nat) (data : List Nat), tail.length = n * power →
    (∀ d ∈ tail, d < r) → DigitsOk data → data ≠ [] →
    ∃ d', hornerLoop r base power data tail = .ok d' ∧ DigitsOk d' ∧
      val d' = val data * r ^ tail.length + Spec.beValue r tail := by
  intro n
  induction n with
  | zero =>
    intro tail data hlen _ hok _
    rw [Nat.zero_mul] at hlen
    rw [List.eq_nil_of_length_eq_zero hlen, hornerLoop, dif_pos (Or.inl rfl)]
    exact ⟨data, rfl, hok, by rw [List.length_nil, pow_zero, Nat.mul_one, beValue_nil, Nat.add_zero]⟩
  | succ n ih =>
    intro tail data hlen hd hok hne0
    rw [Nat.succ_mul] at hlen
    have hne : tail ≠ [] := fun e => by
      rw [e, List.length_nil] at hlen; exact absurd hlen (Nat.ne_of_lt (Nat.add_pos_right _ hp))
    have htl : (tail.take power).length = power := by rw [List.length_take, hlen]; exact Nat.min_eq_left (Nat.le_add_left _ _)
    have hdl : (tail.drop power).length = n * power := by rw [List.length_drop, hlen, Nat.add_sub_cancel]
    have hdt : ∀ d ∈ tail.take power, d < r := fun d hx => hd d (List.mem_of_mem_take hx)
    obtain ⟨hfold, hlt⟩ := beFold_chunk hr hB _ hdt (Nat.le_of_eq htl)
    obtain ⟨d1, h1, h1ok, h1ne, h1val⟩ := hornerStep_spec data (tail.take power) hok hne0 (hb ▸ hB) (hb ▸ hlt)
    obtain ⟨d2, h2, h2ok, h2val⟩ := ih _ d1 hdl (fun d hx => hd d (List.mem_of_mem_drop hx)) h1ok h1ne
    refine ⟨d2, ?_, h2ok, ?_⟩
    · rw [hornerLoop, dif_neg (not_or.2 ⟨hne, Nat.ne_of_gt hp⟩), h1]
      exact h2
    · rw [h2val, h1val, hfold, hdl, hb]
      conv_rhs => rw [← List.take_append_drop power tail, beValue_append, List.length_append, htl, hdl]
      rw [pow_add, Nat.add_mul, Nat.mul_assoc, Nat.add_assoc]

/-- `from_radix_digits_be`: the first chunk takes `i` digits so that whole chunks of `power` remain -/
theorem fromRadixDigitsBe_spec {r : Nat} (h2 : 2 ≤ r) (h256 : r ≤ 256) (hp : isPow2 r = false)
    (v : List Nat) (hne : v ≠ []) (hd : ∀ d ∈ v, d < r) :
    fromRadixDigitsBe v r = .ok (ofNat (Spec.beValue r v)) := by
  obtain ⟨base, power, hg, hb, hbB, _, hpw⟩ := getRadixBase_ok h2 h256 hp
  have hlen : 0 < v.length := List.length_pos_of_ne_nil hne
  obtain ⟨i, n, hi, hi1, hip, hvl⟩ : ∃ i n, (if v.length % power = 0 then power else v.length % power) = i ∧
      1 ≤ i ∧ i ≤ power ∧ v.length = i + n * power := by
    have hdm := Nat.div_add_mod v.length power
    by_cases h0 : v.length % power = 0
    · rw [h0, Nat.add_zero] at hdm
      obtain ⟨q, hq⟩ : ∃ q, v.length / power = q + 1 :=
        Nat.exists_eq_succ_of_ne_zero fun hz => by rw [hz, Nat.mul_zero] at hdm; exact absurd hdm (Nat.ne_of_lt hlen)
      exact ⟨power, q, if_pos h0, hpw, Nat.le_refl _, by rw [← hdm, hq, Nat.mul_succ, Nat.mul_comm, Nat.add_comm]⟩
    · exact ⟨_, v.length / power, if_neg h0, Nat.pos_of_ne_zero h0, Nat.le_of_lt (Nat.mod_lt _ hpw),
        by rw [Nat.mul_comm, Nat.add_comm]; exact hdm.symm⟩
  have htl : (v.take i).length = i := by rw [List.length_take, hvl]; exact Nat.min_eq_left (Nat.le_add_right _ _)
  have hdl : (v.drop i).length = n * power := by rw [List.length_drop, hvl, Nat.add_sub_cancel_left]
  have hdt : ∀ d ∈ v.take i, d < r := fun d hx => hd d (List.mem_of_mem_take hx)
  have hrp : r ^ power < B := hb ▸ hbB
  obtain ⟨hfirst, hfp⟩ := beFold_chunk h2 hrp _ hdt (by rw [htl]; exact hip)
  obtain ⟨d', h', hok', hval'⟩ := hornerLoop_spec h2 hb hpw hrp n _ [beFold r (v.take i)] hdl
    (fun d hx => hd d (List.mem_of_mem_drop hx)) (DigitsOk.cons (Nat.lt_trans hfp hrp) DigitsOk.nil) (List.cons_ne_nil _ _)
  unfold fromRadixDigitsBe
  rw [hg]
  dsimp only
  rw [if_neg (Nat.ne_of_gt hpw), hi, if_neg (Nat.not_lt.2 (hvl ▸ Nat.le_add_right _ _)), h']
  dsimp only
  rw [normalize_eq_ofNat hok', hval', hfirst, val_cons, val_nil, Nat.mul_zero,
    Nat.add_zero]
  conv_rhs => rw [← List.take_append_drop i v, beValue_append]

theorem foldChunk_spec {bits : Nat} (h1 : 1 ≤ bits) (chunk : List Nat) (hc : ∀ c ∈ chunk, c < 2 ^ bits)
    (hlen : bits * chunk.length ≤ BITS) :
    foldChunk bits chunk = Nat.ofDigits (2 ^ bits) chunk := by
  induction chunk with
  | nil => rfl
  | cons c cs ih =>
    rw [List.length_cons, Nat.mul_succ] at hlen
    have hcs : ∀ x ∈ cs, x < 2 ^ bits := fun x hx => hc x (List.mem_cons_of_mem _ hx)
    have hlt : Nat.ofDigits (2 ^ bits) cs * 2 ^ bits < B := by
      refine Nat.lt_of_lt_of_le (Nat.mul_lt_mul_of_pos_right
        (Nat.ofDigits_lt_base_pow_length (two_le_pow (Nat.le_refl 2) h1) hcs) (Nat.two_pow_pos _)) ?_
      rw [show B = 2 ^ BITS from B_eq, ← pow_mul, ← pow_add]
      exact Nat.pow_le_pow_right (by decide) hlen
    have hstep : foldChunk bits (c :: cs) = ((foldChunk bits cs <<< bits) % B) ||| c := rfl
    rw [hstep, ih hcs (Nat.le_trans (Nat.le_add_right _ _) hlen), Nat.shiftLeft_eq, Nat.mod_eq_of_lt hlt,
      ← Nat.shiftLeft_eq, ← Nat.shiftLeft_add_eq_or_of_lt (hc c (List.mem_cons_self ..)), Nat.shiftLeft_eq,
      Nat.ofDigits_cons, Nat.add_comm, Nat.mul_comm]

theorem chunksOf_nil (n : Nat) : chunksOf n [] = [] := by
  rw [chunksOf, dif_pos (Or.inr rfl)]

theorem chunks_val {bits dpb : Nat} (h1 : 1 ≤ bits) (hB : bits * dpb = BITS) (v : List Nat) :
    (∀ c ∈ v, c < 2 ^ bits) →
    val ((chunksOf dpb v).map (foldChunk bits)) = Nat.ofDigits (2 ^ bits) v ∧
    DigitsOk ((chunksOf dpb v).map (foldChunk bits)) := by
  have hR := two_le_pow (Nat.le_refl 2) h1
  have hdpb : dpb ≠ 0 := fun h => by rw [h, Nat.mul_zero] at hB; exact absurd hB (by decide)
  induction v using chunksOf.induct dpb with
  | case1 v h =>
    intro _
    rw [h.resolve_left hdpb, chunksOf_nil]
    exact ⟨rfl, DigitsOk.nil⟩
  | case2 v h ih =>
    intro hd
    have hdt : ∀ d ∈ v.take dpb, d < 2 ^ bits := fun d hx => hd d (List.mem_of_mem_take hx)
    have htl : (v.take dpb).length ≤ dpb := by rw [List.length_take]; exact Nat.min_le_left _ _
    have e1 := foldChunk_spec h1 (v.take dpb) hdt (hB ▸ Nat.mul_le_mul_left _ htl)
    obtain ⟨i1, i2⟩ := ih fun d hx => hd d (List.mem_of_mem_drop hx)
    have hx : foldChunk bits (v.take dpb) < B := by
      rw [e1, show B = 2 ^ BITS from B_eq, ← hB, pow_mul]
      exact Nat.lt_of_lt_of_le (Nat.ofDigits_lt_base_pow_length hR hdt) (Nat.pow_le_pow_right (Nat.two_pow_pos _) htl)
    rw [chunksOf, dif_neg h, List.map_cons]
    refine ⟨?_, DigitsOk.cons hx i2⟩
    rw [val_cons, i1, e1]
    conv_rhs => rw [← List.take_append_drop dpb v, Nat.ofDigits_append]
    -- either the chunk is full, and `(2^bits)^dpb = B`, or nothing follows it
    by_cases hfull : dpb ≤ v.length
    · rw [List.length_take, Nat.min_eq_left hfull, ← pow_mul, hB]; rfl
    · rw [List.drop_eq_nil_of_le (Nat.le_of_not_le hfull), Nat.ofDigits_nil, Nat.mul_zero, Nat.mul_zero]

theorem fromBitwiseDigitsLe_spec {bits : Nat} (h1 : 1 ≤ bits) (hdiv : BITS % bits = 0)
    (v : List Nat) (hd : ∀ c ∈ v, c < 2 ^ bits) :
    fromBitwiseDigitsLe v bits = .ok (ofNat (Nat.ofDigits (2 ^ bits) v)) := by
  have hmul : bits * (BITS / bits) = BITS := Nat.mul_div_cancel' (Nat.dvd_of_mod_eq_zero hdiv)
  have hdpb : BITS / bits ≠ 0 := fun h => by rw [h, Nat.mul_zero] at hmul; exact absurd hmul (by decide)
  obtain ⟨e, hok⟩ := chunks_val h1 hmul v hd
  unfold fromBitwiseDigitsLe
  rw [if_neg (Nat.ne_of_gt h1)]
  dsimp only
  rw [if_neg hdpb, normalize_eq_ofNat hok, e]

/-- loop invariant of `from_inexact_bitwise_digits_le`: `d` holds the `dbits < BITS` pending bits (`d`, `dbits`, `data` of the Rust loop) -/
def InexSt.Ok (s : InexSt) : Prop := s.dbits < BITS ∧ s.d < 2 ^ s.dbits ∧ DigitsOk s.dataRev

/-- the number read so far: the limbs pushed to `data`, then the pending bits in `d` -/
def InexSt.value (s : InexSt) : Nat := val s.dataRev.reverse + B ^ s.dataRev.length * s.d

/-- the weight of the next input digit: `BITS * data.len() + dbits` bits have been read -/
def InexSt.weight (s : InexSt) : Nat := B ^ s.dataRev.length * 2 ^ s.dbits

theorem val_reverse_cons (x : Nat) (l : List Nat) : val (x :: l).reverse = val l.reverse + B ^ l.length * x := by
  rw [List.reverse_cons, val_append, List.length_reverse, val_cons, val_nil, Nat.mul_zero, Nat.add_zero]

/-- when a limb is completed, the bits of `c` that did not fit are exactly the quotient by `B` -/
theorem inex_spill {bits c d dbits : Nat} (h64 : dbits < BITS) (hd : d < 2 ^ dbits) (hpush : BITS ≤ dbits + bits) :
    c >>> (bits - (dbits + bits - BITS)) = (d + c * 2 ^ dbits) / B := by
  obtain ⟨j, hj⟩ := Nat.exists_eq_add_of_le (Nat.le_of_lt h64)
  obtain ⟨k, hk⟩ := Nat.exists_eq_add_of_le hpush
  have hb : bits = j + k := by
    apply Nat.add_left_cancel (n := dbits)
    rw [hk, hj, Nat.add_assoc]
  rw [hk, Nat.add_sub_cancel_left, hb, Nat.add_sub_cancel, Nat.shiftRight_eq_div_pow, show B = 2 ^ BITS from B_eq, hj, pow_add,
    ← Nat.div_div_eq_div_mul, Nat.add_mul_div_right _ _ (Nat.two_pow_pos _), Nat.div_eq_of_lt hd, Nat.zero_add]

/-- one iteration of `for &c in v` adds `c` at the current weight and moves the weight up by `bits` -/
theorem inexStep_spec {bits : Nat} (h8 : bits ≤ 8) {s : InexSt} (hs : s.Ok) {c : Nat} (hc : c < 2 ^ bits) :
    (inexStep bits s c).Ok ∧ (inexStep bits s c).value = s.value + s.weight * c ∧
    (inexStep bits s c).weight = s.weight * 2 ^ bits := by
  obtain ⟨h64, hd, hok⟩ := hs
  have hxlt : s.d + c * 2 ^ s.dbits < 2 ^ s.dbits * 2 ^ bits := Nat.mul_comm c _ ▸ add_mul_lt hd hc
  have hd' := inex_spill (bits := bits) (c := c) h64 hd
  have e : s.value + s.weight * c = val s.dataRev.reverse + B ^ s.dataRev.length * (s.d + c * 2 ^ s.dbits) := by
    unfold InexSt.value InexSt.weight
    rw [Nat.mul_add, Nat.add_assoc, Nat.mul_assoc, Nat.mul_comm c]
  rw [e]
  unfold InexSt.Ok InexSt.value InexSt.weight inexStep
  dsimp only
  rw [or_shl_mod (Nat.le_of_lt h64) hd, Nat.mul_assoc]
  by_cases hpush : BITS ≤ s.dbits + bits
  · -- a big digit is completed: `x % B` is pushed, `c >> …` is exactly `x / B`
    obtain ⟨k, hk⟩ := Nat.exists_eq_add_of_le hpush
    have hBp : B * 2 ^ k = 2 ^ s.dbits * 2 ^ bits := by rw [show B = 2 ^ BITS from B_eq, ← pow_add, ← pow_add, hk]
    have hk64 : BITS + k < BITS + BITS := hk ▸ Nat.add_lt_add h64 (Nat.lt_of_le_of_lt h8 (by decide))
    rw [if_pos hpush]
    dsimp only
    rw [hd' hpush, hk, Nat.add_sub_cancel_left, val_reverse_cons, List.length_cons, pow_succ]
    refine ⟨⟨Nat.lt_of_add_lt_add_left hk64, ?_, DigitsOk.cons (Nat.mod_lt _ B_pos) hok⟩, ?_,
      by rw [Nat.mul_assoc, hBp]⟩
    · rw [Nat.div_lt_iff_lt_mul B_pos, Nat.mul_comm (2 ^ k), hBp]; exact hxlt
    · rw [Nat.add_assoc, Nat.mul_assoc, ← Nat.mul_add, Nat.mod_add_div]
  · have hlt : s.dbits + bits < BITS := Nat.not_le.1 hpush
    have hxB : s.d + c * 2 ^ s.dbits < B := by
      refine Nat.lt_of_lt_of_le hxlt ?_
      rw [← pow_add, show B = 2 ^ BITS from B_eq]
      exact Nat.pow_le_pow_right (by decide) (Nat.le_of_lt hlt)
    rw [if_neg hpush]
    dsimp only
    rw [Nat.mod_eq_of_lt hxB, pow_add]
    exact ⟨⟨hlt, hxlt, hok⟩, rfl, rfl⟩

theorem inexFold_spec {bits : Nat} (h8 : bits ≤ 8) : ∀ (v : List Nat) (s : InexSt), s.Ok → (∀ c ∈ v, c < 2 ^ bits) →
    (v.foldl (inexStep bits) s).Ok ∧
    (v.foldl (inexStep bits) s).value = s.value + s.weight * Nat.ofDigits (2 ^ bits) v := by
  intro v
  induction v with
  | nil => intro s hs _; exact ⟨hs, by rw [Nat.ofDigits_nil, Nat.mul_zero]; rfl⟩
  | cons c cs ih =>
    intro s hs hc
    obtain ⟨t1, t2, t3⟩ := inexStep_spec h8 hs (hc c (List.mem_cons_self ..))
    obtain ⟨r1, r2⟩ := ih _ t1 fun x hx => hc x (List.mem_cons_of_mem _ hx)
    exact ⟨r1, by rw [List.foldl_cons, r2, t2, t3, Nat.ofDigits_cons, Nat.mul_add, Nat.add_assoc, Nat.mul_assoc]⟩

theorem fromInexactBitwiseDigitsLe_spec {bits : Nat} (h8 : bits ≤ 8)
    (v : List Nat) (hd : ∀ c ∈ v, c < 2 ^ bits) :
    fromInexactBitwiseDigitsLe v bits = ofNat (Nat.ofDigits (2 ^ bits) v) := by
  obtain ⟨⟨r1, r2, r3⟩, r4⟩ := inexFold_spec h8 v ⟨0, 0, []⟩ ⟨by decide, by decide, DigitsOk.nil⟩ hd
  unfold fromInexactBitwiseDigitsLe
  dsimp only
  generalize List.foldl (inexStep bits) ⟨0, 0, []⟩ v = s at *
  have r4' : s.value = Nat.ofDigits (2 ^ bits) v := by
    rw [r4]; show 0 + 1 * 0 + 1 * 1 * _ = _; rw [Nat.one_mul, Nat.one_mul, Nat.zero_add]
  unfold InexSt.value at r4'
  have hrev : DigitsOk s.dataRev.reverse := fun d hd => r3 d (List.mem_reverse.mp hd)
  by_cases h0 : 0 < s.dbits
  · have hdB : s.d < B := Nat.lt_of_lt_of_le r2 (by rw [B_eq]; exact Nat.pow_le_pow_right (by decide) (Nat.le_of_lt r1))
    have hok : DigitsOk (s.d :: s.dataRev).reverse := by
      rw [List.reverse_cons]; exact hrev.append (DigitsOk.cons hdB DigitsOk.nil)
    rw [if_pos h0, normalize_eq_ofNat hok, val_reverse_cons, r4']
  · have hd0 : s.d = 0 := by rw [Nat.eq_zero_of_not_pos h0] at r2; exact Nat.lt_one_iff.1 r2
    rw [hd0, Nat.mul_zero, Nat.add_zero] at r4'
    rw [if_neg h0, normalize_eq_ofNat hrev, r4']

theorem digitsToBigUint_spec {r : Nat} (h2 : 2 ≤ r) (h256 : r ≤ 256) (le : List Nat) (hne : le ≠ [])
    (hd : ∀ d ∈ le, d < r) :
    digitsToBigUint r le le.reverse = .ok (ofNat (Nat.ofDigits r le)) := by
  unfold digitsToBigUint
  by_cases hp : isPow2 r = true
  · obtain ⟨hr, hb1, hb8⟩ := pow2_bits h2 h256 hp
    have hd' : ∀ d ∈ le, d < 2 ^ ilog2 r := hr ▸ hd
    rw [if_pos hp]
    dsimp only
    by_cases hdiv : BITS % ilog2 r = 0
    · rw [if_pos hdiv, fromBitwiseDigitsLe_spec hb1 hdiv le hd', ← hr]
    · rw [if_neg hdiv, fromInexactBitwiseDigitsLe_spec hb8 le hd', ← hr]
  · rw [if_neg hp, fromRadixDigitsBe_spec h2 h256 (Bool.eq_false_iff.2 hp) le.reverse
      (fun h => hne (List.reverse_eq_nil_iff.1 h)) (fun d h => hd d (List.mem_reverse.1 h)),
      beValue_eq_ofDigits, List.reverse_reverse]

end NB.Radix
