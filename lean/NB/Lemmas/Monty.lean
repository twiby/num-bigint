/- The Montgomery arithmetic of src/biguint/monty.rs (NB.Model.Monty).  `montgomery` is followed through the window
   `z[i .. i+n]` of its buffer (`winStep`, `winLoop`): one step is `T'·B = T + x·yᵢ + m·t` and keeps `T < Bⁿ + m`.
   `monty_modpow` is followed through Montgomery representatives (`Rep`): table, windows, squarings. -/
import NB.Lemmas.Base
import NB.Lemmas.ModPow
import NB.Model.Monty
import NB.Model.ModPowD  -- for `montyCore`, the middle of `montyModpow` that both models share
namespace NB

/-- the Newton step for the inverse: from `k0·b + s ≡ 1` to `k0·(s+1)·b + s² ≡ 1`, since
    `k0·(s+1)·b + s² + s = (k0·b + s)·(s+1)` -/
theorem newton_step {M k0 b s s' k' : Nat} (h : k0 * b + s ≡ 1 [MOD M]) (hs : s' ≡ s [MOD M])
    (hk : k' ≡ k0 * (s' + 1) [MOD M]) : k' * b + s' * s' ≡ 1 [MOD M] := by
  have h1 : k0 * b + s' ≡ 1 [MOD M] := (Nat.ModEq.add_left _ hs).trans h
  refine (Nat.ModEq.add_right _ (hk.mul_right b)).trans (Nat.ModEq.add_right_cancel' s' ?_)
  have e : k0 * (s' + 1) * b + s' * s' + s' = (k0 * b + s') * (s' + 1) := by ring
  rw [e, Nat.add_comm 1 s']
  simpa using h1.mul_right (s' + 1)

/-- once `i ≥ 64` the loop stops, and `t ≡ (b-1)^i` with `b - 1` even is `0` -/
theorem invLoop_exit (b : Nat) (hb : b % 2 = 1) (fuel i t k0 : Nat) (hi : ¬ i < BITS)
    (htc : t ≡ (b - 1) ^ i [MOD B]) (hkc : k0 * b + t * t ≡ 1 [MOD B]) :
    invLoop (fuel + 1) i t k0 = .ok (t, k0) ∧ k0 * b ≡ 1 [MOD B] := by
  refine ⟨by simp [invLoop, hi], ?_⟩
  have hc : b - 1 = 2 * (b / 2) :=
    Nat.sub_eq_of_eq_add (by have := Nat.div_add_mod b 2; rw [hb] at this; exact this.symm)
  obtain ⟨j, hj⟩ := Nat.exists_eq_add_of_le (Nat.le_of_not_lt hi)
  have ht0 : t ≡ 0 [MOD B] := by
    refine htc.trans ((Nat.modEq_zero_iff_dvd).mpr ?_)
    rw [hc, mul_pow, hj, pow_add, ← B_eq_bits]
    exact Dvd.intro (2 ^ j * (b / 2) ^ (BITS + j)) (by ring)
  have : k0 * b + t * t ≡ k0 * b + 0 * 0 [MOD B] := Nat.ModEq.add_left _ (ht0.mul ht0)
  exact this.symm.trans hkc

/-- loop invariant of `inv_mod_alt`: `k0·b + t² ≡ 1`, `t ≡ (b-1)^i`, `t` even (so `t + 1` does not overflow) -/
theorem invLoop_spec (b : Nat) (hb : b % 2 = 1) : ∀ fuel i t k0, BITS ≤ i * 2 ^ fuel →
    t % 2 = 0 → k0 < B → t ≡ (b - 1) ^ i [MOD B] → k0 * b + t * t ≡ 1 [MOD B] →
    ∃ t' k0', invLoop (fuel + 1) i t k0 = .ok (t', k0') ∧ k0' < B ∧ k0' * b ≡ 1 [MOD B]
  | 0, i, t, k0, hf, _, hkB, htc, hkc =>
    have ⟨h1, h2⟩ := invLoop_exit b hb 0 i t k0 (by simpa using hf) htc hkc
    ⟨t, k0, h1, hkB, h2⟩
  | fuel + 1, i, t, k0, hf, ht2, hkB, htc, hkc => by
    by_cases hi64 : i < BITS
    · have hev : wmul t t % 2 = 0 := by
        unfold wmul
        rw [Nat.mod_mod_of_dvd _ (Nat.dvd_of_mod_eq_zero even_B), Nat.mul_mod, ht2]
      have hov : ¬ (wmul t t + 1 ≥ B) := by
        have := even_B; have : wmul t t < B := Nat.mod_lt _ B_pos; omega
      have hsq : wmul t t ≡ t * t [MOD B] := Nat.mod_modEq _ _
      rw [invLoop]
      simp only [hi64, hov, if_true, if_false]
      apply invLoop_spec b hb fuel (i * 2) _ _ (by rwa [pow_succ', ← Nat.mul_assoc] at hf) hev
        (Nat.mod_lt _ B_pos)
      · rw [Nat.mul_two, pow_add]; exact hsq.trans (htc.mul htc)
      · exact newton_step hkc hsq (Nat.mod_modEq _ _)
    · have ⟨h1, h2⟩ := invLoop_exit b hb (fuel + 1) i t k0 hi64 htc hkc
      exact ⟨t, k0, h1, hkB, h2⟩

theorem invModAlt_spec (b : Nat) (hbB : b < B) (hb : b % 2 = 1) :
    ∃ k, invModAlt b = .ok k ∧ k < B ∧ (k * b + 1) % B = 0 := by
  obtain ⟨c, rfl⟩ : ∃ c, b = c + 1 := ⟨b - 1, by omega⟩
  -- the start values `k0 = 2 - b`, `t = b - 1`:  `(2 - b)·b + (b - 1)² = 1`
  have hinit : wsub 2 (c + 1) * (c + 1) + c * c ≡ 1 [MOD B] := by
    have hu : 2 + B - (c + 1) + c = B + 1 := by omega
    have e : (2 + B - (c + 1)) * (c + 1) + c * c = B * (c + 1) + 1 := by
      generalize 2 + B - (c + 1) = u at hu
      calc u * (c + 1) + c * c = c * (u + c) + u := by ring
        _ = c * (B + 1) + u := by rw [hu]
        _ = B * c + (u + c) := by ring
        _ = B * (c + 1) + 1 := by rw [hu]; ring
    have : wsub 2 (c + 1) * (c + 1) + c * c ≡ B * (c + 1) + 1 [MOD B] :=
      e ▸ Nat.ModEq.add_right _ ((Nat.mod_modEq _ _).mul_right _)
    exact this.trans (by simp [Nat.ModEq])
  obtain ⟨t', k0', hl, hk0, hkc⟩ := invLoop_spec (c + 1) hb 63 1 c (wsub 2 (c + 1))
    (by decide) (by omega) (Nat.mod_lt _ B_pos) (by rw [pow_one, Nat.add_sub_cancel]) hinit
  have hw : wmul k0' (c + 1) = 1 := Eq.trans hkc (by decide)
  have h1 : ¬ ((c + 1) &&& 1 = 0) := by rw [Nat.and_one_is_mod]; omega
  unfold invModAlt
  simp only [h1, if_false, Nat.add_sub_cancel, show BITS = 63 + 1 from rfl, hl, hw, ne_eq,
    not_true_eq_false]
  refine ⟨wneg k0', rfl, Nat.mod_lt _ B_pos, ?_⟩
  -- `(B - k0')·b + 1 ≡ (B - k0')·b + k0'·b = B·b`
  have h2 : wneg k0' * (c + 1) + 1 ≡ (B - k0') * (c + 1) + k0' * (c + 1) [MOD B] :=
    Nat.ModEq.add ((Nat.mod_modEq _ _).mul_right _) hkc.symm
  rw [← Nat.add_mul, Nat.sub_add_cancel (Nat.le_of_lt hk0)] at h2
  exact h2.trans ((Nat.modEq_zero_iff_dvd).mpr (Dvd.intro _ rfl))

/-- one digit of `add_mul_vvw`: neither `add_ww` nor the carry word loses anything -/
theorem addMulVVW_step (xi y zi c : Nat) (hx : xi < B) (hy : y < B) (hz : zi < B) (hc : c < B) :
    (addWW (mulAddWWW xi y zi).2 c 0).2 < B ∧
    wadd (addWW (mulAddWWW xi y zi).2 c 0).1 (mulAddWWW xi y zi).1 < B ∧
    (addWW (mulAddWWW xi y zi).2 c 0).2
      + B * wadd (addWW (mulAddWWW xi y zi).2 c 0).1 (mulAddWWW xi y zi).1 = xi * y + zi + c := by
  have hP : xi * y ≤ (B - 1) * (B - 1) := Nat.mul_le_mul (by omega) (by omega)
  unfold mulAddWWW addWW wadd
  dsimp only
  generalize xi * y = p at *
  unfold B at *
  simp only [Nat.add_zero]
  split_ifs <;> omega

theorem addMulVVW_spec : ∀ (z x : List Nat) (y c : Nat), x.length = z.length → DigitsOk z → DigitsOk x →
    y < B → c < B →
    (addMulVVW z x y c).1.length = z.length ∧ DigitsOk (addMulVVW z x y c).1 ∧ (addMulVVW z x y c).2 < B ∧
    val (addMulVVW z x y c).1 + B ^ z.length * (addMulVVW z x y c).2 = val z + val x * y + c
  | [], [], y, c, _, _, _, _, hc => by simp [addMulVVW, val, DigitsOk.nil, hc]
  | [], _ :: _, _, _, h, _, _, _, _ => by simp at h
  | _ :: _, [], _, _, h, _, _, _, _ => by simp at h
  | zi :: zs, xi :: xs, y, c, hl, hz, hx, hy, hc => by
    obtain ⟨s1, s2, s3⟩ := addMulVVW_step xi y zi c hx.head hy hz.head hc
    simp only [addMulVVW]
    generalize (addWW (mulAddWWW xi y zi).2 c 0).2 = d at *
    generalize wadd (addWW (mulAddWWW xi y zi).2 c 0).1 (mulAddWWW xi y zi).1 = c' at *
    obtain ⟨i1, i2, i3, i4⟩ := addMulVVW_spec zs xs y c' (Nat.succ.inj hl) hz.tail hx.tail hy s2
    refine ⟨congrArg Nat.succ i1, DigitsOk.cons s1 i2, i3, ?_⟩
    simp only [val, List.length_cons, pow_succ]
    have : d + B * val (addMulVVW zs xs y c').1 + B ^ zs.length * B * (addMulVVW zs xs y c').2
        = d + B * (val (addMulVVW zs xs y c').1 + B ^ zs.length * (addMulVVW zs xs y c').2) := by ring
    rw [this, i4]
    have : d + B * (val zs + val xs * y + c') = (d + B * c') + B * val zs + B * val xs * y := by ring
    rw [this, s3]; ring

theorem top_bit (v : Nat) (hv : v < B) : v.testBit 63 = decide (9223372036854775808 ≤ v) := by
  rw [Nat.testBit_eq_decide_div_mod_eq]
  congr 1
  unfold B at hv
  simp only [eq_iff_iff]
  constructor <;> intro h <;> omega

theorem wnot_lt (x : Nat) : wnot x < B := by unfold wnot B; omega

theorem top_bit_wnot (x : Nat) (hx : x < B) : (wnot x).testBit 63 = !decide (9223372036854775808 ≤ x) := by
  rw [top_bit _ (wnot_lt x)]
  unfold wnot; unfold B at *
  by_cases h : 9223372036854775808 ≤ x
  · simp only [h, decide_true, Bool.not_true, decide_eq_false_iff_not]; omega
  · simp only [h, decide_false, Bool.not_false, decide_eq_true_eq]; omega

/-- the Hacker's Delight borrow, bit 63 of `(y & !x) | ((y | !x) & z)`, through the top bits of `x`, `y`, `z`, which
    are comparisons with `2^63`: arithmetic from here on, no bit-blasting -/
theorem hdBorrow_eq (x y z : Nat) (hx : x < B) (hy : y < B) (hz : z < B) :
    hdBorrow x y z =
      if (9223372036854775808 ≤ y ∧ ¬ 9223372036854775808 ≤ x) ∨
         ((9223372036854775808 ≤ y ∨ ¬ 9223372036854775808 ≤ x) ∧ 9223372036854775808 ≤ z) then 1 else 0 := by
  unfold hdBorrow
  have hB : B = 2 ^ 64 := B_eq
  have hw : ((y &&& wnot x) ||| ((y ||| wnot x) &&& z)) < 2 ^ 64 := by
    rw [← hB]
    have h1 : (y &&& wnot x) < 2 ^ 64 := Nat.and_lt_two_pow _ (by rw [← hB]; exact wnot_lt x)
    have h2 : ((y ||| wnot x) &&& z) < 2 ^ 64 := Nat.and_lt_two_pow _ (by rw [← hB]; exact hz)
    rw [hB]; exact Nat.or_lt_two_pow h1 h2
  have hsh : BITS - 1 = 63 := rfl
  rw [hsh, Nat.shiftRight_eq_div_pow]
  generalize hwd : ((y &&& wnot x) ||| ((y ||| wnot x) &&& z)) = w at *
  have htb : w.testBit 63 = ((decide (9223372036854775808 ≤ y) && !decide (9223372036854775808 ≤ x)) ||
      ((decide (9223372036854775808 ≤ y) || !decide (9223372036854775808 ≤ x)) && decide (9223372036854775808 ≤ z))) := by
    rw [← hwd]
    simp only [Nat.testBit_or, Nat.testBit_and, top_bit y hy, top_bit z hz, top_bit_wnot x hx]
  have hwB : w < B := by rw [hB]; exact hw
  rw [top_bit w hwB] at htb
  simp only [← Bool.decide_and, ← Bool.decide_or, ← decide_not, decide_eq_decide] at htb
  refine Eq.trans ?_ (if_congr htb rfl rfl)
  unfold B at hwB
  split <;> omega

theorem subVV_step (x y c : Nat) (hx : x < B) (hy : y < B) (hc : c ≤ 1) :
    wsub (wsub x y) c < B ∧
    hdBorrow x y (wsub (wsub x y) c) = (if x < y + c then 1 else 0) ∧
    wsub (wsub x y) c + y + c = x + B * (if x < y + c then 1 else 0) := by
  have hz : wsub (wsub x y) c < B := Nat.mod_lt _ B_pos
  rw [hdBorrow_eq x y _ hx hy hz]
  unfold wsub at *
  unfold B at *
  refine ⟨hz, if_congr (by omega) rfl rfl, ?_⟩
  split_ifs <;> omega

theorem subVV_spec : ∀ (z x y : List Nat) (c : Nat), x.length = z.length → y.length = z.length →
    DigitsOk x → DigitsOk y → c ≤ 1 →
    (subVV z x y c).1.length = z.length ∧ DigitsOk (subVV z x y c).1 ∧ (subVV z x y c).2 ≤ 1 ∧
    val (subVV z x y c).1 + val y + c = val x + B ^ z.length * (subVV z x y c).2
  | [], [], [], c, _, _, _, _, hc => by simp [subVV, val, DigitsOk.nil, hc]
  | [], _ :: _, _, _, h, _, _, _, _ => by simp at h
  | [], [], _ :: _, _, _, h, _, _, _ => by simp at h
  | _ :: _, [], _, _, h, _, _, _, _ => by simp at h
  | _ :: _, _ :: _, [], _, _, h, _, _, _ => by simp at h
  | zi :: zs, xi :: xs, yi :: ys, c, hlx, hly, hx, hy, hc => by
    obtain ⟨s1, s2, s3⟩ := subVV_step xi yi c hx.head hy.head hc
    simp only [subVV]
    rw [s2]
    generalize wsub (wsub xi yi) c = d at *
    generalize hb : (if xi < yi + c then 1 else 0) = bo at *
    have hbo : bo ≤ 1 := by rw [← hb]; split <;> omega
    obtain ⟨i1, i2, i3, i4⟩ := subVV_spec zs xs ys bo (Nat.succ.inj hlx) (Nat.succ.inj hly) hx.tail hy.tail hbo
    refine ⟨congrArg Nat.succ i1, DigitsOk.cons s1 i2, i3, ?_⟩
    simp only [val, List.length_cons, pow_succ]
    have e1 : d + B * val (subVV zs xs ys bo).1 + (yi + B * val ys) + c
        = (d + yi + c) + B * (val (subVV zs xs ys bo).1 + val ys) := by ring
    have e2 : B * (val (subVV zs xs ys bo).1 + val ys) + B * bo = B * (val xs + B ^ zs.length * (subVV zs xs ys bo).2) := by
      rw [← i4]; ring
    rw [e1, s3]
    have e3 : xi + B * val xs + B ^ zs.length * B * (subVV zs xs ys bo).2
        = xi + B * (val xs + B ^ zs.length * (subVV zs xs ys bo).2) := by ring
    rw [e3, ← e2]; ring

theorem addMulVVW_length : ∀ (z x : List Nat) (y c : Nat), (addMulVVW z x y c).1.length = z.length
  | [], [], _, _ => by simp [addMulVVW]
  | [], _ :: _, _, _ => by simp [addMulVVW]
  | _ :: _, [], _, _ => by simp [addMulVVW]
  | zi :: zs, xi :: xs, y, c => by simp [addMulVVW, addMulVVW_length zs xs]

theorem getD_append_len {α} (pre : List α) (a : α) (l : List α) (d : α) :
    (pre ++ a :: l).getD pre.length d = a := by
  rw [List.getD_eq_getElem?_getD, List.getElem?_append_right (Nat.le_refl _), Nat.sub_self]; rfl

/-- one iteration of the loop on the window: (digit shifted out, new window, new `c`) -/
def winStep (x m : List Nat) (k : Nat) (w : List Nat) (c yi : Nat) : Nat × List Nat × Nat :=
  let r2 := addMulVVW w x yi 0
  let t := wmul (r2.1.headD 0) k
  let r3 := addMulVVW r2.1 m t 0
  let cx := wadd c r2.2
  let cy := wadd cx r3.2
  (r3.1.headD 0, r3.1.tail ++ [cy], if cx < r2.2 ∨ cy < r3.2 then 1 else 0)

/-- the whole loop on the window: (digits shifted out, final window, final `c`) -/
def winLoop (x m : List Nat) (k : Nat) : List Nat → List Nat → Nat → List Nat × List Nat × Nat
  | [], w, c => ([], w, c)
  | yi :: ys, w, c =>
    let s := winStep x m k w c yi
    let r := winLoop x m k ys s.2.1 s.2.2
    (s.1 :: r.1, r.2.1, r.2.2)

theorem winStep_length (x m : List Nat) (k : Nat) (w : List Nat) (c yi : Nat) (hw : w ≠ []) :
    (winStep x m k w c yi).2.1.length = w.length := by
  unfold winStep
  simp only [List.length_append, List.length_tail, addMulVVW_length, List.length_cons, List.length_nil]
  exact Nat.sub_add_cancel (List.length_pos_iff.mpr hw)

theorem slice_window (pre u rest : List Nat) (n : Nat) (h : u.length = n) :
    ((pre ++ u ++ rest).drop pre.length).take n = u := by
  rw [List.append_assoc, List.drop_left' rfl, List.take_left' h]

theorem setSlice_window (pre u v rest : List Nat) (n : Nat) (h : u.length = n) :
    setSlice (pre ++ u ++ rest) pre.length n v = pre ++ v ++ rest := by
  unfold setSlice
  have h1 : (pre ++ u ++ rest).take pre.length = pre := by
    rw [List.append_assoc]; exact List.take_left' rfl
  have h2 : (pre ++ u ++ rest).drop (pre.length + n) = rest :=
    List.drop_left' (by simp [h])
  rw [h1, h2]

theorem getD_window (pre u rest : List Nat) (h : 0 < u.length) :
    (pre ++ u ++ rest).getD pre.length 0 = u.headD 0 := by
  cases u with
  | nil => simp at h
  | cons a l => rw [List.append_assoc]; exact getD_append_len pre a (l ++ rest) 0

theorem set_window (pre u rest : List Nat) (a b n : Nat) (h : u.length = n) :
    (pre ++ u ++ a :: rest).set (n + pre.length) b = pre ++ u ++ b :: rest := by
  have : n + pre.length = (pre ++ u).length := by simp [h]; omega
  rw [this, List.set_append_right _ _ (Nat.le_refl _), Nat.sub_self, List.set_cons_zero]

theorem montLoop_window (x m : List Nat) (k : Nat) : ∀ (ys pre w : List Nat) (c : Nat),
    0 < w.length →
    montLoop x m k w.length ys pre.length (pre ++ w ++ List.replicate ys.length 0) c =
      (pre ++ (winLoop x m k ys w c).1 ++ (winLoop x m k ys w c).2.1, (winLoop x m k ys w c).2.2)
  | [], pre, w, c, _ => by simp [montLoop, winLoop]
  | yi :: ys, pre, w, c, hw => by
    rw [montLoop]
    simp only [List.length_cons, List.replicate_succ]
    simp only [slice_window, setSlice_window, getD_window, set_window, addMulVVW_length, hw]
    rw [winLoop]
    simp only [winStep]
    generalize hr2 : addMulVVW w x yi 0 = r2
    generalize hr3 : addMulVVW r2.1 m (wmul (r2.1.headD 0) k) 0 = r3
    have hr3l : r3.1.length = w.length := by rw [← hr3, addMulVVW_length, ← hr2, addMulVVW_length]
    generalize hcy : wadd (wadd c r2.2) r3.2 = cy
    generalize hc' : (if wadd c r2.2 < r2.2 ∨ cy < r3.2 then 1 else 0) = c'
    have hwl : (r3.1.tail ++ [cy]).length = w.length := by
      rw [List.length_append, List.length_tail, hr3l]; exact Nat.sub_add_cancel hw
    have hsplit : pre ++ r3.1 ++ cy :: List.replicate ys.length 0
        = (pre ++ [r3.1.headD 0]) ++ (r3.1.tail ++ [cy]) ++ List.replicate ys.length 0 := by
      obtain ⟨a, l, hal⟩ := List.exists_cons_of_length_pos (hr3l ▸ hw)
      rw [hal]; simp
    have hpl : pre.length + 1 = (pre ++ [r3.1.headD 0]).length := by simp
    rw [hsplit, hpl, ← hwl]
    rw [montLoop_window x m k ys (pre ++ [r3.1.headD 0]) (r3.1.tail ++ [cy]) c' (by rw [hwl]; exact hw)]
    simp

theorem carry_words (c c2 c3 : Nat) (hc : c ≤ 1) (h2 : c2 < B) (h3 : c3 < B) :
    (if wadd c c2 < c2 ∨ wadd (wadd c c2) c3 < c3 then 1 else 0) ≤ 1 ∧
    wadd (wadd c c2) c3 < B ∧
    c + c2 + c3 = wadd (wadd c c2) c3 + B * (if wadd c c2 < c2 ∨ wadd (wadd c c2) c3 < c3 then 1 else 0) := by
  unfold wadd; unfold B at *
  split_ifs <;> omega

theorem val_mod_B (l : List Nat) (h : DigitsOk l) : val l % B = l.headD 0 := by
  cases l with
  | nil => simp [val]
  | cons a t =>
    simp only [val, List.headD_cons]
    rw [Nat.add_mul_mod_self_left, Nat.mod_eq_of_lt h.head]

/-- with `k·m₀ ≡ −1`, adding `m·(v mod B)·k` to `v` clears the low digit -/
theorem low_digit_cancels (v vm m0 k : Nat) (hm : vm % B = m0 % B) (hk : (k * m0 + 1) % B = 0) :
    (v + vm * wmul (v % B) k) % B = 0 := by
  have e : v + vm * wmul (v % B) k ≡ v % B + m0 * (v % B * k) [MOD B] :=
    (Nat.mod_modEq v B).symm.add (Nat.ModEq.mul hm (Nat.mod_modEq _ _))
  have e' : v % B + m0 * (v % B * k) = v % B * (k * m0 + 1) := by ring
  rw [e'] at e
  exact e.trans (Nat.ModEq.mul_left _ (show k * m0 + 1 ≡ 0 [MOD B] from hk))

theorem val_tail_of_dvd (l : List Nat) (h : DigitsOk l) (h0 : val l % B = 0) : val l = B * val l.tail := by
  cases l with
  | nil => rfl
  | cons a t =>
    rw [val_mod_B _ h] at h0
    simp only [List.headD_cons] at h0
    simp only [val, List.tail_cons, h0, Nat.zero_add]

/-- the arithmetic of one window step: the two multiply-accumulate rows `h2`, `h3` (the second with its zero
    low digit already divided out) and the carry word `hc` -/
theorem winStep_arith {B Bn vt cy c' c c2 c3 v2 vm t vw xy : Nat}
    (h2 : v2 + Bn * B * c2 = vw + xy) (h3 : B * vt + Bn * B * c3 = v2 + vm * t)
    (hc : c + c2 + c3 = cy + B * c') :
    (vt + Bn * cy + Bn * B * c') * B = vw + Bn * B * c + xy + vm * t := by
  calc (vt + Bn * cy + Bn * B * c') * B
      = B * vt + Bn * B * (cy + B * c') := by ring
    _ = (B * vt + Bn * B * c3) + Bn * B * c2 + Bn * B * c := by rw [← hc]; ring
    _ = vm * t + (v2 + Bn * B * c2) + Bn * B * c := by rw [h3]; ring
    _ = vw + Bn * B * c + xy + vm * t := by rw [h2]; ring

/-- one step on the window: with `T = val w + Bⁿ·c` the new window and carry satisfy `T'·B = T + x·yᵢ + m·t` for a
    digit `t` -/
theorem winStep_spec (x m : List Nat) (k : Nat) (w : List Nat) (c yi m0 : Nat) (mt : List Nat)
    (hm : m = m0 :: mt) (hk : (k * m0 + 1) % B = 0)
    (hn : 0 < w.length) (hxl : x.length = w.length) (hml : m.length = w.length)
    (hw : DigitsOk w) (hx : DigitsOk x) (hmo : DigitsOk m) (hy : yi < B) (hc : c ≤ 1) :
    ∃ d w' c' t, winStep x m k w c yi = (d, w', c') ∧ w'.length = w.length ∧ DigitsOk w' ∧ c' ≤ 1 ∧ t < B ∧
      (val w' + B ^ w.length * c') * B = (val w + B ^ w.length * c) + val x * yi + val m * t := by
  unfold winStep
  dsimp only
  generalize h2 : addMulVVW w x yi 0 = r2
  obtain ⟨a1, a2, a3, a4⟩ := addMulVVW_spec w x yi 0 hxl hw hx hy B_pos
  rw [h2] at a1 a2 a3 a4
  rw [← val_mod_B r2.1 a2]
  have htB : wmul (val r2.1 % B) k < B := Nat.mod_lt _ B_pos
  generalize h3 : addMulVVW r2.1 m (wmul (val r2.1 % B) k) 0 = r3
  obtain ⟨b1, b2, b3, b4⟩ := addMulVVW_spec r2.1 m _ 0 (by rw [hml, a1]) a2 hmo htB B_pos
  rw [h3, a1] at b1 b4
  rw [h3] at b2 b3
  obtain ⟨cw1, cw2, cw3⟩ := carry_words c r2.2 r3.2 hc a3 b3
  obtain ⟨j, hj⟩ := Nat.exists_eq_add_one_of_ne_zero hn.ne'
  have htl : r3.1.tail.length = j := by rw [List.length_tail, b1, hj]; rfl
  rw [hj, pow_succ, Nat.add_zero] at a4 b4
  -- the second row has made the low digit zero, so the window can move up by one digit
  have hvr3 : val r3.1 = B * val r3.1.tail := by
    apply val_tail_of_dvd _ b2
    have hme : val m % B = m0 % B := by rw [hm, val, Nat.add_mul_mod_self_left]
    have := congrArg (· % B) b4
    simp only [Nat.mul_comm (B ^ j) B, Nat.mul_assoc, Nat.add_mul_mod_self_left] at this
    rw [this]; exact low_digit_cancels _ _ m0 k hme hk
  rw [hvr3] at b4
  refine ⟨_, _, _, _, rfl, by rw [List.length_append, htl, hj]; rfl, ?_, cw1, htB, ?_⟩
  · exact DigitsOk.append (fun d hd => b2 d (List.mem_of_mem_tail hd)) (DigitsOk.cons cw2 DigitsOk.nil)
  · rw [val_append, htl, hj, pow_succ]
    simp only [val, Nat.mul_zero, Nat.add_zero]
    exact winStep_arith a4 b4 cw3

theorem prod_bound (x y P Q : Nat) (hx : x < P) (hy : y < Q) : x * y + P + Q ≤ P * Q + 1 := by
  obtain ⟨p, rfl⟩ := Nat.exists_eq_add_one_of_ne_zero (Nat.ne_of_gt (Nat.zero_lt_of_lt hx))
  obtain ⟨q, rfl⟩ := Nat.exists_eq_add_one_of_ne_zero (Nat.ne_of_gt (Nat.zero_lt_of_lt hy))
  have := Nat.mul_le_mul (Nat.le_of_lt_succ hx) (Nat.le_of_lt_succ hy)
  rw [show (p + 1) * (q + 1) + 1 = p * q + (p + 1) + (q + 1) by ring]
  omega

/-- the running value stays below `B^n + m`: `T' B = T + x·yi + m·t` with `T < B^n + m`, `x < B^n`, `yi, t < B` -/
theorem window_bound {T T' Bn M X yi t : Nat} (hT : T < Bn + M) (hX : X < Bn) (hy : yi < B) (ht : t < B)
    (h : T' * B = T + X * yi + M * t) : T' < Bn + M := by
  apply Nat.lt_of_mul_lt_mul_right (a := B)
  have p1 := prod_bound X yi Bn B hX hy
  have p2 : M * t + M ≤ M * B := by rw [← Nat.mul_succ]; exact Nat.mul_le_mul_left M ht
  have := B_pos
  rw [h, Nat.add_mul]
  omega

/-- one more digit of `y` in front of the digits already accounted for -/
theorem window_chain {Tf Bk b T' T X Y M u yi t : Nat} (h1 : Tf * Bk = T' + X * Y + M * u)
    (h2 : T' * b = T + X * yi + M * t) : Tf * (Bk * b) = T + X * (yi + b * Y) + M * (t + b * u) := by
  calc Tf * (Bk * b) = (Tf * Bk) * b := by ring
    _ = T' * b + X * Y * b + M * u * b := by rw [h1]; ring
    _ = T + X * (yi + b * Y) + M * (t + b * u) := by rw [h2]; ring

/-- the loop on the window: `T'·B^|ys| = T + x·val ys + m·u`, and `T < Bⁿ + m` is kept, so the carry stays a bit -/
theorem winLoop_spec (x m : List Nat) (k m0 : Nat) (mt : List Nat)
    (hm : m = m0 :: mt) (hk : (k * m0 + 1) % B = 0) (hx : DigitsOk x) (hmo : DigitsOk m) :
    ∀ (ys w : List Nat) (c : Nat), 0 < w.length → x.length = w.length → m.length = w.length →
    DigitsOk w → DigitsOk ys → c ≤ 1 → val w + B ^ w.length * c < B ^ w.length + val m →
    ∃ ds w' c' u, winLoop x m k ys w c = (ds, w', c') ∧ ds.length = ys.length ∧ w'.length = w.length ∧
      DigitsOk w' ∧ c' ≤ 1 ∧ val w' + B ^ w.length * c' < B ^ w.length + val m ∧
      (val w' + B ^ w.length * c') * B ^ ys.length = (val w + B ^ w.length * c) + val x * val ys + val m * u
  | [], w, c, hn, hxl, hml, hw, hys, hc, hT => ⟨[], w, c, 0, rfl, rfl, rfl, hw, hc, hT, by simp [val]⟩
  | yi :: ys, w, c, hn, hxl, hml, hw, hys, hc, hT => by
    obtain ⟨d, w1, c1, t, hs, s1, s2, s3, htB, s4⟩ :=
      winStep_spec x m k w c yi m0 mt hm hk hn hxl hml hw hx hmo hys.head hc
    have hT' := window_bound hT (hxl ▸ val_lt hx) hys.head htB s4
    obtain ⟨ds, w', c', u, hl, i4, i1, i2, i3, i5, i6⟩ := winLoop_spec x m k m0 mt hm hk hx hmo ys w1 c1
      (by rw [s1]; exact hn) (hxl.trans s1.symm) (hml.trans s1.symm) s2 hys.tail s3 (by rw [s1]; exact hT')
    rw [s1] at i1 i5 i6
    refine ⟨d :: ds, w', c', t + B * u, by simp only [winLoop, hs, hl], congrArg Nat.succ i4, i1, i2, i3, i5, ?_⟩
    simp only [List.length_cons, pow_succ, val]
    exact window_chain i6 s4

theorem modEq_of_add_mul {a b m p q : Nat} (h : a + m * p = b + m * q) : a ≡ b [MOD m] := by
  unfold Nat.ModEq
  have := congrArg (· % m) h
  simpa [Nat.add_mul_mod_self_left] using this

/-- the closing subtraction of `montgomery` when the carry is set: `z + Bⁿ < Bⁿ + m` forces the borrow, so
    `z' = z + Bⁿ − m` -/
theorem final_sub {z' z M Bn bo xy u : Nat} (h5 : z + Bn < Bn + M) (h4 : z' + M = z + Bn * bo) (hbo : bo ≤ 1)
    (h6 : (z + Bn) * Bn = xy + M * u) : z' * Bn ≡ xy [MOD M] := by
  have hb1 : bo = 1 := by
    rcases Nat.eq_zero_or_pos bo with h | h
    · rw [h, Nat.mul_zero, Nat.add_zero] at h4; omega
    · omega
  rw [hb1, Nat.mul_one] at h4
  apply modEq_of_add_mul (p := Bn) (q := u)
  rw [← h6, ← h4]; ring

theorem montgomery_core (x y m : List Nat) (k n m0 : Nat) (mt : List Nat)
    (hm : m = m0 :: mt) (hk : (k * m0 + 1) % B = 0)
    (hxl : x.length = n) (hyl : y.length = n) (hml : m.length = n)
    (hx : DigitsOk x) (hy : DigitsOk y) (hmo : DigitsOk m) :
    ∃ z, montgomery x y m k n = .ok z ∧ z.length = n ∧ DigitsOk z ∧
      val z * B ^ n ≡ val x * val y [MOD val m] := by
  have hn : 0 < n := by rw [← hml, hm]; exact Nat.succ_pos _
  unfold montgomery
  simp only [hxl, hyl, hml, and_self, not_true_eq_false, if_false]
  have hbuf : List.replicate (n * 2) 0 = [] ++ List.replicate n 0 ++ List.replicate y.length 0 := by
    rw [hyl, List.nil_append, List.replicate_append_replicate]; congr 1; omega
  have hwl : (List.replicate n 0).length = n := List.length_replicate
  have hwin := montLoop_window x m k y [] (List.replicate n 0) 0 (by rw [hwl]; exact hn)
  obtain ⟨ds, w', c', u, hr, l4, l1, l2, l3, l5, l6⟩ := winLoop_spec x m k m0 mt hm hk hx hmo y (List.replicate n 0) 0
    (by rw [hwl]; exact hn) (by rw [hwl]; exact hxl) (by rw [hwl]; exact hml)
    (digitsOk_replicate_zero n) hy (Nat.zero_le _)
    (by rw [val_replicate_zero, Nat.mul_zero]; exact Nat.lt_add_right _ (Nat.pow_pos B_pos))
  rw [hwl] at l1 l5 l6
  rw [val_replicate_zero, hyl, Nat.mul_zero, Nat.add_zero, Nat.zero_add] at l6
  rw [hyl] at l4
  rw [hwl, List.length_nil, hr] at hwin
  rw [hbuf, hwin]
  simp only [List.nil_append]
  have hdrop : (ds ++ w').drop n = w' := List.drop_left' l4
  have htake : (ds ++ w').take n = ds := List.take_left' l4
  by_cases hc : c' = 0
  · simp only [hc, if_true, hdrop]
    rw [hc, Nat.mul_zero, Nat.add_zero] at l6
    exact ⟨w', rfl, l1, l2, modEq_of_add_mul (p := 0) (q := u) (by rw [Nat.mul_zero, Nat.add_zero]; exact l6)⟩
  · simp only [hc, if_false, hdrop, htake]
    obtain ⟨s1, s2, s3, s4⟩ := subVV_spec ds w' m 0 (by rw [l1, l4]) (by rw [hml, l4]) l2 hmo (Nat.zero_le _)
    rw [l4] at s1 s4
    rw [Nat.le_antisymm l3 (Nat.pos_of_ne_zero hc), Nat.mul_one] at l5 l6
    exact ⟨_, rfl, s1, s2, final_sub l5 s4 s3 l6⟩

/-- the standing assumptions of `monty_modpow` about the modulus and the Montgomery constant -/
def MCtx (m : List Nat) (k : Nat) : Prop :=
  ∃ m0 mt, m = m0 :: mt ∧ m0 % 2 = 1 ∧ (k * m0 + 1) % B = 0 ∧ DigitsOk m

/-- `z` is an `n`-digit vector congruent to `a·R`, `R = B^n` -/
def Rep (m z : List Nat) (a : Nat) : Prop :=
  z.length = m.length ∧ DigitsOk z ∧ val z ≡ a * B ^ m.length [MOD val m]

theorem mctx_odd {m : List Nat} {k : Nat} (h : MCtx m k) : val m % 2 = 1 := by
  obtain ⟨m0, mt, rfl, h1, _, _⟩ := h
  rw [val_cons_mod_two]; exact h1

theorem mctx_coprime {m : List Nat} {k : Nat} (h : MCtx m k) : Nat.gcd (val m) (B ^ m.length) = 1 := by
  have h1 : Nat.Coprime (val m) 2 := by rw [Nat.Coprime, Nat.gcd_comm, Nat.gcd_rec, mctx_odd h]; rfl
  rw [B_eq, ← pow_mul]
  exact Nat.Coprime.pow_right _ h1

theorem rep_congr {m z : List Nat} {a a' : Nat} (h : Rep m z a) (ha : a ≡ a' [MOD val m]) : Rep m z a' :=
  ⟨h.1, h.2.1, h.2.2.trans (ha.mul_right _)⟩

/-- Montgomery product of two vectors: `mont(z1, z2)·R ≡ z1·z2` -/
theorem mont_mul {m : List Nat} {k : Nat} (h : MCtx m k) (z1 z2 : List Nat)
    (h1 : z1.length = m.length) (h2 : z2.length = m.length) (d1 : DigitsOk z1) (d2 : DigitsOk z2) :
    ∃ z, montgomery z1 z2 m k m.length = .ok z ∧ z.length = m.length ∧ DigitsOk z ∧
      val z * B ^ m.length ≡ val z1 * val z2 [MOD val m] := by
  obtain ⟨m0, mt, hm, _, hk, hd⟩ := h
  exact montgomery_core z1 z2 m k m.length m0 mt hm hk h1 h2 rfl d1 d2 hd

theorem mont_rep {m : List Nat} {k : Nat} (h : MCtx m k) (z1 z2 : List Nat) (a b : Nat)
    (r1 : Rep m z1 a) (r2 : Rep m z2 b) :
    ∃ z, montgomery z1 z2 m k m.length = .ok z ∧ Rep m z (a * b) := by
  obtain ⟨l1, d1, c1⟩ := r1
  obtain ⟨l2, d2, c2⟩ := r2
  obtain ⟨z, e, l, d, c⟩ := mont_mul h z1 z2 l1 l2 d1 d2
  refine ⟨z, e, l, d, ?_⟩
  apply Nat.ModEq.cancel_right_of_coprime (mctx_coprime h)
  have := c1.mul c2
  have e2 : a * B ^ m.length * (b * B ^ m.length) = a * b * B ^ m.length * B ^ m.length := by ring
  rw [e2] at this
  exact c.trans this

/-- into Montgomery form: for `z ≡ A` and `rr ≡ R²`, `mont(z, rr)` represents `A` -/
theorem mont_enter {m : List Nat} {k : Nat} (h : MCtx m k) {z rr : List Nat} {A : Nat}
    (lz : z.length = m.length) (dz : DigitsOk z) (cz : val z ≡ A [MOD val m])
    (lrr : rr.length = m.length) (drr : DigitsOk rr)
    (crr : val rr ≡ B ^ m.length * B ^ m.length [MOD val m]) :
    ∃ p, montgomery z rr m k m.length = .ok p ∧ Rep m p A := by
  obtain ⟨p, e, l, d, c⟩ := mont_mul h z rr lz lrr dz drr
  refine ⟨p, e, l, d, Nat.ModEq.cancel_right_of_coprime (mctx_coprime h) ?_⟩
  have := cz.mul crr
  rw [← Nat.mul_assoc] at this
  exact c.trans this

theorem squaringsN_rep {m : List Nat} {k : Nat} (h : MCtx m k) :
    ∀ (s : Nat) (z : List Nat) (a : Nat), Rep m z a →
      ∃ z', squaringsN m k m.length s z = .ok z' ∧ Rep m z' (a ^ (2 ^ s))
  | 0, z, a, r => ⟨z, rfl, by simpa using r⟩
  | s + 1, z, a, r => by
    obtain ⟨z1, e1, r1⟩ := mont_rep h z z a a r r
    obtain ⟨z', e2, r2⟩ := squaringsN_rep h s z1 (a * a) r1
    refine ⟨z', by simp only [squaringsN, e1, e2], ?_⟩
    have : (a * a) ^ (2 ^ s) = a ^ (2 ^ (s + 1)) := by
      rw [← pow_two, ← pow_mul, pow_succ, Nat.mul_comm]
    rw [← this]; exact r2

/-- the table invariant: entry `i` represents `b^i` -/
def Table (m : List Nat) (b : Nat) (powers : List (List Nat)) (cnt : Nat) : Prop :=
  ∀ i, i < cnt → ∃ p, powers[i]? = some p ∧ Rep m p (b ^ i)

theorem tableLoop_spec {m : List Nat} {k : Nat} (h : MCtx m k) (b : Nat) (p1 : List Nat) (hp1 : Rep m p1 b) :
    ∀ cnt prev j, Rep m prev (b ^ j) →
      ∃ rest, tableLoop m k m.length p1 cnt prev = .ok rest ∧
        ∀ i, i < cnt → ∃ p, rest[i]? = some p ∧ Rep m p (b ^ (j + 1 + i))
  | 0, prev, j, _ => ⟨[], rfl, fun i hi => absurd hi (Nat.not_lt_zero i)⟩
  | cnt + 1, prev, j, hprev => by
    obtain ⟨r, e, hr⟩ := mont_rep h prev p1 _ _ hprev hp1
    rw [← pow_succ] at hr
    obtain ⟨rest, e2, hrest⟩ := tableLoop_spec h b p1 hp1 cnt r (j + 1) hr
    refine ⟨r :: rest, by simp [tableLoop, e, e2], ?_⟩
    intro i hi
    cases i with
    | zero => exact ⟨r, rfl, by simpa using hr⟩
    | succ i =>
      obtain ⟨p, hp, hrp⟩ := hrest i (Nat.lt_of_succ_lt_succ hi)
      refine ⟨p, by simpa using hp, ?_⟩
      rw [show j + 1 + (i + 1) = j + 1 + 1 + i by rw [Nat.add_assoc (j + 1) 1 i, Nat.add_comm 1 i]]; exact hrp

/-- a digit holding `u < 2^(a+w)` above `s` zero bits, `a + w + s = 64`: its top `w` bits are `u / 2^a`, and shifting
    it left by `w` leaves `u % 2^a` above `s + w` zero bits -/
theorem window_split (w a s u : Nat) (h : a + w + s = 64) (hu : u < 2 ^ (a + w)) :
    (u * 2 ^ s) >>> (a + s) = u / 2 ^ a ∧
    ((u * 2 ^ s) <<< w) % B = u % 2 ^ a * 2 ^ (s + w) ∧ u / 2 ^ a < 2 ^ w := by
  have hB : B = 2 ^ a * (2 ^ s * 2 ^ w) := by rw [B_eq, ← h, pow_add, pow_add]; ring
  refine ⟨?_, ?_, ?_⟩
  · rw [Nat.shiftRight_eq_div_pow, pow_add]
    exact Nat.mul_div_mul_right _ _ (Nat.pow_pos (by decide))
  · rw [Nat.shiftLeft_eq, hB, pow_add, Nat.mul_assoc]
    exact Nat.mul_mod_mul_right _ _ _
  · rw [Nat.div_lt_iff_lt_mul (Nat.pow_pos (by decide)), Nat.mul_comm, ← pow_add]; exact hu

/-- the window loop with `w`-bit windows and `w` squarings per window: `cnt` windows left, the current
    digit holds them above `s = 64 - w·cnt` zero bits (`yi = u · 2^s`); squarings may be skipped only
    while the accumulated exponent is still 0 -/
theorem windowLoop_spec {m : List Nat} {k : Nat} (h : MCtx m k) (b : Nat) (powers : List (List Nat))
    (w : Nat) (hw : 0 < w) (hT : Table m b powers (2 ^ w)) (first : Bool) :
    ∀ cnt s j u z E, w * cnt + s = 64 → u < 2 ^ (w * cnt) → Rep m z (b ^ E) → (first = true ∧ j = 0 → E = 0) →
      ∃ z', windowLoop w w m k m.length powers first cnt j (u * 2 ^ s) z = .ok z' ∧
        Rep m z' (b ^ (E * 2 ^ (w * cnt) + u))
  | 0, s, j, u, z, E, _, hu, hz, _ => by
    have : u = 0 := by simpa using hu
    subst this
    exact ⟨z, rfl, by simpa using hz⟩
  | cnt + 1, s, j, u, z, E, hcnt, hu, hz, hskip => by
    rw [Nat.mul_succ] at hcnt hu ⊢
    obtain ⟨hidx, hshift, hidxw⟩ := window_split w (w * cnt) s u hcnt hu
    have hsh : BITS - w = w * cnt + s :=
      Nat.sub_eq_of_eq_add (by rw [BITS_eq, ← hcnt, Nat.add_right_comm])
    rw [windowLoop]
    have hsq : ∃ z1, (if ¬ first = true ∨ j ≠ 0 then squaringsN m k m.length w z else .ok z) = .ok z1 ∧
        Rep m z1 (b ^ (E * 2 ^ w)) := by
      by_cases hc : ¬ first = true ∨ j ≠ 0
      · simp only [hc, if_true]
        obtain ⟨z1, e1, r1⟩ := squaringsN_rep h w z _ hz
        exact ⟨z1, e1, by rw [← pow_mul] at r1; exact r1⟩
      · simp only [hc, if_false]
        obtain rfl : E = 0 := hskip ⟨not_not.mp (not_or.mp hc).1, not_not.mp (not_or.mp hc).2⟩
        exact ⟨z, rfl, by simpa using hz⟩
    obtain ⟨z1, e1, r1⟩ := hsq
    simp only [e1]
    obtain ⟨p, hp1, hp2⟩ := hT _ hidxw
    rw [hsh, hidx, hp1]
    dsimp only
    obtain ⟨zz, e2, r2⟩ := mont_rep h z1 p _ _ r1 hp2
    rw [e2]
    dsimp only
    rw [hshift]
    rw [← pow_add] at r2
    obtain ⟨z', e3, r3⟩ := windowLoop_spec h b powers w hw hT first cnt (s + w) (j + w) (u % 2 ^ (w * cnt)) zz
      (E * 2 ^ w + u / 2 ^ (w * cnt)) (by rw [← hcnt, Nat.add_assoc, Nat.add_comm s w])
      (Nat.mod_lt _ (Nat.pow_pos (by decide))) r2 (fun h0 => absurd h0.2 (Nat.add_pos_right j hw).ne')
    refine ⟨z', e3, ?_⟩
    have : (E * 2 ^ w + u / 2 ^ (w * cnt)) * 2 ^ (w * cnt) + u % 2 ^ (w * cnt)
        = E * 2 ^ (w * cnt + w) + u := by
      rw [Nat.add_mul, Nat.mul_assoc, ← pow_add, Nat.add_assoc, Nat.mul_comm (u / _), Nat.div_add_mod,
        Nat.add_comm w]
    rw [← this]; exact r3

/-- the number of windows per exponent digit when the window width divides the digit width -/
theorem window_count (w : Nat) (hw : 0 < w) (hwd : w ∣ 64) : (BITS + w - 1) / w = 64 / w := by
  obtain ⟨c, hc⟩ := hwd
  have h1 : BITS + w - 1 = w * c + (w - 1) := by unfold BITS; omega
  rw [h1, Nat.mul_add_div hw, Nat.div_eq_of_lt (by omega), hc, Nat.mul_div_cancel_left _ hw, Nat.add_zero]

theorem digitLoop_spec {m : List Nat} {k : Nat} (h : MCtx m k) (b : Nat) (powers : List (List Nat))
    (w : Nat) (hw : 0 < w) (hwd : w ∣ 64) (hT : Table m b powers (2 ^ w)) (ylen : Nat) :
    ∀ yrev z E, DigitsOk yrev → yrev.length ≤ ylen → (yrev.length = ylen → E = 0) → Rep m z (b ^ E) →
      ∃ z', digitLoop w w m k m.length powers ylen yrev z = .ok z' ∧
        Rep m z' (b ^ (E * B ^ yrev.length + val yrev.reverse))
  | [], z, E, _, _, _, hz => ⟨z, rfl, by simpa [val] using hz⟩
  | yi :: rest, z, E, hd, hl, hE, hz => by
    rw [digitLoop]
    have hmul : w * (64 / w) = 64 := Nat.mul_div_cancel' hwd
    have hyi : yi < 2 ^ (w * (64 / w)) := by rw [hmul]; have := hd.head; rw [B_eq] at this; exact this
    have hwl := windowLoop_spec h b powers w hw hT (rest.length == ylen - 1) (64 / w) 0 0 yi z E
      hmul hyi hz (by
      intro ⟨h1, _⟩
      apply hE
      have : rest.length = ylen - 1 := by simpa using h1
      rw [List.length_cons, this]
      exact Nat.sub_add_cancel (Nat.le_trans (Nat.succ_le_succ (Nat.zero_le rest.length)) hl))
    rw [pow_zero, Nat.mul_one, hmul, ← B_eq] at hwl
    obtain ⟨z1, e1, r1⟩ := hwl
    rw [window_count w hw hwd, e1]
    dsimp only
    obtain ⟨z', e2, r2⟩ := digitLoop_spec h b powers w hw hwd hT ylen rest z1 (E * B + yi) hd.tail
      (Nat.le_of_succ_le hl)
      (fun h0 => absurd hl (by rw [List.length_cons, h0]; exact Nat.not_succ_le_self _)) r1
    refine ⟨z', e2, ?_⟩
    have : (E * B + yi) * B ^ rest.length + val rest.reverse
        = E * B ^ (yi :: rest).length + val (yi :: rest).reverse := by
      simp only [List.length_cons, List.reverse_cons, val_append, List.length_reverse, val, pow_succ]
      ring
    rw [← this]; exact r2

theorem padTo_val (v : List Nat) (n : Nat) : val (padTo v n) = val v := by
  unfold padTo; rw [val_append, val_replicate_zero]; simp

theorem padTo_ok (v : List Nat) (n : Nat) (h : DigitsOk v) : DigitsOk (padTo v n) :=
  h.append (digitsOk_replicate_zero _)

theorem padTo_length (v : List Nat) (n : Nat) (h : v.length ≤ n) : (padTo v n).length = n := by
  unfold padTo; simp; omega

/-- `if v.len() < n { v.resize(n, 0) }` on a vector of at most `n` digits -/
theorem fit_spec (v : List Nat) (n : Nat) (h : v.length ≤ n) (hd : DigitsOk v) :
    (if v.length < n then padTo v n else v).length = n ∧
    DigitsOk (if v.length < n then padTo v n else v) ∧
    val (if v.length < n then padTo v n else v) = val v := by
  by_cases hl : v.length < n
  · simp only [hl, if_true]; exact ⟨padTo_length v n h, padTo_ok v n hd, padTo_val v n⟩
  · simp only [hl, if_false]; exact ⟨by omega, hd, trivial⟩

theorem resize_self (v : List Nat) : resize v v.length = v := by
  unfold resize padTo; simp

theorem last_reduction (v M : Nat) :
    (if v ≥ M then (if v - M ≥ M then (v - M) % M else v - M) else v) = v % M := by
  by_cases h : v ≥ M
  · simp only [h, if_true]
    rw [Nat.mod_eq_sub_mod h]
    by_cases h2 : v - M ≥ M
    · simp only [h2, if_true]
    · simp only [h2, if_false]; rw [Nat.mod_eq_of_lt (by omega)]
  · simp only [h, if_false]; rw [Nat.mod_eq_of_lt (by omega)]

/-- `montyCore` is the middle of the value-level `montyModpow`, for all arguments -/
theorem montyModpow_eq_core (P : Params) (x y : List Nat) (m0 : Nat) (mt : List Nat) :
    montyModpow P x y (m0 :: mt) =
      if m0 &&& 1 ≠ 1 then .error (.internal "monty_modpow: assert odd") else
      match invModAlt m0 with
      | .error e => .error e
      | .ok k =>
        let m := m0 :: mt
        let n := m.length
        let x := if x.length > n then ofNat (val x % val m) else x
        let x := if x.length < n then padTo x n else x
        let rr := ofNat (2 ^ (2 * n * BITS) % val m)
        let rr := if rr.length < n then padTo rr n else rr
        match montyCore P x rr m k n y with
        | .error e => .error e
        | .ok zz =>
          let v := val zz
          let vm := val m
          let v := if v ≥ vm then
              let v := v - vm
              if v ≥ vm then v % vm else v
            else v
          .ok (ofNat v) := by
  -- both sides are the same chain of `match`es: go through the intermediate results one by one
  unfold montyModpow montyCore
  dsimp only
  by_cases h1 : m0 &&& 1 ≠ 1
  · simp only [if_pos h1]
  simp only [if_neg h1]
  rcases invModAlt m0 with e | k
  · rfl
  dsimp only
  by_cases hw : P.window = 0
  · simp only [hw, if_true]
  simp only [hw, if_false]
  generalize montgomery (padTo _ _) _ _ _ _ = r0
  rcases r0 with e | p0
  · rfl
  dsimp only
  generalize montgomery _ _ _ _ _ = r1
  rcases r1 with e | p1
  · rfl
  dsimp only
  generalize tableLoop _ _ _ _ _ _ = r2
  rcases r2 with e | rest
  · rfl
  dsimp only
  generalize digitLoop _ _ _ _ _ _ _ _ _ = r3
  rcases r3 with e | z <;> rfl

/-- the Montgomery core (table, windows, conversion out) on prepared operands: `x2 ≡ X`, `rr ≡ R²`,
    both of `n` proper digits.  The result is the digit vector `zz` before the last reduction, which the value-level
    and the digit-level model perform differently. -/
theorem montyCore_spec (P : Params) (hw0 : 0 < P.window) (hwd : P.window ∣ 64)
    (hsq : P.squarings = P.window) {m : List Nat} {k : Nat} (hctx : MCtx m k)
    (x2 rr y : List Nat) (X : Nat)
    (lx2 : x2.length = m.length) (dx2 : DigitsOk x2) (cx : val x2 ≡ X [MOD val m])
    (lrr : rr.length = m.length) (drr : DigitsOk rr)
    (crr : val rr ≡ B ^ m.length * B ^ m.length [MOD val m]) (hy : DigitsOk y) :
    ∃ zz, montyCore P x2 rr m k m.length y = .ok zz ∧ zz.length = m.length ∧ DigitsOk zz ∧
      val zz ≡ X ^ val y [MOD val m] := by
  unfold montyCore
  simp only [hsq]
  generalize P.window = w at hw0 hwd ⊢
  have hnpos : 0 < m.length := by
    obtain ⟨m0, mt, rfl, _⟩ := hctx; simp
  have lone : (padTo [1] m.length).length = m.length := padTo_length _ _ hnpos
  have done : DigitsOk (padTo [1] m.length) := padTo_ok _ _ (DigitsOk.cons (by decide) DigitsOk.nil)
  have vone : val (padTo [1] m.length) = 1 := by rw [padTo_val]; simp [val]
  generalize padTo [1] m.length = one at lone done vone ⊢
  have hwne : ¬ (w = 0) := hw0.ne'
  simp only [hwne, if_false]
  obtain ⟨p0, e0, r0⟩ := mont_enter hctx (A := X ^ 0) lone done (by rw [vone, pow_zero]) lrr drr crr
  obtain ⟨p1, e1, r1⟩ := mont_enter hctx lx2 dx2 cx lrr drr crr
  rw [e0]; dsimp only
  rw [e1]; dsimp only
  have r1' : Rep m p1 (X ^ 1) := by simpa using r1
  obtain ⟨rest, et, ht⟩ := tableLoop_spec hctx X p1 r1 (2 ^ w - 2) p1 1 r1'
  rw [et]; dsimp only
  have hT : Table m X (p0 :: p1 :: rest) (2 ^ w) := by
    intro i hi
    match i with
    | 0 => exact ⟨p0, rfl, r0⟩
    | 1 => exact ⟨p1, rfl, r1'⟩
    | i + 2 =>
      obtain ⟨p, hp, hr⟩ := ht i (Nat.lt_sub_of_add_lt hi)
      refine ⟨p, by simpa using hp, ?_⟩
      rw [Nat.add_comm (1 + 1) i] at hr; exact hr
  have hrs : resize p0 m.length = p0 := by rw [← r0.1]; exact resize_self p0
  rw [hrs]
  obtain ⟨z, ez, lz, dz, cz⟩ := digitLoop_spec hctx X (p0 :: p1 :: rest) w hw0 hwd hT y.length y.reverse p0 0
    (by intro d hd; exact hy d (List.mem_reverse.mp hd)) (by simp) (fun _ => rfl) r0
  rw [ez]; dsimp only
  rw [List.reverse_reverse, Nat.zero_mul, Nat.zero_add] at cz
  obtain ⟨zz, ezz, lzz, dzz, czz⟩ := mont_mul hctx z one lz lone dz done
  refine ⟨zz, ezz, lzz, dzz, ?_⟩
  apply Nat.ModEq.cancel_right_of_coprime (mctx_coprime hctx)
  rw [vone, Nat.mul_one] at czz
  exact czz.trans cz

/-- everything `monty_modpow` does before its last reduction: the Montgomery constant exists, and the core, run on
    the reduced and padded base `x1` and on the padded `rr = B^(2n) mod m`, yields proper digits congruent to `x^y`.
    `x1` and `rr` are introduced by equations only to keep the statement short; callers pass `_ _ rfl rfl`. -/
theorem montyCore_prepared (P : Params) (hw0 : 0 < P.window) (hwd : P.window ∣ 64)
    (hsq : P.squarings = P.window) (x y m : List Nat) (m0 : Nat) (mt : List Nat)
    (hm : m = m0 :: mt) (hodd : m0 % 2 = 1) (hx : DigitsOk x) (hy : DigitsOk y) (hmd : DigitsOk m)
    (x1 rr : List Nat) (hx1 : x1 = if x.length > m.length then ofNat (val x % val m) else x)
    (hrr : rr = ofNat (2 ^ (2 * m.length * BITS) % val m)) :
    ∃ k zz, invModAlt m0 = .ok k ∧
      montyCore P (if x1.length < m.length then padTo x1 m.length else x1)
        (if rr.length < m.length then padTo rr m.length else rr) m k m.length y = .ok zz ∧
      DigitsOk zz ∧ val zz ≡ val x ^ val y [MOD val m] := by
  obtain ⟨k, hk, _, hkm⟩ := invModAlt_spec m0 (hm ▸ hmd).head hodd
  have hctx : MCtx m k := ⟨m0, mt, hm, hodd, hkm, hmd⟩
  have hfit : ∀ v, (ofNat (v % val m)).length ≤ m.length := fun v =>
    ofNat_length_le _ _ (Nat.lt_trans (Nat.mod_lt _ (by have := mctx_odd hctx; omega)) (val_lt hmd))
  obtain ⟨lx1, dx1, cx1⟩ : x1.length ≤ m.length ∧ DigitsOk x1 ∧ val x1 ≡ val x [MOD val m] := by
    rw [hx1]
    split
    · exact ⟨hfit _, ofNat_digitsOk _, by rw [ofNat_val]; exact Nat.mod_modEq _ _⟩
    · exact ⟨Nat.le_of_not_gt ‹_›, hx, Nat.ModEq.refl _⟩
  obtain ⟨lx2, dx2, vx2⟩ := fit_spec x1 m.length lx1 dx1
  obtain ⟨lrr, drr, vrr⟩ := fit_spec rr m.length (hrr ▸ hfit _) (hrr ▸ ofNat_digitsOk _)
  have crr : val rr ≡ B ^ m.length * B ^ m.length [MOD val m] := by
    have : 2 ^ (2 * m.length * BITS) = B ^ m.length * B ^ m.length := by
      rw [B_eq, ← pow_mul, ← pow_add, BITS_eq]; congr 1; ring
    rw [hrr, ofNat_val, this]; exact Nat.mod_modEq _ _
  obtain ⟨zz, ezz, _, dzz, czz⟩ := montyCore_spec P hw0 hwd hsq hctx _ _ y (val x) lx2 dx2
    (vx2 ▸ cx1) lrr drr (vrr ▸ crr) hy
  exact ⟨k, zz, hk, ezz, dzz, czz⟩

theorem montyModpow_spec (P : Params) (hw0 : 0 < P.window) (hwd : P.window ∣ 64)
    (hsq : P.squarings = P.window) (x y m : List Nat) (m0 : Nat) (mt : List Nat)
    (hm : m = m0 :: mt) (hodd : m0 % 2 = 1)
    (hx : DigitsOk x) (hy : DigitsOk y) (hmd : DigitsOk m) :
    montyModpow P x y m = .ok (ofNat (val x ^ val y % val m)) := by
  obtain ⟨k, zz, hk, ezz, _, czz⟩ :=
    montyCore_prepared P hw0 hwd hsq x y m m0 mt hm hodd hx hy hmd _ _ rfl rfl
  have h1 : ¬ (m0 &&& 1 ≠ 1) := by rw [Nat.and_one_is_mod]; omega
  subst hm
  rw [montyModpow_eq_core]
  simp only [h1, if_false, hk, ezz, last_reduction]
  exact congrArg (fun v => Except.ok (ofNat v)) czz

end NB
