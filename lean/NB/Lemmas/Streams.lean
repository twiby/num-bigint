/- the digit streams of the signed bit routines: negate_carry, the zip loop and the tail loops at value level -/
import NB.Lemmas.IntBits
namespace NB.C07

theorem negCarry_spec {a c : Nat} (ha : a < B) (hc : c ≤ 1) :
    (negCarry a c).1 + B * (negCarry a c).2 = c + (B - 1 - a) ∧
      (negCarry a c).1 < B ∧ (negCarry a c).2 ≤ 1 := by
  unfold negCarry dnot MAXD
  refine ⟨Nat.mod_add_div _ _, Nat.mod_lt _ B_pos, Nat.div_le_of_le_mul ?_⟩
  omega

theorem xor_maxd {t : Nat} (ht : t < B) : t ^^^ MAXD = B - 1 - t := xor_two_pow_sub_one (k := 64) ht

/-- the integer a (possibly negated) stream stands for: a magnitude tail `z` whose two's
    complement is being produced with pending carry `c` is `-z - 1 + c`; a plain one is `z` -/
def I (neg : Bool) (c : Nat) (z : Int) : Int := if neg then -z - 1 + c else z

theorem I_neg_one (z : Int) : I true 1 z = -z := by unfold I; simp
theorem I_pos (c : Nat) (z : Int) : I false c z = z := rfl

/-- `I neg 0 0` (`-1` or `0`) is the sign extension of an operand.  Once a result stream of the same sign has
    reached it, what is left of the result is the pending carry (negative) or nothing (non-negative). -/
theorem I_ext (neg : Bool) (c : Nat) : I neg c (I neg 0 0) = if neg then (c : Int) else 0 := by
  cases neg
  · rfl
  · simp [I]

theorem twos_int (neg : Bool) {d c : Nat} (hd : d < B) (hc : c ≤ 1) (W : Int) :
    I neg c ((d : Int) + B * W) = ((twos neg d c).1 : Int) + B * I neg (twos neg d c).2 W
    ∧ (twos neg d c).1 < B ∧ (twos neg d c).2 ≤ 1 := by
  cases neg with
  | false => exact ⟨rfl, hd, hc⟩
  | true =>
    obtain ⟨h1, h2, h3⟩ := negCarry_spec hd hc
    refine ⟨?_, h2, h3⟩
    have e : ((negCarry d c).1 : Int) + B * (negCarry d c).2 = c + (B - 1 - d) := by omega
    simp only [twos, I, if_true]
    calc -((d : Int) + B * W) - 1 + c = (c + ((B : Int) - 1 - d)) - B - B * W := by ring
      _ = ((negCarry d c).1 + B * (negCarry d c).2) - B - B * W := by rw [e]
      _ = _ := by ring

/-- The state of an operand's carry: a plain operand has none, and that of a negated operand is used up
    once a non-zero digit has gone by — with only zero digits left, a pending carry would mean the
    operand is zero. -/
def Spent (neg : Bool) (c : Nat) (rest : List Nat) : Prop := (neg = false ∨ val rest = 0) → c = 0

theorem spent_pos (ds : List Nat) : Spent false 0 ds := fun _ => rfl

theorem spent_neg {a : List Nat} (h : Canon a) (hne : a ≠ []) : Spent true 1 a := fun h0 =>
  absurd (h0.resolve_left Bool.noConfusion) (canon_val_pos h hne).ne'

theorem spent_nil {neg : Bool} {c : Nat} (h : Spent neg c []) : c = 0 := h (Or.inr rfl)

theorem spent_twos {neg : Bool} {d c : Nat} {ds : List Nat} (hd : d < B) (hc : c ≤ 1)
    (h : Spent neg c (d :: ds)) : Spent neg (twos neg d c).2 ds := by
  cases neg with
  | false => exact fun _ => h (Or.inl rfl)
  | true =>
    intro hv
    have hv : val ds = 0 := hv.resolve_left Bool.noConfusion
    have h0 : d = 0 → c = 0 := fun hd0 => h (Or.inr (by rw [val_cons, hv, hd0, Nat.mul_zero]))
    show (c + (B - 1 - d)) / B = 0
    exact Nat.div_eq_of_lt (by omega)

/-- `DigitOp opN` together with an operation `opZ` on the integers that decomposes along the same blocks, both
    commutative (`DigitOp` itself asks for no commutativity; the `swap` of a zip run does) -/
structure IntOp (opN : Nat → Nat → Nat) (opZ : Int → Int → Int) : Prop where
  dig : DigitOp opN
  block : ∀ {k d e : Nat} (x y : Int), d < 2 ^ k → e < 2 ^ k →
    opZ ((d : Int) + 2 ^ k * x) ((e : Int) + 2 ^ k * y) = ((opN d e : Nat) : Int) + 2 ^ k * opZ x y
  commN : ∀ x y, opN x y = opN y x
  commZ : ∀ x y, opZ x y = opZ y x

theorem intOp_and : IntOp (· &&& ·) Int.land :=
  ⟨digitOp_and, int_block_of_testBit digitOp_and Nat.testBit_and Int.testBit_land, Nat.and_comm, int_land_comm⟩
theorem intOp_or : IntOp (· ||| ·) Int.lor :=
  ⟨digitOp_or, int_block_of_testBit digitOp_or Nat.testBit_or Int.testBit_lor, Nat.or_comm, int_lor_comm⟩
theorem intOp_xor : IntOp (· ^^^ ·) Int.xor :=
  ⟨digitOp_xor, int_block_of_testBit digitOp_xor Nat.testBit_xor Int.testBit_lxor, Nat.xor_comm, int_xor_comm⟩

theorem IntOp.digit {opN : Nat → Nat → Nat} {opZ : Int → Int → Int} (hop : IntOp opN opZ) {d e : Nat}
    (hd : d < B) (he : e < B) (x y : Int) :
    opZ ((d : Int) + B * x) ((e : Int) + B * y) = ((opN d e : Nat) : Int) + B * opZ x y ∧ opN d e < B := by
  rw [B_eq_bits] at hd he ⊢
  have := hop.block x y hd he
  push_cast
  exact ⟨this, hop.dig.lt hd he⟩

/-- The zip loop in terms of the integers the operands stand for: the low `k` digits `o` of the result are
    produced, the rest is the same operation on what is left of the streams. -/
theorem zip_int {opN : Nat → Nat → Nat} {opZ : Int → Int → Int} (hop : IntOp opN opZ) (na nb nr : Bool) :
    ∀ (a b : List Nat) (ca cb cr : Nat) {o : List Nat} {ca' cb' cr' : Nat},
    zipLoop opN na nb nr ca cb cr a b = (o, ca', cb', cr') →
    DigitsOk a → DigitsOk b → ca ≤ 1 → cb ≤ 1 → cr ≤ 1 →
    let k := min a.length b.length
    I nr cr (opZ (I na ca (val a)) (I nb cb (val b)))
      = (val o : Int) + (B ^ k : Nat) * I nr cr' (opZ (I na ca' (val (a.drop k))) (I nb cb' (val (b.drop k))))
    ∧ o.length = k ∧ DigitsOk o ∧ ca' ≤ 1 ∧ cb' ≤ 1 ∧ cr' ≤ 1
    ∧ (Spent na ca a → Spent na ca' (a.drop k)) ∧ (Spent nb cb b → Spent nb cb' (b.drop k)) := by
  intro a
  induction a with
  | nil =>
    intro b ca cb cr o ca' cb' cr' hz _ _ hca hcb hcr
    cases hz
    simp only [List.length_nil, Nat.zero_min, pow_zero, List.drop_zero, val, Nat.cast_zero, Nat.cast_one,
      zero_add, one_mul]
    exact ⟨trivial, trivial, DigitsOk.nil, hca, hcb, hcr, id, id⟩
  | cons x xs ih =>
    intro b ca cb cr o ca' cb' cr' hz ha hb hca hcb hcr
    cases b with
    | nil =>
      cases hz
      simp only [List.length_nil, Nat.min_zero, pow_zero, List.drop_zero, val, Nat.cast_zero, Nat.cast_one,
        zero_add, one_mul]
      exact ⟨trivial, trivial, DigitsOk.nil, hca, hcb, hcr, id, id⟩
    | cons y ys =>
      obtain ⟨ea, la, ca1⟩ := twos_int na ha.head hca (val xs)
      obtain ⟨eb, lb, cb1⟩ := twos_int nb hb.head hcb (val ys)
      obtain ⟨eo, lo⟩ := hop.digit la lb (I na (twos na x ca).2 (val xs)) (I nb (twos nb y cb).2 (val ys))
      obtain ⟨er, lr, cr1⟩ := twos_int nr lo hcr
        (opZ (I na (twos na x ca).2 (val xs)) (I nb (twos nb y cb).2 (val ys)))
      rcases hr : zipLoop opN na nb nr (twos na x ca).2 (twos nb y cb).2
        (twos nr (opN (twos na x ca).1 (twos nb y cb).1) cr).2 xs ys with ⟨o', a', b', r'⟩
      simp only [zipLoop, hr, Prod.mk.injEq] at hz
      obtain ⟨rfl, rfl, rfl, rfl⟩ := hz
      obtain ⟨i1, i2, i3, i4, i5, i6, i7, i8⟩ := ih ys _ _ _ hr ha.tail hb.tail ca1 cb1 cr1
      simp only [List.length_cons, Nat.succ_min_succ, List.drop_succ_cons, val_cons, pow_succ']
      refine ⟨?_, congrArg (· + 1) i2, DigitsOk.cons lr i3, i4, i5, i6,
        fun h => i7 (spent_twos ha.head hca h), fun h => i8 (spent_twos hb.head hcb h)⟩
      push_cast
      rw [ea, eb, eo, er, i1]
      push_cast
      ring

theorem zipLoop_pos {op : Nat → Nat → Nat} {na nb nr : Bool} :
    ∀ {a b : List Nat} {ca cb cr : Nat} {o : List Nat} {ca' cb' cr' : Nat},
    zipLoop op na nb nr ca cb cr a b = (o, ca', cb', cr') →
    (na = false → ca' = ca) ∧ (nb = false → cb' = cb) ∧ (nr = false → cr' = cr) := by
  intro a
  induction a with
  | nil =>
    intro b ca cb cr o ca' cb' cr' hz
    cases hz
    exact ⟨fun _ => rfl, fun _ => rfl, fun _ => rfl⟩
  | cons x xs ih =>
    intro b ca cb cr o ca' cb' cr' hz
    cases b with
    | nil =>
      cases hz
      exact ⟨fun _ => rfl, fun _ => rfl, fun _ => rfl⟩
    | cons y ys =>
      rcases hr : zipLoop op na nb nr (twos na x ca).2 (twos nb y cb).2
        (twos nr (op (twos na x ca).1 (twos nb y cb).1) cr).2 xs ys with ⟨o', a', b', r'⟩
      simp only [zipLoop, hr, Prod.mk.injEq] at hz
      obtain ⟨-, rfl, rfl, rfl⟩ := hz
      obtain ⟨h1, h2, h3⟩ := ih hr
      exact ⟨fun e => by subst e; exact h1 rfl, fun e => by subst e; exact h2 rfl,
        fun e => by subst e; exact h3 rfl⟩

theorem zipLoop_swap {op : Nat → Nat → Nat} (hc : ∀ x y, op x y = op y x) {na nb nr : Bool} :
    ∀ {a b : List Nat} {ca cb cr : Nat} {o : List Nat} {ca' cb' cr' : Nat},
    zipLoop op na nb nr ca cb cr a b = (o, ca', cb', cr') →
    zipLoop op nb na nr cb ca cr b a = (o, cb', ca', cr')
  | [], [], _, _, _, _, _, _, _, h => by cases h; rfl
  | [], _ :: _, _, _, _, _, _, _, _, h => by cases h; rfl
  | _ :: _, [], _, _, _, _, _, _, _, h => by cases h; rfl
  | x :: xs, y :: ys, ca, cb, cr, _, _, _, _, h => by
    rcases hr : zipLoop op na nb nr (twos na x ca).2 (twos nb y cb).2
      (twos nr (op (twos na x ca).1 (twos nb y cb).1) cr).2 xs ys with ⟨o', a', b', r'⟩
    simp only [zipLoop, hr, Prod.mk.injEq] at h
    simp only [zipLoop, hc (twos nb y cb).1, zipLoop_swap hc hr, Prod.mk.injEq]
    exact ⟨h.1, h.2.2.1, h.2.1, h.2.2.2⟩

/-- what a tail loop does to the stream of the longer operand: the complement (`^ !0`) when the shorter operand's
    sign extension is `-1` under xor, nothing otherwise -/
def complIf (flip : Bool) (z : Int) : Int := if flip then -z - 1 else z

theorem complIf_digit (flip : Bool) {s : Nat} (hs : s < B) (X : Int) :
    complIf flip ((s : Int) + B * X) = ((if flip then s ^^^ MAXD else s : Nat) : Int) + B * complIf flip X
    ∧ (if flip then s ^^^ MAXD else s) < B := by
  cases flip with
  | false => exact ⟨rfl, hs⟩
  | true =>
    simp only [complIf, if_true, xor_maxd hs]
    refine ⟨?_, by omega⟩
    rw [show ((B - 1 - s : Nat) : Int) = B - 1 - s by omega]
    ring

theorem tail_int (negIn flip negOut : Bool) :
    ∀ (ds : List Nat) (cin cout : Nat), DigitsOk ds → cin ≤ 1 → cout ≤ 1 →
    let t := tailLoop negIn flip negOut cin cout ds
    I negOut cout (complIf flip (I negIn cin (val ds)))
      = (val t.1 : Int) + (B ^ ds.length : Nat) * I negOut t.2.2 (complIf flip (I negIn t.2.1 0))
    ∧ t.1.length = ds.length ∧ DigitsOk t.1 ∧ t.2.2 ≤ 1
    ∧ (Spent negIn cin ds → Spent negIn t.2.1 []) := by
  intro ds
  induction ds with
  | nil =>
    intro cin cout _ _ hco
    simp only [tailLoop, List.length_nil, pow_zero, val, Nat.cast_zero, Nat.cast_one, zero_add, one_mul]
    exact ⟨trivial, trivial, DigitsOk.nil, hco, id⟩
  | cons d ds ih =>
    intro cin cout hd hci hco
    obtain ⟨e1, l1, c1⟩ := twos_int negIn hd.head hci (val ds)
    obtain ⟨e2, l2⟩ := complIf_digit flip l1 (I negIn (twos negIn d cin).2 (val ds))
    obtain ⟨e3, l3, c3⟩ := twos_int negOut l2 hco (complIf flip (I negIn (twos negIn d cin).2 (val ds)))
    obtain ⟨i1, i2, i3, i4, i5⟩ := ih _ _ hd.tail c1 c3
    simp only [tailLoop, List.length_cons, val_cons, pow_succ']
    refine ⟨?_, congrArg (· + 1) i2, DigitsOk.cons l3 i3, i4, fun h => i5 (spent_twos hd.head hci h)⟩
    push_cast
    rw [e1, e2, e3, i1]
    push_cast
    ring

end NB.C07
