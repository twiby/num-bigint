/- helper lemmas for the digit-level float conversions (NB.Model.FloatD, theorems in NB.Props.C08):
   `bitsU = bitsOf`, `fls` through `leading_zeros` = `bitLen` on a `u64`, the mantissa of
   `high_bits_to_u64` fits a `u64`, mantissa and exponent of `integer_decode` fit a digit. -/
import NB.Model.FloatD
import NB.Lemmas.Float
import NB.Props.C07
namespace NB.Conv

/-- the private `bits()` of NB.Model.Float is the digit-level `BigUint::bits` of NB.Model.Bits, on every
    digit vector (canonical or not) -/
theorem bitsU_eq_bitsOf (v : List Nat) : NB.C07.bitsU v = bitsOf v := by
  unfold NB.C07.bitsU bitsOf
  cases v.getLast? with
  | none => rfl
  | some last =>
    simp only [NB.C07.lzDigit, bitLen, NB.C07.BITS, digitBits]
    by_cases h : last = 0
    · simp [h]
    · simp only [h, if_false]; omega

/-- `fls` on a `u64`: `64 - leading_zeros` is the bit length -/
theorem flsU64_eq {m : Nat} (h : m < 2 ^ 64) : flsU64 m = bitLen m := by
  unfold flsU64 NB.C07.lzDigit bitLen NB.C07.BITS
  by_cases h0 : m = 0
  · simp [h0]
  · simp only [h0, if_false]
    have : Nat.log2 m < 64 := (Nat.log2_lt h0).2 h
    omega

theorem highBits_lt {x : List Nat} (h : Canon x) {m : Nat} (hm : highBitsToU64 x = .ok m) : m < 2 ^ 64 := by
  rw [highBits_all h] at hm
  cases hm
  by_cases hb : bitLen (val x) ≤ 64
  · rw [Nat.sub_eq_zero_of_le hb, stickyShift_zero]; exact bitLen_le_iff.mp hb
  · exact bitLen_le_iff.mp (Nat.le_of_eq (stickyShift_bitLen (k := 64) (by decide) (by omega)))

theorem integerDecode_lt (b : Nat) : (integerDecode f64 b).1 < B ∧ (integerDecode f64 b).2.1 < B := by
  have h1 : fFrac f64 b < 2 ^ 52 := fFrac_lt f64 b
  have h2 : fExp f64 b < 2 ^ 11 := Nat.mod_lt _ (Nat.two_pow_pos _)
  rw [B_eq]
  refine ⟨?_, Nat.lt_trans h2 (by decide)⟩
  show (if fExp f64 b = 0 then fFrac f64 b * 2 else fFrac f64 b + 2 ^ 52) < 2 ^ 64
  split <;> omega

end NB.Conv
