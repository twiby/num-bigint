/- helper lemmas for C07: bits of digit lists, digit-wise operations, bit queries and `set_bit` of BigUint -/
import NB.Lemmas.Canon
import NB.Model.Bits
import Mathlib.Data.Int.Bitwise
namespace NB.C07

theorem B_eq_bits : B = 2 ^ BITS := B_eq

theorem testBit_block {k b : Nat} (a : Nat) (hb : b < 2 ^ k) (j : Nat) :
    (b + 2 ^ k * a).testBit j = if j < k then b.testBit j else a.testBit (j - k) := by
  rw [Nat.add_comm]; exact Nat.testBit_two_pow_mul_add a hb j

/-- a digit-wise operation: bounded on digits and compatible with every block decomposition -/
structure DigitOp (f : Nat → Nat → Nat) : Prop where
  lt : ∀ {k d e : Nat}, d < 2 ^ k → e < 2 ^ k → f d e < 2 ^ k
  block : ∀ {k d e : Nat} (x y : Nat), d < 2 ^ k → e < 2 ^ k →
    f (d + 2 ^ k * x) (e + 2 ^ k * y) = f d e + 2 ^ k * f x y
  zero : f 0 0 = 0

theorem digitOp_of_testBit {f : Nat → Nat → Nat} {g : Bool → Bool → Bool} (hg : g false false = false)
    (hf : ∀ x y j, (f x y).testBit j = g (x.testBit j) (y.testBit j)) : DigitOp f := by
  have lt : ∀ {k d e : Nat}, d < 2 ^ k → e < 2 ^ k → f d e < 2 ^ k := by
    intro k d e hd he
    apply Nat.lt_pow_two_of_testBit
    intro i hi
    have hki := Nat.pow_le_pow_right (Nat.le_succ 1) hi
    rw [hf, Nat.testBit_lt_two_pow (Nat.lt_of_lt_of_le hd hki),
      Nat.testBit_lt_two_pow (Nat.lt_of_lt_of_le he hki), hg]
  refine ⟨lt, ?_, Nat.lt_one_iff.mp (lt (k := 0) Nat.one_pos Nat.one_pos)⟩
  intro k d e x y hd he
  apply Nat.eq_of_testBit_eq; intro j
  rw [hf, testBit_block x hd, testBit_block y he, testBit_block (f x y) (lt hd he)]
  split
  · rw [hf]
  · rw [hf]

theorem digitOp_and : DigitOp (· &&& ·) := digitOp_of_testBit rfl Nat.testBit_and
theorem digitOp_or : DigitOp (· ||| ·) := digitOp_of_testBit rfl Nat.testBit_or
theorem digitOp_xor : DigitOp (· ^^^ ·) := digitOp_of_testBit rfl Nat.testBit_xor
theorem digitOp_ldiff : DigitOp Nat.ldiff :=
  digitOp_of_testBit (g := fun a b => a && !b) rfl Nat.testBit_ldiff

theorem head_lt_two_pow {d : Nat} {ds : List Nat} (h : DigitsOk (d :: ds)) : d < 2 ^ BITS :=
  B_eq_bits ▸ h.head

/-- bit `64*i + j` of the value is bit `j` of digit `i` -/
theorem testBit_val {ds : List Nat} (h : DigitsOk ds) (i j : Nat) (hj : j < BITS) :
    (val ds).testBit (BITS * i + j) = (ds.getD i 0).testBit j := by
  induction ds generalizing i with
  | nil => rw [List.getD_nil, val_nil, Nat.zero_testBit, Nat.zero_testBit]
  | cons d ds ih =>
    rw [val_cons, B_eq_bits, testBit_block _ (head_lt_two_pow h)]
    cases i with
    | zero => rw [Nat.mul_zero, Nat.zero_add, if_pos hj, List.getD_cons_zero]
    | succ i =>
      rw [Nat.mul_succ, Nat.add_right_comm, if_neg (Nat.not_lt.2 (Nat.le_add_left _ _)),
        Nat.add_sub_cancel, ih h.tail, List.getD_cons_succ]

theorem B_pow (n : Nat) : B ^ n = 2 ^ (BITS * n) := NB.B_pow n

theorem val_drop_of_le (a : List Nat) {k : Nat} (h : a.length ≤ k) : val (a.drop k) = 0 := by
  rw [List.drop_eq_nil_of_le h]; rfl

/-- `f (val a) (val b)` splits into the zipped common part and `f` of the two remainders (one of
    which is empty) -/
theorem op_val_split {f : Nat → Nat → Nat} (hf : DigitOp f) (a b : List Nat) (ha : DigitsOk a)
    (hb : DigitsOk b) :
    f (val a) (val b) = val (List.zipWith f a b) +
      B ^ (List.zipWith f a b).length * f (val (a.drop b.length)) (val (b.drop a.length))
    ∧ DigitsOk (List.zipWith f a b) := by
  induction a generalizing b with
  | nil =>
    simp only [List.zipWith_nil_left, List.drop_nil, List.length_nil, List.drop_zero, val_nil,
      Nat.pow_zero, Nat.one_mul, Nat.zero_add, DigitsOk.nil, and_self]
  | cons d a ih =>
    cases b with
    | nil =>
      simp only [List.zipWith_nil_right, List.drop_nil, List.length_nil, List.drop_zero, val_nil,
        Nat.pow_zero, Nat.one_mul, Nat.zero_add, DigitsOk.nil, and_self]
    | cons e b =>
      obtain ⟨h1, h2⟩ := ih b ha.tail hb.tail
      have hd := head_lt_two_pow ha
      have he := head_lt_two_pow hb
      simp only [List.zipWith_cons_cons, List.length_cons, List.drop_succ_cons, val_cons]
      refine ⟨?_, DigitsOk.cons (B_eq_bits ▸ hf.lt hd he) h2⟩
      rw [B_eq_bits, hf.block _ _ hd he, h1, ← B_eq_bits, Nat.pow_succ, Nat.mul_add, Nat.add_assoc,
        Nat.mul_comm _ B, Nat.mul_assoc]

theorem zipWith_append_drop_take (f : Nat → Nat → Nat) (a b : List Nat) :
    (List.zipWith f a b ++ a.drop b.length).take b.length = List.zipWith f a b := by
  induction a generalizing b with
  | nil => rw [List.zipWith_nil_left, List.drop_nil, List.append_nil, List.take_nil]
  | cons d a ih =>
    cases b with
    | nil => rw [List.zipWith_nil_right, List.length_nil, List.take_zero]
    | cons e b =>
      rw [List.zipWith_cons_cons, List.length_cons, List.drop_succ_cons, List.cons_append,
        List.take_succ_cons, ih]

theorem andAssign_val_canon (a b : List Nat) (ha : DigitsOk a) (hb : DigitsOk b) :
    val (andAssign a b) = val a &&& val b ∧ Canon (andAssign a b) := by
  obtain ⟨h1, h2⟩ := op_val_split digitOp_and a b ha hb
  rw [andAssign, zipMut, zipWith_append_drop_take, normalize_val, h1]
  refine ⟨?_, normalize_canon h2⟩
  rcases Nat.le_total a.length b.length with h | h
  · rw [val_drop_of_le a h, Nat.zero_and, Nat.mul_zero, Nat.add_zero]
  · rw [val_drop_of_le b h, Nat.and_zero, Nat.mul_zero, Nat.add_zero]

theorem zipMut_length (f : Nat → Nat → Nat) (a b : List Nat) : (zipMut f a b).length = a.length := by
  rw [zipMut, List.length_append, List.length_zipWith, List.length_drop, Nat.add_comm,
    Nat.sub_add_min_cancel]

/-- the `if` of `|=` and `^=` that appends the extra digits of `b` -/
theorem zipMut_extend (f : Nat → Nat → Nat) (a b : List Nat) :
    (if b.length > (zipMut f a b).length then zipMut f a b ++ b.drop (zipMut f a b).length
      else zipMut f a b) = List.zipWith f a b ++ a.drop b.length ++ b.drop a.length := by
  rw [zipMut_length, zipMut]
  by_cases h : b.length > a.length
  · rw [if_pos h]
  · rw [if_neg h, List.drop_eq_nil_of_le (Nat.le_of_not_lt h), List.append_nil]

/-- zip, then extend with the extra digits of either operand (`|=` and `^=` before normalisation) -/
theorem extend_val {f : Nat → Nat → Nat} (hf : DigitOp f) (hl : ∀ x, f x 0 = x) (hr : ∀ y, f 0 y = y)
    (a b : List Nat) (ha : DigitsOk a) (hb : DigitsOk b) :
    val (List.zipWith f a b ++ a.drop b.length ++ b.drop a.length) = f (val a) (val b) ∧
    DigitsOk (List.zipWith f a b ++ a.drop b.length ++ b.drop a.length) := by
  obtain ⟨h1, h2⟩ := op_val_split hf a b ha hb
  refine ⟨?_, (h2.append (ha.drop _)).append (hb.drop _)⟩
  rw [h1, List.append_assoc, val_append]
  rcases Nat.le_total a.length b.length with h | h
  · rw [val_drop_of_le a h, hr, List.drop_eq_nil_of_le h, List.nil_append]
  · rw [val_drop_of_le b h, hl, List.drop_eq_nil_of_le h, List.append_nil]

theorem extend_length (f : Nat → Nat → Nat) (a b : List Nat) :
    (List.zipWith f a b ++ a.drop b.length ++ b.drop a.length).length = max a.length b.length := by
  rw [List.length_append, List.length_append, List.length_zipWith, List.length_drop, List.length_drop]
  rcases Nat.le_total a.length b.length with h | h
  · rw [Nat.min_eq_left h, Nat.sub_eq_zero_of_le h, Nat.add_zero, Nat.add_sub_of_le h, Nat.max_eq_right h]
  · rw [Nat.min_eq_right h, Nat.sub_eq_zero_of_le h, Nat.add_zero, Nat.add_sub_of_le h, Nat.max_eq_left h]

theorem orAssign_val_canon (a b : List Nat) (ha : Canon a) (hb : Canon b) :
    val (orAssign a b) = val a ||| val b ∧ Canon (orAssign a b) := by
  obtain ⟨h1, h2⟩ := extend_val digitOp_or Nat.or_zero Nat.zero_or a b ha.1 hb.1
  rw [orAssign, zipMut_extend]
  refine ⟨h1, canon_of_val_ge h2 fun hne => ?_⟩
  -- the result is as long as the longer operand, whose value is a lower bound of the `|||`
  have hpos := List.length_pos_iff.2 hne
  rw [extend_length] at hpos ⊢
  rw [h1]
  rcases Nat.le_total a.length b.length with h | h
  · rw [Nat.max_eq_right h] at hpos ⊢
    exact Nat.le_trans (canon_val_ge hb (List.ne_nil_of_length_pos hpos)) Nat.right_le_or
  · rw [Nat.max_eq_left h] at hpos ⊢
    exact Nat.le_trans (canon_val_ge ha (List.ne_nil_of_length_pos hpos)) Nat.left_le_or

theorem xorAssign_val_canon (a b : List Nat) (ha : DigitsOk a) (hb : DigitsOk b) :
    val (xorAssign a b) = val a ^^^ val b ∧ Canon (xorAssign a b) := by
  obtain ⟨h1, h2⟩ := extend_val digitOp_xor Nat.xor_zero Nat.zero_xor a b ha hb
  rw [xorAssign, zipMut_extend, normalize_val]
  exact ⟨h1, normalize_canon h2⟩

/-! ### numbers of the form `2^t * odd`

`trailing_zeros` and `trailing_ones` compute the `t` of `n = 2^t * (2*m+1)` for `n` the value
resp. the value plus one; three facts about this form carry both from digits to digit lists. -/

theorem two_pow_factor {t k : Nat} (h : t < k) : ∃ Q, 2 ^ k = 2 ^ t * (2 * Q) := by
  obtain ⟨j, rfl⟩ := Nat.exists_eq_add_of_lt h
  exact ⟨2 ^ j, by rw [Nat.pow_succ, Nat.pow_add, Nat.mul_assoc, Nat.mul_comm _ 2]⟩

theorem odd_mul_add {t k x : Nat} (v : Nat) (hx : ∃ m, x = 2 ^ t * (2 * m + 1)) (h : t < k) :
    ∃ m, x + 2 ^ k * v = 2 ^ t * (2 * m + 1) := by
  obtain ⟨m, rfl⟩ := hx
  obtain ⟨Q, hQ⟩ := two_pow_factor h
  exact ⟨m + Q * v, by
    rw [hQ, Nat.mul_assoc, ← Nat.mul_add, Nat.mul_add 2, Nat.add_right_comm, Nat.mul_assoc 2 Q]⟩

theorem odd_mul_compl {t k x : Nat} (hx : ∃ m, x = 2 ^ t * (2 * m + 1)) (h : t < k) (hle : x ≤ 2 ^ k) :
    ∃ m, 2 ^ k - x = 2 ^ t * (2 * m + 1) := by
  obtain ⟨m, rfl⟩ := hx
  obtain ⟨Q, hQ⟩ := two_pow_factor h
  rw [hQ] at hle ⊢
  have hmQ : m + 1 ≤ Q := Nat.lt_of_mul_lt_mul_left
    (Nat.lt_of_succ_le (Nat.le_of_mul_le_mul_left hle (Nat.pow_pos Nat.two_pos)))
  obtain ⟨c, rfl⟩ := Nat.exists_eq_add_of_le hmQ
  refine ⟨c, Nat.sub_eq_of_eq_add ?_⟩
  rw [← Nat.mul_add]; congr 1; ring

theorem odd_mul_shift {t x : Nat} (k : Nat) (hx : ∃ m, x = 2 ^ t * (2 * m + 1)) :
    ∃ m, 2 ^ k * x = 2 ^ (k + t) * (2 * m + 1) := by
  obtain ⟨m, rfl⟩ := hx
  exact ⟨m, by rw [Nat.pow_add, Nat.mul_assoc]⟩

/-- `ctzAux` finds the exponent of two in a non-zero number that fits the fuel -/
theorem ctzAux_spec (f d : Nat) (h0 : d ≠ 0) (h1 : d < 2 ^ f) :
    ctzAux f d < f ∧ ∃ m, d = 2 ^ (ctzAux f d) * (2 * m + 1) := by
  induction f generalizing d with
  | zero => exact absurd (Nat.lt_one_iff.mp h1) h0
  | succ f ih =>
    rw [ctzAux]
    obtain ⟨k, rfl | rfl⟩ := Nat.even_or_odd' d
    · rw [if_neg (by rw [Nat.mul_mod_right]; exact Nat.zero_ne_one),
        Nat.mul_div_cancel_left k Nat.two_pos]
      obtain ⟨hlt, m, hm⟩ := ih k (fun h => h0 (by rw [h]))
        (Nat.lt_of_mul_lt_mul_left (Nat.pow_succ' ▸ h1))
      exact ⟨by rw [Nat.add_comm]; exact Nat.succ_lt_succ hlt, m,
        by rw [Nat.pow_add, Nat.pow_one, Nat.mul_assoc, ← hm]⟩
    · rw [if_pos (Nat.mul_add_mod _ _ _)]
      exact ⟨Nat.succ_pos f, k, by rw [Nat.pow_zero, Nat.one_mul]⟩

theorem tzDigit_spec {d : Nat} (h0 : d ≠ 0) (hd : d < B) :
    tzDigit d < BITS ∧ ∃ m, d = 2 ^ (tzDigit d) * (2 * m + 1) :=
  ctzAux_spec BITS d h0 (by rw [← B_eq_bits]; exact hd)

theorem position_cons (p : Nat → Bool) (d : Nat) (ds : List Nat) :
    position p (d :: ds) = if p d then some 0 else (position p ds).map (· + 1) := rfl

theorem position_replicate_append (p : Nat → Bool) (d n : Nat) (l : List Nat) :
    position p (List.replicate n d ++ l) =
      if n ≠ 0 ∧ p d = true then some 0 else (position p l).map (· + n) := by
  induction n with
  | zero => cases h : position p l <;> simp [h]
  | succ n ih =>
    rw [List.replicate_succ, List.cons_append, position, ih]
    by_cases hp : p d = true
    · simp [hp]
    · simp only [hp, and_false, if_false, Bool.false_eq_true]
      cases position p l <;> simp [Nat.add_assoc]

theorem trailingZerosU_nil : trailingZerosU [] = none := rfl

theorem trailingZerosU_cons (d : Nat) (ds : List Nat) :
    trailingZerosU (d :: ds) =
      if d ≠ 0 then some (tzDigit d) else (trailingZerosU ds).map (· + BITS) := by
  unfold trailingZerosU
  rw [position_cons]
  by_cases h : d = 0
  · rw [if_neg (by rw [h]; exact Bool.false_ne_true), if_neg (not_not.2 h)]
    cases position (fun d => d != 0) ds with
    | none => rfl
    | some i =>
      simp only [Option.map_some, List.getD_cons_succ, Nat.succ_mul, Nat.add_right_comm]
  · rw [if_pos (bne_iff_ne.2 h), if_pos h]
    simp only [List.getD_cons_zero, Nat.zero_mul, Nat.zero_add]

/-- `trailing_zeros`: `None` for zero, otherwise the exponent `t` with `value = 2^t * odd` -/
theorem trailingZerosU_spec (ds : List Nat) (h : DigitsOk ds) :
    (val ds = 0 → trailingZerosU ds = none) ∧
    (val ds ≠ 0 → ∃ t m, trailingZerosU ds = some t ∧ val ds = 2 ^ t * (2 * m + 1)) := by
  induction ds with
  | nil => exact ⟨fun _ => rfl, fun h => absurd rfl h⟩
  | cons d ds ih =>
    obtain ⟨i1, i2⟩ := ih h.tail
    rw [trailingZerosU_cons, val_cons]
    by_cases hd : d = 0
    · rw [if_neg (not_not.2 hd), hd, Nat.zero_add, B_eq_bits]
      constructor
      · intro hv
        rw [i1 ((Nat.mul_eq_zero.1 hv).resolve_left (Nat.pow_pos Nat.two_pos).ne')]; rfl
      · intro hv
        obtain ⟨t, m, ht, hm⟩ := i2 (Nat.ne_zero_of_mul_ne_zero_right hv)
        obtain ⟨m', hm'⟩ := odd_mul_shift BITS ⟨m, hm⟩
        exact ⟨t + BITS, m', by rw [ht]; rfl, by rw [hm', Nat.add_comm]⟩
    · rw [if_pos hd]
      obtain ⟨hlt, hm⟩ := tzDigit_spec hd h.head
      obtain ⟨m, hm⟩ := odd_mul_add (val ds) hm hlt
      exact ⟨fun hv => absurd (Nat.eq_zero_of_add_eq_zero_right hv) hd,
        fun _ => ⟨tzDigit d, m, rfl, by rw [B_eq_bits, hm]⟩⟩

theorem dnot_lt {d : Nat} : dnot d < B :=
  Nat.lt_of_le_of_lt (Nat.sub_le _ _) (Nat.sub_lt B_pos Nat.one_pos)

theorem succ_eq_sub_dnot {d : Nat} (hd : d < B) : d + 1 = 2 ^ BITS - dnot d := by
  rw [← B_eq_bits, dnot, MAXD, Nat.sub_sub, Nat.add_comm 1, Nat.sub_sub_self hd]

theorem trailingOnesU_nil : trailingOnesU [] = 0 := rfl

theorem trailingOnesU_cons (d : Nat) (ds : List Nat) :
    trailingOnesU (d :: ds) = if dnot d ≠ 0 then toDigit d else BITS + trailingOnesU ds := by
  unfold trailingOnesU
  rw [position_cons]
  by_cases h : dnot d = 0
  · rw [if_neg (by rw [h]; exact Bool.false_ne_true), if_neg (not_not.2 h)]
    cases position (fun d => dnot d != 0) ds with
    | none => simp only [Option.map_none, List.length_cons, Nat.succ_mul, Nat.add_comm]
    | some i =>
      simp only [Option.map_some, List.getD_cons_succ, Nat.succ_mul]
      rw [Nat.add_comm (i * BITS), Nat.add_assoc]
  · rw [if_pos (bne_iff_ne.2 h), if_pos h]
    simp only [List.getD_cons_zero, Nat.zero_mul, Nat.zero_add]

/-- `trailing_ones`: the exponent `t` with `value + 1 = 2^t * odd`, i.e. bits `0..t-1` are ones
    and bit `t` is zero -/
theorem trailingOnesU_spec (ds : List Nat) (h : DigitsOk ds) :
    ∃ m, val ds + 1 = 2 ^ (trailingOnesU ds) * (2 * m + 1) := by
  induction ds with
  | nil => exact ⟨0, rfl⟩
  | cons d ds ih =>
    rw [trailingOnesU_cons, val_cons, Nat.add_right_comm, succ_eq_sub_dnot h.head, B_eq_bits]
    by_cases hd : dnot d = 0
    · -- `d + 1 = B`, the ones continue into the next digit
      rw [if_neg (not_not.2 hd), hd, Nat.sub_zero, Nat.add_comm, ← Nat.mul_succ]
      exact odd_mul_shift BITS (ih h.tail)
    · -- `d + 1 = B - !d` has the trailing zeros of `!d`
      rw [if_pos hd]
      obtain ⟨hlt, hm⟩ := tzDigit_spec hd dnot_lt
      exact odd_mul_add (val ds) (odd_mul_compl hm hlt (B_eq_bits ▸ dnot_lt.le)) hlt

theorem bitsU_concat (init : List Nat) {top : Nat} (h0 : top ≠ 0) (hlog : Nat.log2 top < BITS) :
    bitsU (init ++ [top]) = BITS * init.length + Nat.log2 top + 1 := by
  unfold bitsU lzDigit
  simp only [List.getLast?_append, List.getLast?_singleton, Option.some_or, h0, if_false,
    List.length_append, List.length_singleton]
  rw [Nat.succ_mul, Nat.mul_comm, Nat.sub_sub, Nat.add_comm 1, Nat.add_sub_assoc (Nat.sub_le _ _),
    Nat.sub_sub_self hlog, Nat.add_assoc]

theorem block_bounds {n l v top : Nat} (hv : v < 2 ^ n) (hlo : 2 ^ l ≤ top) (hhi : top < 2 ^ (l + 1)) :
    v + 2 ^ n * top < 2 ^ (n + l + 1) ∧ 2 ^ (n + l) ≤ v + 2 ^ n * top := by
  constructor
  · rw [Nat.add_assoc n l 1, Nat.pow_add 2 n (l + 1), Nat.add_comm v]
    exact Nat.lt_of_lt_of_le (Nat.add_lt_add_left hv _) (Nat.mul_le_mul_left _ hhi)
  · rw [Nat.pow_add 2 n l]
    exact Nat.le_trans (Nat.mul_le_mul_left _ hlo) (Nat.le_add_left _ _)

theorem bitsU_bounds (ds : List Nat) (h : Canon ds) :
    val ds < 2 ^ (bitsU ds) ∧ (ds ≠ [] → 1 ≤ bitsU ds ∧ 2 ^ (bitsU ds - 1) ≤ val ds) := by
  rcases List.eq_nil_or_concat ds with rfl | ⟨init, top, rfl⟩
  · exact ⟨Nat.one_pos, fun h => absurd rfl h⟩
  · rw [List.concat_eq_append] at h ⊢
    have htop0 : top ≠ 0 := fun e => h.2 (by rw [e, List.getLast?_concat])
    have hL : Nat.log2 top < BITS :=
      (Nat.log2_lt htop0).2 (B_eq_bits ▸ h.1 top (List.mem_append_right _ (List.mem_singleton_self _)))
    have hb := block_bounds (B_pow _ ▸ val_lt h.1.left) (Nat.log2_self_le htop0) Nat.lt_log2_self
    rw [bitsU_concat init htop0 hL, val_append, val_cons, val_nil, Nat.mul_zero, Nat.add_zero, B_pow]
    exact ⟨hb.1, fun _ => ⟨Nat.succ_pos _, hb.2⟩⟩

theorem bitsU_eq_size (ds : List Nat) (h : Canon ds) : bitsU ds = Nat.size (val ds) := by
  obtain ⟨h1, h2⟩ := bitsU_bounds ds h
  by_cases h0 : ds = []
  · rw [h0]; exact Nat.size_zero.symm
  · exact Nat.le_antisymm (Nat.le_of_pred_lt (Nat.lt_size.2 (h2 h0).2)) (Nat.size_le.2 h1)

/-- number of set bits among the lowest `w` bits -/
def countBits (w v : Nat) : Nat := ((List.range w).filter (fun i => v.testBit i)).length

theorem countBits_block {k d : Nat} (w x : Nat) (hd : d < 2 ^ k) :
    countBits (k + w) (d + 2 ^ k * x) = countBits k d + countBits w x := by
  unfold countBits
  rw [List.range_add, List.filter_append, List.length_append, List.filter_map, List.length_map]
  congr 1
  · congr 1
    apply List.filter_congr
    intro i hi
    rw [testBit_block x hd, if_pos (List.mem_range.1 hi)]
  · congr 2
    funext i
    rw [Function.comp, testBit_block x hd, if_neg (Nat.not_lt.2 (Nat.le_add_right k i)),
      Nat.add_sub_cancel_left]

theorem popAux_eq (f d : Nat) : popAux f d = countBits f d := by
  induction f generalizing d with
  | zero => rfl
  | succ f ih =>
    have hb := countBits_block (k := 1) f (d / 2) (Nat.mod_lt d Nat.two_pos)
    rw [Nat.pow_one, Nat.mod_add_div] at hb
    rw [popAux, ih, Nat.add_comm f, hb]
    rcases Nat.mod_two_eq_zero_or_one d with h | h
    · rw [h]; rfl
    · rw [h]; rfl

/-- `count_ones` counts the set bits of the value -/
theorem countOnesU_spec (ds : List Nat) (h : DigitsOk ds) :
    countOnesU ds = countBits (BITS * ds.length) (val ds) := by
  induction ds with
  | nil => rfl
  | cons d ds ih =>
    rw [List.length_cons, Nat.mul_succ, Nat.add_comm, val_cons, B_eq_bits,
      countBits_block _ _ (head_lt_two_pow h), ← ih h.tail, ← popAux_eq]
    rfl

theorem mask_test (d j : Nat) : ((d &&& (1 <<< j)) != 0) = d.testBit j := by
  rw [Nat.one_shiftLeft, Nat.and_two_pow]
  cases d.testBit j with
  | false => rw [Bool.toNat_false, Nat.zero_mul]; rfl
  | true => rw [Bool.toNat_true, Nat.one_mul]; exact bne_iff_ne.2 (Nat.pow_pos Nat.two_pos).ne'

/-- `BigUint::bit` reads the corresponding bit of the value -/
theorem bitU_spec (ds : List Nat) (h : DigitsOk ds) (k : Nat) : bitU ds k = (val ds).testBit k := by
  conv_rhs => rw [← Nat.div_add_mod k BITS]
  rw [testBit_val h _ _ (Nat.mod_lt _ (by decide)), bitU, List.getD_eq_getElem?_getD]
  cases ds[k / BITS]? with
  | none => exact (Nat.zero_testBit _).symm
  | some d => exact mask_test d _

theorem ldiff_zero_right (x : Nat) : Nat.ldiff x 0 = x := by
  apply Nat.eq_of_testBit_eq; intro j
  rw [Nat.testBit_ldiff, Nat.zero_testBit, Bool.not_false, Bool.and_true]

theorem ldiff_le (n m : Nat) : Nat.ldiff n m ≤ n := by
  have : Nat.ldiff n m = n &&& Nat.ldiff n m := by
    apply Nat.eq_of_testBit_eq; intro i
    rw [Nat.testBit_and, Nat.testBit_ldiff]
    cases n.testBit i <;> simp
  rw [this]; exact Nat.and_le_left

/-- a clear bit can be set by adding its weight: split `m` at bit `k + 1`, the low part is below `2 ^ k` -/
theorem or_two_pow_of_not_testBit {m k : Nat} (h : m.testBit k = false) : m ||| 2 ^ k = m + 2 ^ k := by
  have hlo : m % 2 ^ (k + 1) < 2 ^ k := by
    apply Nat.lt_pow_two_of_testBit
    intro i hi
    rw [Nat.testBit_mod_two_pow]
    rcases Nat.eq_or_lt_of_le hi with rfl | hlt
    · rw [h, Bool.and_false]
    · rw [decide_eq_false (Nat.not_lt.2 hlt), Bool.false_and]
  have hm := (Nat.div_add_mod m (2 ^ (k + 1))).symm
  generalize m / 2 ^ (k + 1) = q at hm
  generalize m % 2 ^ (k + 1) = lo at hm hlo
  have hp : (2 : Nat) ^ (k + 1) = 2 ^ k + 2 ^ k := by rw [Nat.pow_succ, Nat.mul_two]
  have h1 : lo < 2 ^ (k + 1) := hp ▸ Nat.lt_add_right _ hlo
  have h2 : lo + 2 ^ k < 2 ^ (k + 1) := hp ▸ Nat.add_lt_add_right hlo _
  rw [hm, Nat.two_pow_add_eq_or_of_lt h1, Nat.or_assoc, Nat.or_two_pow_eq_add_of_lt hlo,
    ← Nat.two_pow_add_eq_or_of_lt h2, ← Nat.two_pow_add_eq_or_of_lt h1, Nat.add_assoc]

theorem or_two_pow_eq (m k : Nat) : m ||| 2 ^ k = if m.testBit k then m else m + 2 ^ k := by
  split
  next h =>
    apply Nat.eq_of_testBit_eq; intro i
    rw [Nat.testBit_or, Nat.testBit_two_pow]
    by_cases hik : k = i
    · rw [← hik, h]; rfl
    · rw [decide_eq_false hik, Bool.or_false]
  next h => exact or_two_pow_of_not_testBit (Bool.eq_false_iff.2 h)

theorem ldiff_two_pow_eq (m k : Nat) : Nat.ldiff m (2 ^ k) = if m.testBit k then m - 2 ^ k else m := by
  split
  next h =>
    -- the difference has bit `k` clear, and setting it again gives `m` back
    have hb : (Nat.ldiff m (2 ^ k)).testBit k = false := by
      rw [Nat.testBit_ldiff, Nat.testBit_two_pow_self, Bool.not_true, Bool.and_false]
    apply Nat.eq_sub_of_add_eq
    rw [← or_two_pow_of_not_testBit hb]
    apply Nat.eq_of_testBit_eq; intro i
    rw [Nat.testBit_or, Nat.testBit_ldiff, Nat.testBit_two_pow]
    by_cases hik : k = i
    · rw [← hik, h, decide_eq_true rfl]; rfl
    · rw [decide_eq_false hik, Bool.not_false, Bool.and_true, Bool.or_false]
  next h =>
    apply Nat.eq_of_testBit_eq; intro i
    rw [Nat.testBit_ldiff, Nat.testBit_two_pow]
    by_cases hik : k = i
    · rw [← hik, Bool.eq_false_iff.2 h]; rfl
    · rw [decide_eq_false hik, Bool.not_false, Bool.and_true]

theorem ldiff_two_pow_of_lt {x k : Nat} (h : x < 2 ^ k) : Nat.ldiff x (2 ^ k) = x := by
  rw [ldiff_two_pow_eq, if_neg (Bool.eq_false_iff.1 (Nat.testBit_lt_two_pow h))]

theorem or_decide_eq (b : Bool) (i k : Nat) : (b || decide (k = i)) = if i = k then true else b := by
  by_cases h : i = k
  · subst h; simp
  · simp [h, Ne.symm h]

theorem and_not_decide_eq (b : Bool) (i k : Nat) : (b && !decide (k = i)) = if i = k then false else b := by
  by_cases h : i = k
  · subst h; simp
  · simp [h, Ne.symm h]

/-- clearing through `& !mask` on a digit is set difference -/
theorem and_dnot_mask {d j : Nat} (hd : d < B) (hj : j < BITS) :
    d &&& dnot (1 <<< j) = Nat.ldiff d (2 ^ j) := by
  apply Nat.eq_of_testBit_eq; intro i
  rw [Nat.testBit_and, Nat.testBit_ldiff, dnot, MAXD, Nat.sub_sub, Nat.add_comm 1, B_eq_bits,
    Nat.one_shiftLeft, Nat.testBit_two_pow_sub_succ (Nat.pow_lt_pow_right Nat.one_lt_two hj)]
  by_cases hi : i < BITS
  · rw [decide_eq_true hi, Bool.true_and]
  · rw [Nat.testBit_lt_two_pow (Nat.lt_of_lt_of_le (B_eq_bits ▸ hd)
      (Nat.pow_le_pow_right Nat.two_pos (Nat.le_of_not_lt hi))), Bool.false_and, Bool.false_and]

/-- replacing digit `i` by `f digit m` applies `f` with `B^i * m` to the value -/
theorem val_set_op {f : Nat → Nat → Nat} (hf : DigitOp f) (hr : ∀ x, f x 0 = x)
    (ds : List Nat) (i m : Nat) (hi : i < ds.length) (h : DigitsOk ds) (hm : m < 2 ^ BITS) :
    val (ds.set i (f (ds.getD i 0) m)) = f (val ds) (B ^ i * m) ∧
    DigitsOk (ds.set i (f (ds.getD i 0) m)) := by
  induction ds generalizing i with
  | nil => exact absurd hi (Nat.not_lt_zero _)
  | cons d ds ih =>
    have hd := head_lt_two_pow h
    cases i with
    | zero =>
      have hb := hf.block (val ds) 0 hd hm
      rw [hr, Nat.mul_zero, Nat.add_zero, ← B_eq_bits] at hb
      rw [List.set_cons_zero, List.getD_cons_zero, Nat.pow_zero, Nat.one_mul, val_cons, val_cons, hb]
      exact ⟨rfl, DigitsOk.cons (B_eq_bits ▸ hf.lt hd hm) h.tail⟩
    | succ i =>
      obtain ⟨i1, i2⟩ := ih i (Nat.lt_of_succ_lt_succ hi) h.tail
      have hb := hf.block (val ds) (B ^ i * m) hd (Nat.pow_pos Nat.two_pos)
      rw [hr, Nat.zero_add, ← B_eq_bits, ← Nat.mul_assoc, ← Nat.pow_succ'] at hb
      rw [List.set_cons_succ, List.getD_cons_succ, val_cons, i1, val_cons, hb]
      exact ⟨rfl, DigitsOk.cons h.head i2⟩

theorem two_pow_digits (k : Nat) : B ^ (k / BITS) * 2 ^ (k % BITS) = 2 ^ k := by
  rw [B_pow, ← Nat.pow_add, Nat.div_add_mod]

/-- applying `f digit (1 << (k % 64))` to digit `k / 64` applies `f` with `2^k` to the value -/
theorem val_set_bit {f : Nat → Nat → Nat} (hf : DigitOp f) (hr : ∀ x, f x 0 = x)
    (ds : List Nat) (k : Nat) (hi : k / BITS < ds.length) (h : DigitsOk ds) :
    val (ds.set (k / BITS) (f (ds.getD (k / BITS) 0) (2 ^ (k % BITS)))) = f (val ds) (2 ^ k) ∧
    DigitsOk (ds.set (k / BITS) (f (ds.getD (k / BITS) 0) (2 ^ (k % BITS)))) :=
  two_pow_digits k ▸ val_set_op hf hr ds (k / BITS) (2 ^ (k % BITS)) hi h
    (Nat.pow_lt_pow_right Nat.one_lt_two (Nat.mod_lt _ (by decide)))

theorem setBitU_true_val_canon (ds : List Nat) (k : Nat) (h : Canon ds) :
    val (setBitU ds k true) = val ds ||| 2 ^ k ∧ Canon (setBitU ds k true) := by
  rw [setBitU, if_pos rfl, Nat.one_shiftLeft]
  by_cases hge : k / BITS ≥ ds.length
  · -- the list is extended by zero digits up to digit `k / 64`, which becomes the top digit
    obtain ⟨h1, h2⟩ := val_set_bit digitOp_or Nat.or_zero
      (ds ++ List.replicate (k / BITS + 1 - ds.length) 0) k
      (by rw [List.length_append, List.length_replicate, Nat.add_sub_of_le (Nat.le_succ_of_le hge)]
          exact Nat.lt_succ_self _)
      (h.1.append (digitsOk_replicate_zero _))
    have hv : val (ds ++ List.replicate (k / BITS + 1 - ds.length) 0) = val ds := by
      rw [val_append, val_replicate_zero, Nat.mul_zero, Nat.add_zero]
    rw [hv] at h1
    simp only [if_pos hge]
    refine ⟨h1, canon_of_val_ge h2 fun _ => ?_⟩
    rw [List.length_set, List.length_append, List.length_replicate,
      Nat.add_sub_of_le (Nat.le_succ_of_le hge), Nat.succ_sub_one, h1, B_pow]
    exact Nat.le_trans (Nat.pow_le_pow_right Nat.two_pos (Nat.mul_div_le k BITS)) Nat.right_le_or
  · obtain ⟨h1, h2⟩ := val_set_bit digitOp_or Nat.or_zero ds k (Nat.lt_of_not_le hge) h.1
    simp only [if_neg hge]
    refine ⟨h1, canon_of_val_ge h2 fun _ => ?_⟩
    rw [List.length_set, h1]
    exact Nat.le_trans (canon_val_ge h (List.ne_nil_of_length_pos (Nat.zero_lt_of_lt
      (Nat.lt_of_not_le hge)))) Nat.left_le_or

theorem setBitU_false_val_canon (ds : List Nat) (k : Nat) (h : Canon ds) :
    val (setBitU ds k false) = Nat.ldiff (val ds) (2 ^ k) ∧ Canon (setBitU ds k false) := by
  rw [setBitU, if_neg Bool.false_ne_true, Nat.one_shiftLeft]
  by_cases hlt : k / BITS < ds.length
  · have hdig : ds.getD (k / BITS) 0 < B := by
      rw [List.getD_eq_getElem?_getD, List.getElem?_eq_getElem hlt]; exact h.1 _ (List.getElem_mem hlt)
    obtain ⟨h1, h2⟩ := val_set_bit digitOp_ldiff ldiff_zero_right ds k hlt h.1
    simp only [if_pos hlt]
    rw [← Nat.one_shiftLeft, and_dnot_mask hdig (Nat.mod_lt _ (by decide)), normalize_val]
    exact ⟨h1, normalize_canon h2⟩
  · -- bit `k` lies above all digits and is clear already
    simp only [if_neg hlt]
    refine ⟨(ldiff_two_pow_of_lt ?_).symm, h⟩
    calc val ds < B ^ ds.length := val_lt h.1
      _ = 2 ^ (BITS * ds.length) := B_pow _
      _ ≤ 2 ^ k := Nat.pow_le_pow_right Nat.two_pos (Nat.le_trans
          (Nat.mul_le_mul_left _ (Nat.le_of_not_lt hlt)) (Nat.mul_div_le k BITS))

end NB.C07
