/- the digit-level operators of C01, C02, C03, C07 on canonical digits `ofNat n`: their end results with
   the canonicity hypotheses discharged, as the digit-level models of the higher properties use them -/
import NB.Props.C01
import NB.Props.C02
import NB.Props.C03
import NB.Props.C07
namespace NB

theorem addAssign_ofNat (P : Params) (a b : Nat) : addAssign P (ofNat a) (ofNat b) = ofNat (a + b) := by
  rw [addAssign_spec P _ _ (ofNat_canon a) (ofNat_canon b), ofNat_val, ofNat_val]

theorem addRef_ofNat (P : Params) (a b : Nat) : addRef P (ofNat a) (ofNat b) = ofNat (a + b) := by
  rw [addRef_spec P _ _ (ofNat_canon a) (ofNat_canon b), ofNat_val, ofNat_val]

theorem subAssign_ofNat (P : Params) (a b : Nat) :
    subAssign P (ofNat a) (ofNat b) = if a < b then .error .underflow else .ok (ofNat (a - b)) := by
  rw [subAssign_spec P _ _ (ofNat_canon a) (ofNat_canon b), ofNat_val, ofNat_val]

theorem subRefVal_ofNat (P : Params) (a b : Nat) :
    subRefVal P (ofNat a) (ofNat b) = if a < b then .error .underflow else .ok (ofNat (a - b)) := by
  rw [subRefVal_spec P _ _ (ofNat_canon a) (ofNat_canon b), ofNat_val, ofNat_val]

theorem mulRef_ofNat (P : Params) (hP : P.ValidMul) (a b : Nat) :
    Mul.mulRef P (ofNat a) (ofNat b) = .ok (ofNat (a * b)) := by
  rw [mul_spec P hP _ _ (ofNat_canon a) (ofNat_canon b), ofNat_val, ofNat_val]

theorem mulAssign_ofNat (P : Params) (hP : P.ValidMul) (a b : Nat) :
    Mul.mulAssign P (ofNat a) (ofNat b) = .ok (ofNat (a * b)) := by
  rw [mulAssign_spec P hP _ _ (ofNat_canon a) (ofNat_canon b), ofNat_val, ofNat_val]

theorem divRef_ofNat (P : Params) (a b : Nat) :
    divRef P (ofNat a) (ofNat b) = if b = 0 then .error .divzero else .ok (ofNat (a / b)) := by
  rw [divRef_spec P _ _ (ofNat_canon a) (ofNat_canon b), ofNat_val, ofNat_val]
  simp only [ofNat_eq_nil_iff]

theorem remRef_ofNat (P : Params) (a b : Nat) :
    remRef P (ofNat a) (ofNat b) = if b = 0 then .error .divzero else .ok (ofNat (a % b)) := by
  rw [remRef_spec P _ _ (ofNat_canon a) (ofNat_canon b), ofNat_val, ofNat_val]
  simp only [ofNat_eq_nil_iff]

theorem divRemRef_ofNat (P : Params) (a b : Nat) :
    divRemRef P (ofNat a) (ofNat b) =
      if b = 0 then .error .divzero else .ok (ofNat (a / b), ofNat (a % b)) := by
  rw [div_rem_spec P _ _ (ofNat_canon a) (ofNat_canon b), ofNat_val, ofNat_val]
  simp only [ofNat_eq_nil_iff]

theorem remRef_ofNat_of_ne (P : Params) (a b : Nat) (hb : b ≠ 0) :
    remRef P (ofNat a) (ofNat b) = .ok (ofNat (a % b)) := by
  rw [remRef_ofNat, if_neg hb]

theorem divRemRef_ofNat_of_ne (P : Params) (a b : Nat) (hb : b ≠ 0) :
    divRemRef P (ofNat a) (ofNat b) = .ok (ofNat (a / b), ofNat (a % b)) := by
  rw [divRemRef_ofNat, if_neg hb]

theorem shl_ofNat (a k : Nat) (hk : k / C07.BITS < C07.USIZE_RANGE) :
    C07.biguintShl (ofNat a) (k : Int) = .ok (ofNat (a * 2 ^ k)) := by
  have := C07.shl_spec (ofNat a) (k : Int) (ofNat_canon a) (by omega) (fun _ => by simpa using hk)
  rw [this, ofNat_val]; simp

/-- `>>` without the length hypothesis of `C07.shr_spec`, for amounts whose digit count fits `usize` -/
theorem shr_ofNat (a k : Nat) (hk : k / C07.BITS < C07.USIZE_RANGE) :
    C07.biguintShr (ofNat a) (k : Int) = .ok (ofNat (a / 2 ^ k)) := by
  unfold C07.biguintShr
  have hk' : ¬ ((k : Int) < 0) := by omega
  simp only [hk', if_false]
  by_cases h0 : ofNat a = []
  · have ha : a = 0 := (ofNat_eq_nil_iff a).mp h0
    subst ha; simp [ofNat_zero]
  · simp only [h0, if_false, Int.toNat_natCast, hk, if_true]
    obtain ⟨h1, h2⟩ := C07.shr2_spec (ofNat a) (k / C07.BITS) (k % C07.BITS) (ofNat_digitsOk a)
      (Nat.mod_lt _ (by decide))
    rw [Nat.div_add_mod] at h1
    rw [canon_eq_ofNat h2, h1, ofNat_val]

end NB
