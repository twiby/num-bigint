/- The leaf routines of src/biguint/multiplication.rs as modelled in NB.Model.Mul: `mac_digit` and the
   schoolbook loop, `add2`/`sub2` on a suffix `acc[off..]`, `sub_sign`, `scalar_mul`.
   Vocabulary: `Adds e acc v` ("`e` succeeds with `acc + v` in the same digits") for accumulating
   steps, `SignedDiff` for the result of `sub_sign`; operands are digit lists with `DigitsOk`. -/
import NB.Lemmas.AddSub
import NB.Lemmas.Canon
import NB.Model.Mul
namespace NB.Mul

theorem mx_ok_bind {ε α β : Type} (a : α) (f : α → Except ε β) : (Except.ok a >>= f) = f a := rfl

theorem lenGe_iff : ∀ (l : List Nat) (n : Nat), lenGe l n = true ↔ n ≤ l.length := by
  intro l
  induction l with
  | nil => intro n; cases n <;> simp [lenGe]
  | cons a t ih => intro n; cases n with
    | zero => simp [lenGe]
    | succ m => simp [lenGe, ih m]

theorem B_pow_le_pow {m n : Nat} (h : m ≤ n) : B ^ m ≤ B ^ n := Nat.pow_le_pow_right B_pos h

theorem normalize_length_le {a : List Nat} (h : DigitsOk a) {k : Nat} (hv : val a < B ^ k) :
    (normalize a).length ≤ k :=
  (canon_length_le_iff (normalize_canon h) _).mpr (by rw [normalize_val]; exact hv)

/-- `P * h ≤ lo + P * h < P * Q` gives `h < Q` -/
theorem lt_of_add_mul_lt {lo P h Q : Nat} (hlt : lo + P * h < P * Q) : h < Q := by
  by_contra hge
  have : P * Q ≤ P * h := Nat.mul_le_mul_left _ (by omega)
  omega

/-- in a chain of additions whose total is bounded, `r` is what is still to be added -/
theorem lt_of_add_rest {a b r c : Nat} (h : a + (b + r) < c) : a + b < c :=
  Nat.lt_of_le_of_lt (Nat.add_le_add_left (Nat.le_add_right b r) a) h

theorem B_pow_split {n off : Nat} (h : off ≤ n) : B ^ n = B ^ off * B ^ (n - off) := by
  rw [← pow_add]; congr 1; omega

theorem mx_ofNat_ne_nil {n : Nat} (h : 0 < n) : ofNat n ≠ [] :=
  fun he => Nat.ne_of_gt h ((ofNat_eq_nil_iff n).mp he)

/-- `e` succeeds and leaves `acc + v` in the same number of proper digits: the shape of every
    accumulating step of `mac3` (proof-side; the model has no counterpart) -/
def Adds (e : Except Panic (List Nat)) (acc : List Nat) (v : Nat) : Prop :=
  ∃ r, e = .ok r ∧ val r = val acc + v ∧ r.length = acc.length ∧ DigitsOk r

/-- two accumulating steps in sequence; the second may use what the first established -/
theorem Adds.bind {e : Except Panic (List Nat)} {g : List Nat → Except Panic (List Nat)}
    {acc : List Nat} {u v : Nat} (h : Adds e acc u)
    (hg : ∀ r, val r = val acc + u → r.length = acc.length → DigitsOk r → Adds (g r) r v) :
    Adds (e >>= g) acc (u + v) := by
  obtain ⟨r, he, hv, hl, hd⟩ := h
  obtain ⟨r', he', hv', hl', hd'⟩ := hg r hv hl hd
  exact ⟨r', by rw [he]; exact he', by rw [hv', hv, Nat.add_assoc], by rw [hl', hl], hd'⟩

theorem onSuffix_ok {off : Nat} {acc t : List Nat} {f : List Nat → Except Panic (List Nat)}
    (h : off ≤ acc.length) (hf : f (acc.drop off) = .ok t) :
    onSuffix off acc f = .ok (acc.take off ++ t) := by
  unfold onSuffix
  rw [(lenGe_iff acc off).mpr h]
  simp only [if_true, hf]

/-- a step that adds `v` to `acc[off..]` adds `B^off * v` to `acc` -/
theorem onSuffix_spec {f : List Nat → Except Panic (List Nat)} {off : Nat} {acc : List Nat} {v : Nat}
    (ha : DigitsOk acc) (hoff : off ≤ acc.length)
    (hf : Adds (f (acc.drop off)) (acc.drop off) v) : Adds (onSuffix off acc f) acc (B ^ off * v) := by
  obtain ⟨t, h1, h2, h3, h4⟩ := hf
  refine ⟨_, onSuffix_ok hoff h1, ?_, ?_, (ha.take _).append h4⟩
  · rw [val_append, List.length_take, Nat.min_eq_left hoff, h2, val_split_at acc off]; ring
  · rw [List.length_append, h3, List.length_take, List.length_drop]; omega

/-- a bound on `acc + B^off * v` is a bound on `acc[off..] + v` -/
theorem val_drop_add_lt {off k : Nat} {acc : List Nat} (hk : off ≤ k) {v : Nat}
    (hv : val acc + B ^ off * v < B ^ k) : val (acc.drop off) + v < B ^ (k - off) := by
  apply lt_of_add_mul_lt (lo := val (acc.take off)) (P := B ^ off)
  rw [← B_pow_split hk, Nat.mul_add, ← Nat.add_assoc, ← val_split_at acc off]
  exact hv

/-- a sum that fits in `n` digits leaves no carry out of them -/
theorem carry_eq_zero_of_lt {v c n S : Nat} (h : v + B ^ n * c = S) (hS : S < B ^ n) : c = 0 ∧ v = S := by
  have hc : c = 0 := by
    by_contra hne
    have : B ^ n * 1 ≤ B ^ n * c := Nat.mul_le_mul_left _ (Nat.pos_of_ne_zero hne)
    omega
  rw [hc, Nat.mul_zero, Nat.add_zero] at h
  exact ⟨hc, h⟩

theorem add2g_spec (P : Params) (a d : List Nat) (ha : DigitsOk a) (hd : DigitsOk d)
    (hl : d.length ≤ a.length) (hv : val a + val d < B ^ a.length) :
    Adds (add2g P a d) a (val d) := by
  obtain ⟨s1, s2, s3, -⟩ := add2c_spec P a d hl ha hd
  obtain ⟨hc, hs⟩ := carry_eq_zero_of_lt s1 hv
  refine ⟨(add2c P a d).1, ?_, hs, s2, s3⟩
  unfold add2g add2
  rw [(lenGe_iff a d.length).mpr hl]
  simp only [if_true, hc]

theorem addAt_spec (P : Params) (off : Nat) (acc d : List Nat) (ha : DigitsOk acc) (hd : DigitsOk d)
    (hl : off + d.length ≤ acc.length) (hv : val acc + B ^ off * val d < B ^ acc.length) :
    Adds (onSuffix off acc (fun t => add2g P t d)) acc (B ^ off * val d) := by
  have hoff : off ≤ acc.length := by omega
  refine onSuffix_spec ha hoff (add2g_spec P _ d (ha.drop _) hd ?_ ?_)
  · rw [List.length_drop]; omega
  · rw [List.length_drop]; exact val_drop_add_lt hoff hv

theorem subAt_spec (P : Params) (off : Nat) (acc d : List Nat) (ha : DigitsOk acc) (hd : DigitsOk d)
    (hoff : off ≤ acc.length) (hv : B ^ off * val d ≤ val acc) :
    ∃ r, onSuffix off acc (fun t => sub2 P t d) = .ok r ∧ val r + B ^ off * val d = val acc ∧
      r.length = acc.length ∧ DigitsOk r := by
  have hsp := val_split_at acc off
  have hlo : val (acc.take off) < B ^ off := by
    have := val_lt (ha.take off)
    rwa [List.length_take, Nat.min_eq_left hoff] at this
  have hle : val d ≤ val (acc.drop off) := by
    by_contra hgt
    have : B ^ off * (val (acc.drop off) + 1) ≤ B ^ off * val d := Nat.mul_le_mul_left _ (by omega)
    rw [Nat.mul_add] at this
    omega
  obtain ⟨t, h1, h2, h3, h4⟩ := (sub2_spec P (acc.drop off) d (ha.drop _) hd).2 hle
  refine ⟨_, onSuffix_ok hoff h1, ?_, ?_, (ha.take _).append h4⟩
  · rw [val_append, List.length_take, Nat.min_eq_left hoff, h2, hsp, Nat.add_assoc, ← Nat.mul_add,
      Nat.sub_add_cancel hle]
  · rw [List.length_append, h3, List.length_take, Nat.min_eq_left hoff, List.length_drop,
      Nat.add_sub_of_le hoff]

/-- one step of a carry chain in mixed radix: `m` and `q` are the low part and the carry of `t`
    (radix `R`), the rest of the chain continues from `q` -/
theorem carry_step {R S m q t v fc rest : Nat} (ht : m + R * q = t) (ih : v + S * fc = q + rest) :
    m + R * v + R * S * fc = t + R * rest := by
  have h := congrArg (R * ·) ih
  simp only [Nat.mul_add] at h
  rw [Nat.mul_assoc, ← ht]
  omega

/-- a product of two digits plus two digits fits in two digits, so its high half is a digit -/
theorem carry_digit_lt {carry a b c : Nat} (hcar : carry < B) (ha : a < B) (hb : b < B) (hc : c < B) :
    (carry + a + b * c) / B < B := by
  have hbc : b * c ≤ (B - 1) * (B - 1) := Nat.mul_le_mul (by omega) (by omega)
  have hBB : (B - 1) * (B - 1) + 2 * (B - 1) < B * B := by decide
  rw [Nat.div_lt_iff_lt_mul B_pos]
  omega

theorem macZip_spec (c : Nat) (hc : c < B) : ∀ (a b : List Nat) (carry : Nat), a.length = b.length →
    DigitsOk a → DigitsOk b → carry < B →
    val (macZip c carry a b).1 + B ^ a.length * (macZip c carry a b).2 = val a + val b * c + carry ∧
    (macZip c carry a b).1.length = a.length ∧ DigitsOk (macZip c carry a b).1 ∧
    (macZip c carry a b).2 < B := by
  intro a
  induction a with
  | nil =>
    intro b carry hl _ _ hcar
    cases b with
    | nil => exact ⟨by simp [macZip, val], rfl, DigitsOk.nil, hcar⟩
    | cons _ _ => simp at hl
  | cons x xs ih =>
    intro b carry hl ha hb hcar
    cases b with
    | nil => simp at hl
    | cons y ys =>
      obtain ⟨i1, i2, i3, i4⟩ := ih ys ((carry + x + y * c) / B) (by simpa using hl) ha.tail hb.tail
        (carry_digit_lt hcar ha.head hb.head hc)
      simp only [macZip, List.length_cons]
      refine ⟨?_, by rw [i2], DigitsOk.cons (Nat.mod_lt _ B_pos) i3, i4⟩
      have e : val (x :: xs) + val (y :: ys) * c + carry
          = carry + x + y * c + B * (val xs + val ys * c) := by simp only [val]; ring
      rw [e, pow_succ']
      exact carry_step (Nat.mod_add_div _ B) (by rw [i1, Nat.add_comm])

/-- `mac_digit`: exact, no carry overflow, provided the row fits below the top of `acc` -/
theorem macDigit_spec (P : Params) (acc b : List Nat) (c : Nat) (ha : DigitsOk acc) (hb : DigitsOk b)
    (hc : c < B) (hl : b.length < acc.length) (hv : val acc + val b * c < B ^ acc.length) :
    Adds (macDigit P acc b c) acc (val b * c) := by
  unfold macDigit
  by_cases hc0 : c = 0
  · subst hc0; exact ⟨acc, by simp, by simp, rfl, ha⟩
  · have hle : b.length ≤ acc.length := Nat.le_of_lt hl
    have htl : (acc.take b.length).length = b.length := List.length_take_of_le hle
    have hdl : b.length + (acc.drop b.length).length = acc.length := by
      rw [List.length_drop]; omega
    -- the row loop leaves a one-digit carry `z.2`, which `add2` propagates into the high part
    obtain ⟨z1, z2, z3, z4⟩ := macZip_spec c hc (acc.take b.length) b 0 htl (ha.take _) hb B_pos
    rw [htl, Nat.add_zero] at z1
    rw [htl] at z2
    generalize macZip c 0 (acc.take b.length) b = z at z1 z2 z3 z4 ⊢
    have h1 : [z.2].length ≤ (acc.drop b.length).length := by
      rw [List.length_singleton]; omega
    obtain ⟨s1, s2, s3, -⟩ := add2c_spec P (acc.drop b.length) [z.2] h1 (ha.drop _)
      (DigitsOk.cons z4 DigitsOk.nil)
    simp only [val, Nat.mul_zero, Nat.add_zero] at s1
    simp only [hc0, if_false, (lenGe_iff acc b.length).mpr hle, if_true, Nat.div_eq_of_lt z4,
      Nat.mod_eq_of_lt z4, (lenGe_iff _ _).mpr h1]
    generalize add2c P (acc.drop b.length) [z.2] = s at s1 s2 s3 ⊢
    have htot : val (z.1 ++ s.1) + B ^ acc.length * s.2 = val acc + val b * c := by
      rw [val_append, z2, val_split_at acc b.length, ← hdl, pow_add,
        Nat.add_right_comm (val (acc.take b.length))]
      exact carry_step z1 (by rw [s1, Nat.add_comm])
    obtain ⟨hs0, hval⟩ := carry_eq_zero_of_lt htot hv
    refine ⟨z.1 ++ s.1, by simp only [hs0, if_true], hval, ?_, z3.append s3⟩
    rw [List.length_append, z2, s2, hdl]

/-- the `carry_hi != 0` arm of `mac_digit` (which passes the two halves in swapped order) is
    never taken: the loop carry is a single digit -/
theorem macDigit_carryHi_zero (c : Nat) (hc : c < B) (a b : List Nat) (hl : a.length = b.length)
    (ha : DigitsOk a) (hb : DigitsOk b) : (macZip c 0 a b).2 / B = 0 :=
  have hcarry : (macZip c 0 a b).2 < B := (macZip_spec c hc a b 0 hl ha hb B_pos).2.2.2
  Nat.div_eq_of_lt hcarry

theorem school_spec (P : Params) (y : List Nat) (hy : DigitsOk y) : ∀ (x acc : List Nat),
    DigitsOk x → DigitsOk acc → (x ≠ [] → x.length + y.length ≤ acc.length) →
    val acc + val y * val x < B ^ acc.length →
    Adds (school P acc y x) acc (val y * val x) := by
  intro x
  induction x with
  | nil => intro acc _ ha _ _; exact ⟨acc, rfl, by simp [val], rfl, ha⟩
  | cons xi xs ih =>
    intro acc hx ha hl hv
    have hl' := hl (by simp)
    simp only [List.length_cons] at hl'
    have hvx : val (xi :: xs) = xi + B * val xs := rfl
    rw [hvx] at hv ⊢
    have hexp : val y * (xi + B * val xs) = val y * xi + B * (val y * val xs) := by ring
    rw [hexp] at hv ⊢
    obtain ⟨a1, m1, m2, m3, m4⟩ := macDigit_spec P acc y xi ha hy hx.head (by omega)
      (lt_of_add_rest hv)
    unfold school
    simp only [m1]
    cases xs with
    | nil => exact ⟨a1, rfl, by simp [val, m2], m3, m4⟩
    | cons x2 xs2 =>
      simp only
      cases a1 with
      | nil => simp at m3; omega
      | cons a0 rest =>
        simp only
        have hrl : rest.length + 1 = acc.length := m3
        rw [← Nat.add_assoc, ← m2, val_cons, Nat.add_assoc, ← Nat.mul_add, ← hrl, pow_succ'] at hv
        obtain ⟨r, i1, i2, i3, i4⟩ := ih rest hx.tail m4.tail
          (by intro _; simp only [List.length_cons] at hl' ⊢; omega) (lt_of_add_mul_lt hv)
        simp only [i1]
        refine ⟨a0 :: r, rfl, ?_, by simp [i3, hrl], DigitsOk.cons m4.head i4⟩
        rw [val_cons, i2, Nat.mul_add, ← Nat.add_assoc, ← val_cons a0 rest, m2, Nat.add_assoc]

theorem lowZeros_le : ∀ (b : List Nat), lowZeros b ≤ b.length := by
  intro b
  induction b with
  | nil => simp [lowZeros]
  | cons d t ih =>
    cases d with
    | zero => simp only [lowZeros, List.length_cons]; omega
    | succ k => simp [lowZeros]

theorem val_drop_lowZeros : ∀ (b : List Nat), val b = B ^ lowZeros b * val (b.drop (lowZeros b)) := by
  intro b
  induction b with
  | nil => simp [lowZeros, val]
  | cons d t ih =>
    cases d with
    | zero =>
      simp only [lowZeros, List.drop_succ_cons, pow_succ]
      rw [val_cons, ih]; ring
    | succ k => simp [lowZeros]

theorem val_eq_zero_of_lowZeros_all (b : List Nat) (h : lowZeros b = b.length) : val b = 0 := by
  rw [val_drop_lowZeros b, h, List.drop_length]; simp [val]

theorem stripHigh_eq (a : List Nat) : stripHigh a = normalize a := by
  unfold stripHigh
  split
  · rfl
  · rename_i h; exact (normalize_of_getLast_ne h).symm

/-- `a - b` has sign `s` and, unless `s` is `NoSign`, magnitude `d`.  Proof-side relation (the model
    has no counterpart): it abstracts what `sub_sign` returns, on values. -/
def SignedDiff (s : Sign) (d a b : Nat) : Prop :=
  match s with
  | .plus => d + b = a
  | .minus => d + a = b
  | .nosign => a = b

/-- read as an integer: `(s, m)` denotes `a - b` -/
theorem SignedDiff.val_eq {s : Sign} {m : List Nat} {a b : Nat} (h : SignedDiff s (val m) a b) :
    BigInt.val ⟨s, m⟩ = (a : Int) - (b : Int) := by
  cases s <;> simp only [SignedDiff, BigInt.val] at h ⊢ <;> omega

/-- `(x1 - x0) * (y1 - y0) = (x1*y1 + x0*y0) - (x0*y1 + x1*y0)` with signs and magnitudes -/
theorem SignedDiff.mul {s0 s1 : Sign} {J0 J1 X0 X1 Y0 Y1 : Nat} (h0 : SignedDiff s0 J0 X1 X0)
    (h1 : SignedDiff s1 J1 Y1 Y0) :
    SignedDiff (s0.mul s1) (J0 * J1) (X1 * Y1 + X0 * Y0) (X0 * Y1 + X1 * Y0) := by
  cases s0 <;> cases s1 <;> simp only [SignedDiff, Sign.mul] at h0 h1 ⊢ <;> subst h0 h1 <;> ring

theorem subSign_spec (P : Params) (a b : List Nat) (ha : DigitsOk a) (hb : DigitsOk b) :
    ∃ s m, subSign P a b = .ok (s, m) ∧ BigInt.Canon ⟨s, m⟩ ∧
      SignedDiff s (val m) (val a) (val b) := by
  -- the smaller from the larger: `sub2` succeeds and leaves a non-zero canonical magnitude
  have sub : ∀ {a b : List Nat}, DigitsOk a → DigitsOk b → val a < val b →
      ∃ r, sub2 P (normalize b) (normalize a) = .ok r ∧ Canon (normalize r) ∧ normalize r ≠ [] ∧
        val (normalize r) + val a = val b := by
    intro a b ha hb h
    obtain ⟨r, r1, r2, -, r4⟩ := (sub2_spec P (normalize b) (normalize a) (normalize_canon hb).1
      (normalize_canon ha).1).2 (by rw [normalize_val, normalize_val]; omega)
    rw [normalize_val, normalize_val] at r2
    have hv : val (normalize r) + val a = val b := by rw [normalize_val, r2]; omega
    refine ⟨r, r1, normalize_canon r4, fun hm => ?_, hv⟩
    rw [hm] at hv; change 0 + val a = val b at hv; omega
  unfold subSign
  simp only [stripHigh_eq]
  rw [cmpSlice_spec (normalize_canon ha) (normalize_canon hb), normalize_val, normalize_val]
  rcases Nat.lt_trichotomy (val a) (val b) with h | h | h
  · obtain ⟨r, r1, c, hne, hv⟩ := sub ha hb h
    simp only [Nat.compare_eq_lt.mpr h, r1]
    exact ⟨_, _, rfl, ⟨c, iff_of_false nofun hne⟩, hv⟩
  · rw [Nat.compare_eq_eq.mpr h]
    exact ⟨_, _, rfl, ⟨canon_nil, iff_of_true rfl rfl⟩, h⟩
  · obtain ⟨r, r1, c, hne, hv⟩ := sub hb ha h
    simp only [Nat.compare_eq_gt.mpr h, r1]
    exact ⟨_, _, rfl, ⟨c, iff_of_false nofun hne⟩, hv⟩

/-- the magnitude `sub_sign` returns is no longer than the longer operand -/
theorem subSign_length_le {s : Sign} {m a b : List Nat} (c : BigInt.Canon ⟨s, m⟩)
    (h : SignedDiff s (val m) (val a) (val b)) (ha : DigitsOk a) (hb : DigitsOk b)
    (hl : b.length ≤ a.length) : m.length ≤ a.length := by
  have h1 := val_lt ha
  have h2 := Nat.lt_of_lt_of_le (val_lt hb) (B_pow_le_pow hl)
  have c1 : Canon m := c.1
  cases s with
  | minus =>
    have h : val m + val a = val b := h
    exact (canon_length_le_iff c1 _).mpr (by omega)
  | nosign =>
    have hm : m = [] := c.2.mp rfl
    rw [hm]; exact Nat.zero_le _
  | plus =>
    have h : val m + val b = val a := h
    exact (canon_length_le_iff c1 _).mpr (by omega)

/-- the `mul_with_carry` loop is the row loop of `mac_digit` over a zero accumulator, with the
    final carry pushed -/
theorem mulCarryLoop_eq (b : Nat) : ∀ (a : List Nat) (carry : Nat),
    mulCarryLoop b carry a = (macZip b carry (List.replicate a.length 0) a).1 ++
      (if (macZip b carry (List.replicate a.length 0) a).2 ≠ 0
        then [(macZip b carry (List.replicate a.length 0) a).2 % B] else [])
  | [], _ => rfl
  | x :: xs, carry => by rw [mulCarryLoop, mulCarryLoop_eq b xs]; rfl

theorem canon_of_lo_carry {lo : List Nat} {fc n v : Nat} (hlo : DigitsOk lo) (hl : lo.length = n)
    (hfc : fc < B) (hv : val lo + B ^ n * fc = v) (hge : 0 < n → B ^ (n - 1) ≤ v) :
    Canon (lo ++ (if fc ≠ 0 then [fc % B] else [])) ∧ val (lo ++ (if fc ≠ 0 then [fc % B] else [])) = v := by
  by_cases h0 : fc = 0
  · subst h0
    simp only [ne_eq, not_true_eq_false, if_false, List.append_nil]
    simp only [Nat.mul_zero, Nat.add_zero] at hv
    refine ⟨canon_of_val_ge hlo ?_, hv⟩
    intro hne
    have : 0 < n := by rw [← hl]; exact List.length_pos_iff.mpr hne
    rw [hl, hv]; exact hge this
  · simp only [ne_eq, h0, not_false_eq_true, if_true, Nat.mod_eq_of_lt hfc]
    refine ⟨canon_append_singleton hlo hfc h0, ?_⟩
    rw [val_append, hl]; simp only [val, Nat.mul_zero, Nat.add_zero]; exact hv

theorem trailingZeros_go_le : ∀ (f b : Nat), trailingZeros.go f b ≤ f := by
  intro f
  induction f with
  | zero => intro b; simp [trailingZeros.go]
  | succ k ih =>
    intro b
    simp only [trailingZeros.go]
    split
    · omega
    · have := ih (b / 2); omega

/-- the shift loop of `scalar_mul` computes what its `mul_with_carry` loop computes for `2^k`:
    the shifted-out bits are the carry, and `|` adds because the carry fits under the shifted digit -/
theorem shlLoop_eq (k : Nat) (hk : k < BITS) : ∀ (a : List Nat) (carry : Nat), DigitsOk a →
    carry < 2 ^ k → shlLoop k carry a = mulCarryLoop (2 ^ k) carry a := by
  have hB : B = 2 ^ (BITS - k) * 2 ^ k := B_split (Nat.le_of_lt hk)
  have hkB : 2 ^ k < B := by rw [B_eq]; exact Nat.pow_lt_pow_right Nat.one_lt_two hk
  intro a
  induction a with
  | nil => intro carry _ hc; rw [shlLoop, mulCarryLoop, Nat.mod_eq_of_lt (Nat.lt_trans hc hkB)]
  | cons x xs ih =>
    intro carry ha hc
    have hpos : 0 < 2 ^ k := Nat.pow_pos (by omega)
    -- the low part of `x * 2^k` is a multiple of `2^k` below `B`, so `carry` fits under it
    have hmod : x * 2 ^ k % B = x % 2 ^ (BITS - k) * 2 ^ k := by rw [hB, Nat.mul_mod_mul_right]
    have hlt : x * 2 ^ k % B + carry < B := by
      have h2 : (x % 2 ^ (BITS - k) + 1) * 2 ^ k ≤ 2 ^ (BITS - k) * 2 ^ k :=
        Nat.mul_le_mul_right _ (Nat.mod_lt _ (Nat.pow_pos (by omega)))
      rw [← hB, Nat.add_mul, ← hmod] at h2
      omega
    have hsplit : carry + x * 2 ^ k = x * 2 ^ k % B + carry + B * (x * 2 ^ k / B) := by
      rw [Nat.add_right_comm, Nat.mod_add_div, Nat.add_comm]
    have hdiv : x * 2 ^ k / B = x >>> (BITS - k) := by
      rw [Nat.shiftRight_eq_div_pow, hB, Nat.mul_div_mul_right _ _ hpos]
    have hq : x >>> (BITS - k) < 2 ^ k := by
      rw [Nat.shiftRight_eq_div_pow, Nat.div_lt_iff_lt_mul (Nat.pow_pos (by omega)), Nat.mul_comm,
        ← hB]
      exact ha.head
    rw [shlLoop, mulCarryLoop, ih _ ha.tail hq]
    rw [hsplit, Nat.add_mul_mod_self_left, Nat.mod_eq_of_lt hlt, Nat.add_mul_div_left _ _ B_pos,
      Nat.div_eq_of_lt hlt, Nat.zero_add, hdiv, Nat.shiftLeft_eq, hmod,
      ← Nat.shiftLeft_eq, ← Nat.shiftLeft_add_eq_or_of_lt hc]

/-- `scalar_mul` returns the canonical product (zero, one, power-of-two and general paths) -/
theorem scalarMul_spec (a : List Nat) (d : Nat) (ha : Canon a) (hd : d < B) :
    scalarMul a d = ofNat (val a * d) := by
  have key : Canon (scalarMul a d) ∧ val (scalarMul a d) = val a * d := by
    unfold scalarMul
    by_cases h0 : d = 0
    · simp [h0, canon_nil, val]
    · simp only [h0, if_false]
      by_cases h1 : d = 1
      · simp [h1, ha]
      · simp only [h1, if_false]
        have hloop : Canon (mulCarryLoop d 0 a) ∧ val (mulCarryLoop d 0 a) = val a * d := by
          have hge : 0 < a.length → B ^ (a.length - 1) ≤ val a * d := fun hpos =>
            Nat.le_trans (canon_val_ge ha (List.ne_nil_of_length_pos hpos))
              (Nat.le_mul_of_pos_right _ (Nat.pos_of_ne_zero h0))
          obtain ⟨z1, z2, z3, z4⟩ := macZip_spec d hd (List.replicate a.length 0) a 0
            List.length_replicate (digitsOk_replicate_zero _) ha.1 B_pos
          rw [List.length_replicate, val_replicate_zero, Nat.zero_add, Nat.add_zero] at z1
          rw [List.length_replicate] at z2
          rw [mulCarryLoop_eq]
          exact canon_of_lo_carry z3 z2 z4 z1 hge
        by_cases hp : isPow2 d = true
        · simp only [hp, if_true]
          unfold shlBits
          by_cases hane : a = []
          · simp [hane, canon_nil, val]
          · have hdk : d = 2 ^ trailingZeros d := by
              unfold isPow2 at hp
              simp only [Bool.and_eq_true, bne_iff_ne, beq_iff_eq] at hp
              exact hp.2
            have hk0 : 0 < trailingZeros d := by
              rcases Nat.eq_zero_or_pos (trailingZeros d) with hz | hz
              · rw [hz] at hdk; simp at hdk; omega
              · exact hz
            have hk : trailingZeros d < BITS := by
              have : 2 ^ trailingZeros d < 2 ^ 64 := by rw [← hdk, ← B_eq]; exact hd
              exact (Nat.pow_lt_pow_iff_right (by omega)).mp this
            simp only [hane, if_false, hk0, if_true]
            rw [shlLoop_eq _ hk a 0 ha.1 (Nat.pow_pos (by omega)), ← hdk,
              normalize_of_canon hloop.1]
            exact hloop
        · simp only [hp]
          exact hloop
  rw [canon_eq_ofNat key.1, key.2]

end NB.Mul
