/- helper lemmas for the digit-level layer of C12 (NB.Model.PowD): every digit-level function equals the
   value-level function of NB.Model.Pow on the values, mapped back through `ofNat` / `BigInt.ofInt`. -/
import NB.Lemmas.DigitOps
import NB.Model.PowD
import NB.Lemmas.Pow
import NB.Lemmas.Gcd
import NB.Lemmas.Convert
namespace NB.PowD
open NB.Pow (Form powFuel)

variable (P : Params)

theorem one_eq : one = ofNat 1 := ofNat_one.symm

theorem sqLoop_ofNat (hP : P.ValidMul) : ∀ (fuel b e : Nat),
    sqLoop P fuel (ofNat b) e = (NB.Pow.sqLoop fuel b e).map (fun p => (ofNat p.1, p.2)) := by
  intro fuel
  induction fuel with
  | zero => intro b e; rfl
  | succ fuel ih =>
    intro b e
    unfold sqLoop NB.Pow.sqLoop
    by_cases h : e &&& 1 = 0
    · simp only [h, if_true, mulRef_ofNat P hP]
      exact ih _ _
    · simp only [h, if_false]; rfl

theorem accLoop_ofNat (hP : P.ValidMul) : ∀ (fuel b e acc : Nat),
    accLoop P fuel (ofNat b) e (ofNat acc) = (NB.Pow.accLoop fuel b e acc).map ofNat := by
  intro fuel
  induction fuel with
  | zero => intro b e acc; rfl
  | succ fuel ih =>
    intro b e acc
    unfold accLoop NB.Pow.accLoop
    by_cases h : e > 1
    · simp only [h, if_true, mulRef_ofNat P hP]
      by_cases hb : e >>> 1 &&& 1 = 1
      · simp only [hb, if_true, mulAssign_ofNat P hP]
        exact ih _ _ _
      · simp only [hb, if_false]
        exact ih _ _ _
    · simp only [h, if_false]; rfl

theorem powVV_ofNat (hP : P.ValidMul) (x e : Nat) :
    powVV P (ofNat x) e = (NB.Pow.powVV x e).map ofNat := by
  unfold powVV NB.Pow.powVV
  by_cases h0 : e = 0
  · simp only [h0, if_true, one_eq]; rfl
  · simp only [h0, if_false, sqLoop_ofNat P hP]
    cases NB.Pow.sqLoop (powFuel e) x e with
    | error p => rfl
    | ok r =>
      obtain ⟨base, exp⟩ := r
      simp only [Except.map]
      by_cases h1 : exp = 1
      · simp [h1]
      · simp only [h1, if_false]
        exact accLoop_ofNat P hP _ _ _ _

theorem powPrim_ofNat (hP : P.ValidMul) (f : Form) (x e : Nat) :
    powPrim P f (ofNat x) e = (NB.Pow.powPrim f x e).map ofNat := by
  have hrv : powRV P (ofNat x) e = (NB.Pow.powRV x e).map ofNat := by
    unfold powRV NB.Pow.powRV
    exact ite_map (fun _ => by rw [one_eq]; rfl) fun _ => powVV_ofNat P hP x e
  cases f
  · exact powVV_ofNat P hP x e
  · exact powVV_ofNat P hP x e
  · exact hrv
  · exact hrv

theorem powBigVR_ofNat (hP : P.ValidMul) (x e : Nat) :
    powBigVR P (ofNat x) (ofNat e) = (NB.Pow.powBigVR x e).map ofNat := by
  have hBB : B * B = 2 ^ 128 := by decide
  unfold powBigVR NB.Pow.powBigVR
  simp only [ofNat_eq_one_iff, ofNat_eq_nil_iff, NB.Conv.toU64_spec (ofNat_canon e), NB.Conv.toU128_spec (ofNat_canon e),
    ofNat_val, ← B_eq, ← hBB]
  refine ite_map (fun _ => by rw [one_eq]; rfl) fun _ =>
    ite_map (fun _ => by rw [← ofNat_zero]; rfl) fun _ => ?_
  by_cases h3 : e < B
  · rw [if_pos h3, if_pos h3]; exact powVV_ofNat P hP x e
  rw [if_neg h3, if_neg h3]
  by_cases h4 : e < B * B
  · rw [if_pos h4, if_pos h4]; exact powVV_ofNat P hP x e
  · rw [if_neg h4, if_neg h4]; rfl

theorem powBig_ofNat (hP : P.ValidMul) (f : Form) (x e : Nat) :
    powBig P f (ofNat x) (ofNat e) = (NB.Pow.powBig f x e).map ofNat := by
  have hrr : powBigRR P (ofNat x) (ofNat e) = (NB.Pow.powBigRR x e).map ofNat := by
    unfold powBigRR NB.Pow.powBigRR
    simp only [ofNat_eq_one_iff, ofNat_eq_nil_iff]
    exact ite_map (fun _ => by rw [one_eq]; rfl) fun _ =>
      ite_map (fun _ => by rw [← ofNat_zero]; rfl) fun _ => powBigVR_ofNat P hP x e
  cases f
  · exact powBigVR_ofNat P hP x e
  · exact powBigVR_ofNat P hP x e
  · exact hrr
  · exact hrr

theorem ofInt_sign (x : Int) : (BigInt.ofInt x).sign = NB.IntVal.signOf x := by
  unfold BigInt.ofInt NB.IntVal.signOf
  by_cases h1 : x < 0
  · simp [h1]
  · by_cases h2 : x = 0 <;> simp [h1, h2]

theorem fromBiguint_ofNat_intVal (s : Sign) (m : Nat) :
    BigInt.fromBiguint s (ofNat m) = BigInt.ofInt (NB.IntVal.fromBiguint s m) := by
  cases s
  · exact fromBiguint_ofNat_minus m
  · exact fromBiguint_nosign _
  · exact fromBiguint_ofNat_plus m

theorem powsign_eq (s : Sign) (e : Nat) : powsign s e = NB.Pow.powsign s e := by
  unfold powsign powsignOf NB.Pow.powsign
  by_cases h0 : e = 0
  · simp [h0]
  · by_cases h1 : e % 2 = 1 <;> simp [h0, h1]

theorem powsignBig_eq (s : Sign) (e : Nat) : powsignBig s (ofNat e) = NB.Pow.powsign s e := by
  rw [← powsign_eq]
  unfold powsignBig powsign
  rw [NB.Gcd.isOdd_ok, ofNat_val, decide_eq_decide.mpr (ofNat_eq_nil_iff e)]

theorem bigintPow_ofInt (hP : P.ValidMul) (f : Form) (x : Int) (e : Nat) :
    bigintPow P f (BigInt.ofInt x) e = (NB.Pow.bigintPow f x e).map BigInt.ofInt := by
  unfold bigintPow NB.Pow.bigintPow
  simp only [ofInt_mag, ofInt_sign, powsign_eq, powPrim_ofNat P hP]
  cases NB.Pow.powPrim f x.natAbs e with
  | error p => rfl
  | ok m => simp only [Except.map, fromBiguint_ofNat_intVal]

theorem bigintPowBig_ofInt (hP : P.ValidMul) (f : Form) (x : Int) (e : Nat) :
    bigintPowBig P f (BigInt.ofInt x) (ofNat e) = (NB.Pow.bigintPowBig f x e).map BigInt.ofInt := by
  unfold bigintPowBig NB.Pow.bigintPowBig
  simp only [ofInt_mag, ofInt_sign, powsignBig_eq, powBig_ofNat P hP]
  cases NB.Pow.powBig f x.natAbs e with
  | error p => rfl
  | ok m => simp only [Except.map, fromBiguint_ofNat_intVal]

end NB.PowD
