/-
  Lemmas about NB.Model.Div (src/biguint/division.rs): the `div_wide` digit loops, the offset-carry
  `sub_mul_digit_same_len`, the normalising shifts, and Knuth's algorithm D as `div_rem_core` runs it.
  Digit lists are little-endian with digits `< B`; `val` is their value.  In the Knuth lemmas `V` is the
  divisor, `W` the current window with the extra top digit `a0`, `P = B^(n-2)`, and `top2 = b1 + B·b0`,
  `top3 = a2 + B·(a1 + B·a0)` are the leading digits the estimate looks at.  Every `.internal` outcome of the
  model (debug assertion, `u128`/`u64` wrap, `#DE`) is shown unreachable on the way.
-/
import NB.Model.Div
import NB.Lemmas.Shift
import NB.Props.C01
namespace NB

theorem divWide_ok {hi lo d : Nat} (h : hi < d) :
    divWide hi lo d = .ok ((hi * B + lo) / d, (hi * B + lo) % d) := by
  simp [divWide, h]

theorem divWide_quot_lt {hi lo d : Nat} (h : hi < d) (hlo : lo < B) : (hi * B + lo) / d < B :=
  Nat.div_lt_of_lt_mul (by rw [Nat.mul_comm]; exact Nat.mul_add_lt_mul_of_lt_of_lt h hlo)

/-- the single-digit loop: exact quotient digits and remainder, `rem < b` is the loop
    invariant, hence `div_wide` never faults -/
theorem divRemDigitLoop_spec (b : Nat) (hb : 0 < b) : ∀ (a : List Nat), DigitsOk a →
    ∃ qs r, divRemDigitLoop b a = .ok (qs, r) ∧ val qs * b + r = val a ∧ r < b ∧
      qs.length = a.length ∧ DigitsOk qs := by
  intro a
  induction a with
  | nil => intro _; exact ⟨[], 0, rfl, by simp [val], hb, rfl, DigitsOk.nil⟩
  | cons d ds ih =>
    intro ha
    obtain ⟨qs, r, h1, h2, h3, h4, h5⟩ := ih ha.tail
    refine ⟨(r * B + d) / b :: qs, (r * B + d) % b, ?_, ?_, Nat.mod_lt _ hb, congrArg (· + 1) h4,
      DigitsOk.cons (divWide_quot_lt h3 ha.head) h5⟩
    · simp only [divRemDigitLoop, h1, divWide_ok h3]
    · calc ((r * B + d) / b + B * val qs) * b + (r * B + d) % b
          = (b * ((r * B + d) / b) + (r * B + d) % b) + B * (val qs * b) := by ring
        _ = d + B * (val qs * b + r) := by rw [Nat.div_add_mod]; ring
        _ = val (d :: ds) := by rw [h2]; rfl

theorem remDigitLoop_eq (b : Nat) : ∀ a : List Nat,
    remDigitLoop b a = (divRemDigitLoop b a).map (·.2) := by
  intro a
  induction a with
  | nil => rfl
  | cons d ds ih =>
    simp only [remDigitLoop, divRemDigitLoop, ih]
    cases h : divRemDigitLoop b ds with
    | error e => rfl
    | ok p =>
      obtain ⟨qs, rem⟩ := p
      simp only [Except.map]
      cases h2 : divWide rem d b with
      | error e => rfl
      | ok p2 => rfl

theorem div_mod_of_eq {n b q r : Nat} (h : q * b + r = n) (hr : r < b) : n / b = q ∧ n % b = r := by
  have hb : 0 < b := by omega
  subst h
  constructor
  · rw [Nat.add_comm, Nat.add_mul_div_right _ _ hb, Nat.div_eq_of_lt hr, Nat.zero_add]
  · rw [Nat.add_comm, Nat.add_mul_mod_self_right, Nat.mod_eq_of_lt hr]

theorem divRemDigit_spec' (a : List Nat) (b : Nat) (ha : DigitsOk a) (hb : b ≠ 0) :
    divRemDigit a b = .ok (ofNat (val a / b), val a % b) := by
  obtain ⟨qs, r, h1, h2, h3, _, h5⟩ := divRemDigitLoop_spec b (Nat.pos_of_ne_zero hb) a ha
  obtain ⟨e1, e2⟩ := div_mod_of_eq h2 h3
  simp only [divRemDigit, hb, if_false, h1]
  rw [canon_eq_ofNat (normalize_canon h5), normalize_val, e1, e2]

theorem remDigit_spec' (a : List Nat) (b : Nat) (ha : DigitsOk a) (hb : b ≠ 0) :
    remDigit a b = .ok (val a % b) := by
  obtain ⟨qs, r, h1, h2, h3, _, _⟩ := divRemDigitLoop_spec b (Nat.pos_of_ne_zero hb) a ha
  obtain ⟨_, e2⟩ := div_mod_of_eq h2 h3
  simp only [remDigit, hb, if_false, remDigitLoop_eq, h1, Except.map, e2]

theorem MAXD_succ : MAXD + 1 = B := by decide

/-- one digit of the offset-carry multiply-subtract: no `u128` wrap, and with
    `borrow = MAX - offset_carry` it is the exact digit equation
    `x' + y*c + borrow = x + B*borrow'` (stated additively) -/
theorem subMulStep_spec {x y c oc : Nat} (hx : x < B) (hy : y < B) (hc : c < B) (hoc : oc < B) :
    ∃ oc' x', subMulStep x y c oc = .ok (oc', x') ∧
      x' + B * oc' + y * c + MAXD = MAXD * B + x + oc ∧ x' < B ∧ oc' < B := by
  have hM := MAXD_succ
  have hMB : MAXD * B = MAXD * MAXD + MAXD := by rw [← hM, Nat.mul_succ]
  have hBB : B * B = MAXD * MAXD + MAXD + MAXD + 1 := by rw [← hM]; ring
  -- the `u128` value before `y * c` is taken off is `T = MAX² + x + oc`, and `y·c ≤ MAX² ≤ T < B²`
  have e : MAXD * B + x - MAXD + oc = MAXD * MAXD + x + oc := by
    rw [hMB, Nat.add_right_comm, Nat.add_sub_cancel]
  have hyc : y * c ≤ MAXD * MAXD + x + oc :=
    Nat.le_trans (Nat.mul_le_mul (by omega) (by omega))
      (Nat.le_trans (Nat.le_add_right _ x) (Nat.le_add_right _ oc))
  have hT : MAXD * MAXD + x + oc < B * B := by omega
  have h0 : ¬ (MAXD * B + x < MAXD) :=
    Nat.not_lt.mpr (Nat.le_trans (Nat.le_mul_of_pos_right MAXD B_pos) (Nat.le_add_right _ _))
  have h2 : ¬ (B * B ≤ y * c) := Nat.not_le.mpr (Nat.mul_lt_mul'' hy hc)
  refine ⟨(MAXD * MAXD + x + oc - y * c) / B, (MAXD * MAXD + x + oc - y * c) % B, ?_, ?_,
    Nat.mod_lt _ B_pos, Nat.div_lt_of_lt_mul (Nat.lt_of_le_of_lt (Nat.sub_le _ _) hT)⟩
  · simp only [subMulStep, e, h0, h2, Nat.not_le.mpr hT, Nat.not_lt.mpr hyc, U128, if_false]
  · rw [Nat.mod_add_div, Nat.sub_add_cancel hyc, hMB]; omega

/-- `s + B·l`: the digit equation of one step plus `B` times the equation of the tail -/
theorem subMul_cons_arith {x x' y c oc oc' M R A vb P ocf : Nat}
    (s : x' + B * oc' + y * c + M = M * B + x + oc)
    (l : R + c * vb + M + P * ocf = A + oc' + P * M) :
    (x' + B * R) + c * (y + B * vb) + M + P * B * ocf = (x + B * A) + oc + P * B * M := by
  apply Nat.add_right_cancel (m := B * oc' + B * M)
  calc _ = (x' + B * oc' + y * c + M) + B * (R + c * vb + M + P * ocf) := by ring
    _ = (M * B + x + oc) + B * (A + oc' + P * M) := by rw [s, l]
    _ = _ := by ring

theorem subMulLoop_spec (c : Nat) (hc : c < B) : ∀ (a b : List Nat) (oc : Nat), a.length = b.length →
    DigitsOk a → DigitsOk b → oc < B →
    ∃ r ocf, subMulLoop c oc a b = .ok (r, ocf) ∧
      val r + c * val b + MAXD + B ^ a.length * ocf = val a + oc + B ^ a.length * MAXD ∧
      ocf < B ∧ r.length = a.length ∧ DigitsOk r := by
  intro a
  induction a with
  | nil =>
    intro b oc hl _ _ hoc
    cases b with
    | nil => exact ⟨[], oc, rfl, by simp only [val, List.length_nil, pow_zero]; omega, hoc, rfl, DigitsOk.nil⟩
    | cons _ _ => simp at hl
  | cons x xs ih =>
    intro b oc hl ha hb hoc
    cases b with
    | nil => simp at hl
    | cons y ys =>
      obtain ⟨oc', x', s1, s2, s3, s4⟩ := subMulStep_spec ha.head hb.head hc hoc
      obtain ⟨r, ocf, l1, l2, l3, l4, l5⟩ :=
        ih ys oc' (Nat.succ.inj hl) ha.tail hb.tail s4
      refine ⟨x' :: r, ocf, ?_, ?_, l3, congrArg (· + 1) l4, DigitsOk.cons s3 l5⟩
      · simp only [subMulLoop, s1, l1]
      · simp only [val, List.length_cons, pow_succ]
        exact subMul_cons_arith s2 l2

/-- `sub_mul_digit_same_len`: `a' + c*b = a + borrow*B^n`, `borrow < B`; no `u128`/`u64`
    under- or overflow is reachable -/
theorem subMul_spec (a b : List Nat) (c : Nat) (hl : a.length = b.length) (ha : DigitsOk a)
    (hb : DigitsOk b) (hc : c < B) :
    ∃ r borrow, subMulDigitSameLen a b c = .ok (r, borrow) ∧
      val r + c * val b = val a + borrow * B ^ a.length ∧ borrow < B ∧
      r.length = a.length ∧ DigitsOk r := by
  have hM : MAXD < B := MAXD_succ ▸ Nat.lt_succ_self MAXD
  obtain ⟨r, ocf, l1, l2, l3, l4, l5⟩ := subMulLoop_spec c hc a b MAXD hl ha hb hM
  have hle : ocf ≤ MAXD := Nat.le_of_lt_succ (show ocf < MAXD + 1 from MAXD_succ ▸ l3)
  refine ⟨r, MAXD - ocf, ?_, ?_, Nat.lt_of_le_of_lt (Nat.sub_le _ _) hM, l4, l5⟩
  · simp only [subMulDigitSameLen, hl, l1, Nat.not_lt.mpr hle, ne_eq, not_true_eq_false, if_false]
  · have : (MAXD - ocf) * B ^ a.length + B ^ a.length * ocf = B ^ a.length * MAXD := by
      rw [Nat.mul_comm (MAXD - ocf), ← Nat.mul_add, Nat.sub_add_cancel hle]
    omega

theorem fromDigit_eq {d : Nat} (h : d < B) : fromDigit d = ofNat d := by
  unfold fromDigit
  by_cases h0 : d = 0
  · simp [h0, ofNat_zero]
  · simp [h0, ofNat_digit h0 h]

/-- `biguint_shl2`'s loop as transcribed here pushes the final carry itself; NB.C07 returns it -/
theorem shlLoop_eq (s : Nat) : ∀ (l : List Nat) (c : Nat), shlLoop s c l =
    if (C07.shlLoop s c l).2 ≠ 0 then (C07.shlLoop s c l).1 ++ [(C07.shlLoop s c l).2]
    else (C07.shlLoop s c l).1
  | [], c => rfl
  | e :: es, c => by
    simp only [shlLoop, C07.shlLoop, shlLoop_eq s es, show DIVBITS = C07.BITS from rfl]
    exact apply_ite (List.cons _) _ _ _

theorem shrLoop_eq (s : Nat) : ∀ l : List Nat, shrLoop s l = C07.shrLoop s l
  | [] => rfl
  | e :: es => by simp only [shrLoop, C07.shrLoop, shrLoop_eq s es]; rfl

/-- `biguint_shl` by fewer than `DIVBITS` bits: exact, canonical -/
theorem shlBig_spec (n : List Nat) (s : Nat) (hn : DigitsOk n) (hs : s < DIVBITS) :
    shlBig n s = ofNat (val n * 2 ^ s) := by
  by_cases h0 : n = []
  · subst h0; simp [shlBig, val, ofNat_zero]
  · obtain ⟨hv, hC⟩ := C07.shl2_spec n 0 s hn hs
    have : shlBig n s = C07.biguintShl2 n 0 s := by
      simp only [shlBig, h0, if_false, Nat.div_eq_of_lt hs, Nat.mod_eq_of_lt hs, C07.biguintShl2,
        shlLoop_eq, List.replicate_zero, List.nil_append, List.drop_zero, List.take_zero, if_true]
    rw [this, canon_eq_ofNat hC, hv, Nat.mul_zero, Nat.zero_add]

/-- `biguint_shr` by fewer than `DIVBITS` bits: exact floor, canonical -/
theorem shrBig_spec (n : List Nat) (s : Nat) (hn : DigitsOk n) (hs : s < DIVBITS) :
    shrBig n s = ofNat (val n / 2 ^ s) := by
  by_cases h0 : n = []
  · subst h0; simp [shrBig, val, ofNat_zero]
  · obtain ⟨hv, hC⟩ := C07.shr2_spec n 0 s hn hs
    have : shrBig n s = C07.biguintShr2 n 0 s := by
      have hlen : ¬ (0 ≥ n.length) := fun h => h0 (List.length_eq_zero_iff.mp (Nat.le_zero.mp h))
      simp only [shrBig, h0, hlen, if_false, Nat.div_eq_of_lt hs, Nat.mod_eq_of_lt hs, C07.biguintShr2,
        shrLoop_eq, List.drop_zero]
    rw [this, canon_eq_ofNat hC, hv, Nat.mul_zero, Nat.zero_add]

/-- `leading_zeros` of a non-zero digit: the normalising shift -/
theorem leadingZeros_spec {d : Nat} (h0 : d ≠ 0) (hd : d < B) :
    leadingZeros d < DIVBITS ∧ B / 2 ≤ d * 2 ^ leadingZeros d ∧ d * 2 ^ leadingZeros d < B := by
  have hlog : d.log2 < 64 := (Nat.log2_lt h0).mpr (by rw [← B_eq]; exact hd)
  have hlo := Nat.log2_self_le h0
  have hhi := Nat.lt_log2_self (n := d)
  have hlz : leadingZeros d = 63 - d.log2 := by simp [leadingZeros, h0, DIVBITS]
  rw [hlz]
  refine ⟨by simp [DIVBITS]; omega, ?_, ?_⟩
  · have : B / 2 = 2 ^ d.log2 * 2 ^ (63 - d.log2) := by
      rw [← pow_add, show d.log2 + (63 - d.log2) = 63 by omega]; decide
    rw [this]; exact Nat.mul_le_mul_right _ hlo
  · have : B = 2 ^ (d.log2 + 1) * 2 ^ (63 - d.log2) := by
      rw [← pow_add, show d.log2 + 1 + (63 - d.log2) = 64 by omega]; decide
    rw [this]; exact Nat.mul_lt_mul_of_pos_right hhi (Nat.pow_pos (by decide))

theorem leadingZeros_zero_iff {d : Nat} (h0 : d ≠ 0) (hd : d < B) : leadingZeros d = 0 ↔ B / 2 ≤ d := by
  obtain ⟨_, h2, h3⟩ := leadingZeros_spec h0 hd
  constructor
  · intro h; rw [h] at h2; simpa using h2
  · intro h
    by_contra hne
    have : 2 ≤ 2 ^ leadingZeros d := by
      calc 2 = 2 ^ 1 := rfl
        _ ≤ 2 ^ leadingZeros d := Nat.pow_le_pow_right (by decide) (by omega)
    have : d * 2 ≤ d * 2 ^ leadingZeros d := Nat.mul_le_mul_left _ this
    have : B / 2 * 2 = B := by decide
    omega

/-- the true quotient digit never exceeds what the top three / top two digits allow -/
theorem knuth_q_top {q V W P T2 T3 bl wl : Nat} (hV : V = bl + P * T2) (hW : W = wl + P * T3)
    (hwl : wl < P) (hq : q * V ≤ W) : q * T2 ≤ T3 := by
  have h1 : q * (P * T2) ≤ q * V := Nat.mul_le_mul_left q (by omega)
  have h2 : P * (q * T2) < P * (T3 + 1) := by
    have : P * (q * T2) = q * (P * T2) := by ring
    rw [this, Nat.mul_add]; omega
  have := Nat.lt_of_mul_lt_mul_left h2
  omega

/-- `q̂ ≤ q + 1` once `q̂·top2(b) ≤ top3(window)`; only `b0 ≥ 1` and `q̂ < B` are needed -/
theorem knuth_qhat_le {qh V W P T3 bl wl b0 b1 : Nat} (hV : V = bl + P * (b1 + B * b0))
    (hW : W = wl + P * T3) (hbl : bl < P) (hb0 : 1 ≤ b0) (hqh : qh < B) (hVpos : 0 < V)
    (h : qh * (b1 + B * b0) ≤ T3) : qh ≤ W / V + 1 := by
  cases qh with
  | zero => exact Nat.zero_le _
  | succ k =>
    refine Nat.succ_le_succ ((Nat.le_div_iff_mul_le hVpos).mpr ?_)
    -- `k·V ≤ k·P + k·P·top2 ≤ P·(k+1)·top2 ≤ P·T3`, as `k < B ≤ top2`
    have hk : k ≤ b1 + B * b0 :=
      Nat.le_trans (Nat.le_of_lt (Nat.lt_of_succ_lt hqh))
        (Nat.le_trans (Nat.le_mul_of_pos_right B hb0) (Nat.le_add_left _ _))
    calc k * V ≤ k * (P + P * (b1 + B * b0)) :=
          hV ▸ Nat.mul_le_mul_left k (Nat.add_le_add_right (Nat.le_of_lt hbl) _)
      _ = P * k + P * (k * (b1 + B * b0)) := by ring
      _ ≤ P * (b1 + B * b0) + P * (k * (b1 + B * b0)) :=
          Nat.add_le_add_right (Nat.mul_le_mul_left P hk) _
      _ = P * ((k + 1) * (b1 + B * b0)) := by ring
      _ ≤ P * T3 := Nat.mul_le_mul_left P h
      _ ≤ W := hW ▸ Nat.le_add_left _ _

/-- window bound `W < V·B` forces `a0 ≤ b0` -/
theorem knuth_a0_le {V W P bl wl a0 a1 a2 b0 b1 : Nat} (hV : V = bl + P * (b1 + B * b0))
    (hW : W = wl + P * (a2 + B * (a1 + B * a0))) (hbl : bl < P) (hb1 : b1 < B)
    (hWV : W < V * B) : a0 ≤ b0 := by
  refine Nat.le_of_not_lt fun hlt => Nat.lt_asymm hWV ?_
  -- `V < P·(top2 + 1)`, `top2 + 1 ≤ B·(b0 + 1) ≤ B·a0`, and `P·B·B·a0 ≤ P·top3 ≤ W`
  have hT : b1 + B * b0 + 1 ≤ B * a0 := by
    refine Nat.le_trans ?_ (Nat.mul_le_mul_left B hlt)
    rw [Nat.mul_succ, Nat.add_right_comm, Nat.add_comm]
    exact Nat.add_le_add_left hb1 _
  calc V * B < P * (b1 + B * b0 + 1) * B :=
        Nat.mul_lt_mul_of_pos_right (by rw [hV, Nat.mul_succ, Nat.add_comm]; exact Nat.add_lt_add_left hbl _) B_pos
    _ ≤ P * (B * a0) * B := Nat.mul_le_mul_right _ (Nat.mul_le_mul_left _ hT)
    _ = P * (B * (B * a0)) := by ring
    _ ≤ P * (a2 + B * (a1 + B * a0)) := Nat.mul_le_mul_left _
        (Nat.le_trans (Nat.mul_le_mul_left B (Nat.le_add_left _ a1)) (Nat.le_add_left _ a2))
    _ ≤ W := hW ▸ Nat.le_add_left _ _

/-- 2-by-1 estimate is an upper bound of anything bounded by top3/top2 -/
theorem knuth_est_ge {q a0 a1 a2 b0 b1 : Nat} (ha2 : a2 < B)
    (h : q * (b1 + B * b0) ≤ a2 + B * (a1 + B * a0)) : q * b0 ≤ a1 + B * a0 := by
  have h1 : B * (q * b0) ≤ q * (b1 + B * b0) := by rw [Nat.mul_add, Nat.mul_left_comm]; omega
  have h2 : B * (q * b0) < B * (a1 + B * a0 + 1) := by rw [Nat.mul_succ]; omega
  exact Nat.le_of_lt_succ (Nat.lt_of_mul_lt_mul_left h2)

/-- with `r + q̂·b0 = [a0,a1]`, the loop test `[r,a2] < q̂·b1` says exactly `q̂·top2 > top3` -/
theorem corr_test {qh r b0 b1 a2 A : Nat} (h : r + qh * b0 = A) :
    qh * (b1 + B * b0) ≤ a2 + B * A ↔ qh * b1 ≤ r * B + a2 := by
  have : qh * (b1 + B * b0) + r * B = qh * b1 + B * A := by rw [← h]; ring
  omega

/-- the 3-by-2 loop keeps every lower bound `q` (with `q·top2 ≤ top3`) and ends with
    `q̂·top2 ≤ top3`; `r + q̂·b0 = [a0,a1]` is the loop invariant -/
theorem corrLoop_spec {b0 b1 a0 a1 a2 q : Nat} (hb1 : b1 < B)
    (hq : q * (b1 + B * b0) ≤ a2 + B * (a1 + B * a0)) :
    ∀ (qh r : Nat), r + qh * b0 = a1 + B * a0 → q ≤ qh → qh < B →
      q ≤ (corrLoop b0 b1 a2 qh r).1 ∧ (corrLoop b0 b1 a2 qh r).1 ≤ qh ∧
      (corrLoop b0 b1 a2 qh r).1 * (b1 + B * b0) ≤ a2 + B * (a1 + B * a0) := by
  intro qh
  induction qh with
  | zero => intro r _ hle _; exact ⟨hle, Nat.le_refl _, by simp [corrLoop]⟩
  | succ k ih =>
    intro r hinv hle hlt
    have htest := corr_test (b1 := b1) (a2 := a2) hinv
    simp only [corrLoop]
    split
    · rename_i hc
      -- the estimate is too large: (k+1)·top2 > top3 ≥ q·top2, so q ≤ k
      have hqk : q ≤ k := by
        refine Nat.le_of_lt_succ (Nat.lt_of_not_le fun h => ?_)
        exact Nat.not_le.mpr hc.2 (htest.mp (Nat.le_trans (Nat.mul_le_mul_right _ h) hq))
      obtain ⟨i1, i2, i3⟩ := ih (r + b0)
        (by rw [← hinv, Nat.succ_mul, Nat.add_assoc, Nat.add_comm b0]) hqk (Nat.lt_of_succ_lt hlt)
      exact ⟨i1, Nat.le_succ_of_le i2, i3⟩
    · rename_i hc
      refine ⟨hle, Nat.le_refl _, htest.mpr ?_⟩
      by_cases hr : r ≤ MAXD
      · exact Nat.le_of_not_lt fun h => hc ⟨hr, h⟩
      · -- `r ≥ B`: the `u128` on the left would not even fit
        have hrB : B ≤ r := MAXD_succ ▸ Nat.lt_of_not_le hr
        exact Nat.le_trans (Nat.mul_le_mul (Nat.le_of_lt hlt) (Nat.le_of_lt hb1))
          (Nat.le_trans (Nat.mul_le_mul_right B hrB) (Nat.le_add_right _ _))

/-- the first (2-by-1) estimate: never below the true digit, `< B`, and `r = [a0,a1] - q̂·b0`;
    `div_wide` does not fault and the `a0 == b0` assertion holds -/
theorem estimate_spec {a0 a1 a2 b0 b1 q : Nat} (ha1 : a1 < B) (ha2 : a2 < B) (ha0 : a0 ≤ b0)
    (hq : q * (b1 + B * b0) ≤ a2 + B * (a1 + B * a0)) (hqB : q < B) :
    ∃ qh r, estimate a0 a1 b0 = .ok (qh, r) ∧ r + qh * b0 = a1 + B * a0 ∧ q ≤ qh ∧ qh < B := by
  have hest := knuth_est_ge ha2 hq
  unfold estimate
  rcases Nat.lt_or_eq_of_le ha0 with hlt | rfl
  · rw [if_pos hlt, divWide_ok hlt]
    refine ⟨_, _, rfl, ?_, ?_, divWide_quot_lt hlt ha1⟩
    · rw [Nat.mul_comm _ b0, Nat.mod_add_div, Nat.mul_comm, Nat.add_comm]
    · rw [Nat.le_div_iff_mul_le (Nat.zero_lt_of_lt hlt), Nat.mul_comm a0, Nat.add_comm]
      exact hest
  · rw [if_neg (Nat.lt_irrefl _), if_neg (not_not.mpr rfl)]
    have hM := MAXD_succ
    refine ⟨_, _, rfl, ?_, by omega, by omega⟩
    rw [← hM, Nat.succ_mul]; omega

theorem two_digit_unique {x y a b Pn : Nat} (h : x + a * Pn = y + b * Pn) (hx : x < Pn) (hy : y < Pn) :
    x = y ∧ a = b := by
  have h1 := div_mod_of_eq (Nat.add_comm (a * Pn) x) hx
  have h2 := div_mod_of_eq ((Nat.add_comm (b * Pn) y).trans h.symm) hy
  exact ⟨h1.2.symm.trans h2.2, h1.1.symm.trans h2.1⟩

/-- arithmetic of the multiply-subtract / add-back decision: with `q ≤ q̂ ≤ q+1`,
    either `q̂ = q`, the borrow equals `a0` and nothing is added back, or `q̂ = q+1`, the borrow
    is `a0 + 1`, and adding `b` back produces carry 1 -/
theorem addback_arith {V Pn vw a0 q R qh v1 borrow : Nat}
    (hdm : q * V + R = vw + a0 * Pn) (hR : R < V) (hVP : V < Pn) (hv1 : v1 < Pn)
    (hsm : v1 + qh * V = vw + borrow * Pn) (hcase : qh = q ∨ qh = q + 1) :
    (qh = q ∧ borrow = a0 ∧ v1 = R) ∨
    (qh = q + 1 ∧ a0 < borrow ∧ ∀ v2 carry, v2 < Pn → carry ≤ 1 → v2 + Pn * carry = v1 + V →
        carry = 1 ∧ borrow = a0 + 1 ∧ v2 = R) := by
  have hRP : R < Pn := Nat.lt_trans hR hVP
  rcases hcase with rfl | rfl
  · -- `v1 + a0·Pn = R + borrow·Pn` with both low parts below `Pn`
    obtain ⟨e1, e2⟩ := two_digit_unique (show v1 + a0 * Pn = R + borrow * Pn by omega) hv1 hRP
    exact .inl ⟨rfl, e2.symm, e1⟩
  · -- `(v1 + V) + a0·Pn = R + borrow·Pn`
    have h : v1 + V + a0 * Pn = R + borrow * Pn := by rw [Nat.succ_mul] at hsm; omega
    have hlt : a0 < borrow := Nat.lt_of_mul_lt_mul_right (a := Pn) (by omega)
    refine .inr ⟨rfl, hlt, fun v2 carry hv2 hc hadd => ?_⟩
    obtain ⟨e1, e2⟩ := two_digit_unique
      (show v2 + (carry + a0) * Pn = R + borrow * Pn by
        rw [← h, ← hadd, Nat.add_mul, Nat.mul_comm carry]; ac_rfl) hv2 hRP
    have hc1 : carry = 1 := by
      refine Nat.le_antisymm hc (Nat.pos_of_ne_zero ?_)
      rintro rfl
      rw [← e2, Nat.zero_add] at hlt
      exact Nat.lt_irrefl _ hlt
    exact ⟨hc1, by rw [← e2, hc1, Nat.add_comm], e1⟩

/-- the multiply-subtract of a window by a trial digit `q ≤ q̂ ≤ q+1`, with the two outcomes of
    `addback_arith` for `q = W / V`, `R = W % V` -/
theorem subMul_window (w b : List Nat) (qh a0 : Nat) (hl : w.length = b.length)
    (hw : DigitsOk w) (hb : DigitsOk b) (hqh : qh < B) (hVpos : 0 < val b)
    (hlo : (val w + a0 * B ^ w.length) / val b ≤ qh)
    (hhi : qh ≤ (val w + a0 * B ^ w.length) / val b + 1) :
    ∃ w1 borrow, subMulDigitSameLen w b qh = .ok (w1, borrow) ∧ w1.length = w.length ∧ DigitsOk w1 ∧
      ((qh = (val w + a0 * B ^ w.length) / val b ∧ borrow = a0 ∧
          val w1 = (val w + a0 * B ^ w.length) % val b) ∨
       (qh = (val w + a0 * B ^ w.length) / val b + 1 ∧ a0 < borrow ∧
          ∀ v2 carry, v2 < B ^ w.length → carry ≤ 1 → v2 + B ^ w.length * carry = val w1 + val b →
            carry = 1 ∧ borrow = a0 + 1 ∧ v2 = (val w + a0 * B ^ w.length) % val b)) := by
  obtain ⟨w1, borrow, s1, s2, -, s4, s5⟩ := subMul_spec w b qh hl hw hb hqh
  have hVP : val b < B ^ w.length := hl ▸ val_lt hb
  have hv1 : val w1 < B ^ w.length := s4 ▸ val_lt s5
  exact ⟨w1, borrow, s1, s4, s5, addback_arith (Nat.div_add_mod' _ _) (Nat.mod_lt _ hVpos) hVP hv1 s2
    (by omega)⟩

/-- multiply-subtract with conditional add-back: for a trial digit `q ≤ q̂ ≤ q+1` it returns
    the exact digit `q = W / V` and the exact window remainder `W % V`; add-back happens exactly
    when `q̂ = q+1`; afterwards `borrow = a0` (the `debug_assert`), no `u64` underflow -/
theorem mulSubAddBack_spec (P : Params) (w b : List Nat) (qh a0 : Nat) (hl : w.length = b.length)
    (hw : DigitsOk w) (hb : DigitsOk b) (hqh : qh < B) (hVpos : 0 < val b)
    (hlo : (val w + a0 * B ^ w.length) / val b ≤ qh)
    (hhi : qh ≤ (val w + a0 * B ^ w.length) / val b + 1) :
    ∃ w2, mulSubAddBack P w b qh a0 = .ok ((val w + a0 * B ^ w.length) / val b, w2) ∧
      val w2 = (val w + a0 * B ^ w.length) % val b ∧ w2.length = w.length ∧ DigitsOk w2 := by
  obtain ⟨w1, borrow, s1, s4, s5, ⟨e1, e2, e3⟩ | ⟨e1, e2, e3⟩⟩ :=
    subMul_window w b qh a0 hl hw hb hqh hVpos hlo hhi
  · subst e1 e2
    exact ⟨w1, by simp [mulSubAddBack, s1], e3, s4, s5⟩
  · obtain ⟨c1, c2, c3, c4⟩ := add2c_spec P w1 b (by omega) s5 hb
    have hv2 : val (add2c P w1 b).1 < B ^ w.length := by rw [← s4, ← c2]; exact val_lt c3
    rw [s4] at c1
    obtain ⟨k1, k2, k3⟩ := e3 _ _ hv2 c4 c1
    subst e1
    exact ⟨(add2c P w1 b).1, by simp [mulSubAddBack, s1, k1, k2], k3, by rw [c2, s4], c3⟩

/-- the value of a digit list split at its top two digits, as `div_rem_core` reads them -/
theorem top2_val {l : List Nat} (hl : DigitsOk l) (h : 2 ≤ l.length) :
    ∃ vlo, vlo < B ^ (l.length - 2) ∧
      val l = vlo + B ^ (l.length - 2) * (l.getD (l.length - 2) 0 + B * l.getLast?.getD 0) ∧
      l.getD (l.length - 2) 0 < B ∧ l.getLast?.getD 0 < B := by
  obtain ⟨lo, x, y, rfl⟩ : ∃ lo x y, l = lo ++ [x, y] := by
    rcases eq_nil_or_snoc l with rfl | ⟨l1, y, rfl⟩
    · exact absurd h (by decide)
    rcases eq_nil_or_snoc l1 with rfl | ⟨l2, x, rfl⟩
    · exact absurd h (by simp)
    · exact ⟨l2, x, y, by simp⟩
  have e1 : (lo ++ [x, y]).getLast?.getD 0 = y := by simp
  have e2 : (lo ++ [x, y]).getD ((lo ++ [x, y]).length - 2) 0 = x := by
    simp [List.getD_eq_getElem?_getD]
  have e3 : (lo ++ [x, y]).length - 2 = lo.length := by simp
  rw [e1, e2, e3]
  exact ⟨val lo, val_lt hl.left, by rw [val_append]; simp [val], hl x (by simp), hl y (by simp)⟩

theorem top2_drop {a : List Nat} {j : Nat} (h : j + 2 ≤ a.length) :
    (a.drop j).getLast?.getD 0 = a.getLast?.getD 0 ∧
    (a.drop j).getD ((a.drop j).length - 2) 0 = a.getD (a.length - 2) 0 := by
  constructor
  · rw [List.getLast?_drop, if_neg (by omega)]
  · rw [List.getD_eq_getElem?_getD, List.getD_eq_getElem?_getD, List.getElem?_drop, List.length_drop]
    congr 2; omega

/-- Knuth's Theorems A and B for the trial digit as `div_rem_core` computes it: the 2-by-1 estimate
    refined by the 3-by-2 loop is a digit and lies in `[W / V, W / V + 1]`; only `b0 ≥ 1` is needed -/
theorem trialDigit_spec {V W P bl wl a0 a1 a2 b0 b1 : Nat}
    (hV : V = bl + P * (b1 + B * b0)) (hW : W = wl + P * (a2 + B * (a1 + B * a0)))
    (hbl : bl < P) (hwl : wl < P) (ha1 : a1 < B) (ha2 : a2 < B) (hb1 : b1 < B) (hb0 : 1 ≤ b0)
    (hWV : W < V * B) :
    ∃ q0 r, estimate a0 a1 b0 = .ok (q0, r) ∧ W / V ≤ (corrLoop b0 b1 a2 q0 r).1 ∧
      (corrLoop b0 b1 a2 q0 r).1 ≤ W / V + 1 ∧ (corrLoop b0 b1 a2 q0 r).1 < B := by
  have hVpos : 0 < V := by
    have : 0 < P * (b1 + B * b0) :=
      Nat.mul_pos (by omega) (by have := Nat.mul_le_mul_left B hb0; have := B_pos; omega)
    omega
  have hqT := knuth_q_top hV hW hwl (Nat.div_mul_le_self W V)
  have ha0le := knuth_a0_le hV hW hbl hb1 hWV
  obtain ⟨q0, r, e1, e2, e3, e4⟩ :=
    estimate_spec ha1 ha2 ha0le hqT (Nat.div_lt_of_lt_mul hWV)
  obtain ⟨c1, c2, c3⟩ := corrLoop_spec hb1 hqT q0 r e2 e3 e4
  have hqhB := Nat.lt_of_le_of_lt c2 e4
  exact ⟨q0, r, e1, c1, knuth_qhat_le hV hW hbl hb0 hqhB hVpos c3, hqhB⟩

theorem coreStep_arith {vlo Bj W V q R N : Nat} (hN : N = vlo + Bj * W) (hvlo : vlo < Bj)
    (hdm : q * V + R = W) (hR : R < V) :
    (vlo + Bj * R) + q * V * Bj = N ∧ vlo + Bj * R < V * Bj := by
  constructor
  · rw [hN, ← hdm]; ring
  · have : Bj * (R + 1) ≤ Bj * V := Nat.mul_le_mul_left _ hR
    have e : Bj * (R + 1) = Bj * R + Bj := by ring
    have e2 : V * Bj = Bj * V := Nat.mul_comm _ _
    omega

theorem coreStep_window_lt {vlo Bj W V N : Nat} (hN : N = vlo + Bj * W) (h : N < V * (Bj * B)) :
    W < V * B :=
  Nat.lt_of_mul_lt_mul_left (a := Bj) (by rw [Nat.mul_left_comm]; omega)

/-- one iteration of the main loop of `div_rem_core`: given the invariant
    `N = a + a0·B^len < b·B^(j+1)` it produces the exact quotient digit `q_j = (N / B^j) / b`,
    removes `q_j·b·B^j` from `N`, re-establishes the invariant for `j`, and trips no assertion -/
theorem coreStep_spec (P : Params) (b : List Nat) (hb : DigitsOk b) (hn : 2 ≤ b.length)
    (hb0 : 1 ≤ b.getLast?.getD 0) (j : Nat) (a : List Nat) (a0 : Nat) (ha : DigitsOk a)
    (hlen : a.length = b.length + j)
    (hinv : val a + a0 * B ^ a.length < val b * B ^ (j + 1)) :
    ∃ q a' a0', coreStep P b (b.getLast?.getD 0) (b.getD (b.length - 2) 0) j a a0 = .ok (q, a', a0') ∧
      q < B ∧ a'.length + 1 = a.length ∧ DigitsOk a' ∧ a0' < B ∧
      (val a' + a0' * B ^ a'.length) + q * val b * B ^ j = val a + a0 * B ^ a.length ∧
      val a' + a0' * B ^ a'.length < val b * B ^ j := by
  -- `a` is the untouched low part followed by the window
  have hlo : (a.take j).length = j := by
    rw [List.length_take, hlen]; exact Nat.min_eq_left (Nat.le_add_left _ _)
  have hwl : (a.drop j).length = b.length := by rw [List.length_drop, hlen, Nat.add_sub_cancel]
  have hdw : DigitsOk (a.drop j) := ha.drop j
  have hvlo : val (a.take j) < B ^ j := by have := val_lt (ha.take j); rwa [hlo] at this
  have hN : val a + a0 * B ^ a.length
      = val (a.take j) + B ^ j * (val (a.drop j) + a0 * B ^ (a.drop j).length) := by
    rw [hwl, hlen, pow_add, val_split_at a j]; ring
  obtain ⟨bl, hbl, hvb, hb1B, -⟩ := top2_val hb hn
  obtain ⟨wl, hwlP, hvw, ha2B, ha1B⟩ := top2_val hdw (hwl ▸ hn)
  obtain ⟨t1, t2⟩ := top2_drop (a := a) (j := j) (hlen ▸ Nat.add_comm j 2 ▸ Nat.add_le_add_right hn j)
  rw [t1, t2, hwl] at hvw
  rw [t2] at ha2B
  rw [t1] at ha1B
  rw [hwl] at hwlP
  have hW : val (a.drop j) + a0 * B ^ (a.drop j).length = wl + B ^ (b.length - 2) *
      (a.getD (a.length - 2) 0 + B * (a.getLast?.getD 0 + B * a0)) := by
    rw [hvw, hwl, ← Nat.sub_add_cancel hn, pow_add, Nat.add_sub_cancel, pow_two]; ring
  have hWV := coreStep_window_lt hN (pow_succ B j ▸ hinv)
  obtain ⟨q0, r, e1, c1, c2, c3⟩ := trialDigit_spec hvb hW hbl hwlP ha1B ha2B hb1B hb0 hWV
  have hVpos : 0 < val b :=
    Nat.pos_of_ne_zero fun h => by rw [h, Nat.zero_mul] at hWV; exact Nat.not_lt_zero _ hWV
  obtain ⟨w2, m1, m2, m3, m4⟩ := mulSubAddBack_spec P (a.drop j) b _ a0 hwl hdw hb c3 hVpos c1 c2
  -- the new window: pop its top digit
  rcases eq_nil_or_snoc w2 with rfl | ⟨init, z, rfl⟩
  · rw [← hwl, ← m3] at hn; exact absurd hn (by decide)
  have hinit : init.length + 1 = b.length := by rw [← hwl, ← m3, List.length_append]; rfl
  refine ⟨_, a.take j ++ init, z, ?_, Nat.div_lt_of_lt_mul hWV, ?_,
    (ha.take j).append m4.left, m4 z (by simp), ?_⟩
  · have hl2 : ¬ (a.length < 2) := Nat.not_lt.mpr (hlen ▸ Nat.le_add_right_of_le hn)
    simp only [coreStep, not_not.mpr hlen, hl2, if_false, e1, m1, List.dropLast_concat,
      List.getLast?_concat, Option.getD_some]
  · rw [List.length_append, hlo, Nat.add_assoc, hinit, hlen, Nat.add_comm]
  · have hval' : val (a.take j ++ init) + z * B ^ (a.take j ++ init).length
        = val (a.take j) + B ^ j * ((val (a.drop j) + a0 * B ^ (a.drop j).length) % val b) := by
      rw [← m2, val_snoc, val_append, hlo, List.length_append, hlo, pow_add]; ring
    rw [hval']
    exact coreStep_arith hN hvlo (Nat.div_add_mod' _ (val b)) (Nat.mod_lt _ hVpos)

/-- the whole main loop: `k` iterations turn the invariant `N < b·B^k` into the exact
    quotient digits and a final window `< b`; no internal error on the way -/
theorem coreLoop_spec (P : Params) (b : List Nat) (hb : DigitsOk b) (hn : 2 ≤ b.length)
    (hb0 : 1 ≤ b.getLast?.getD 0) : ∀ (k : Nat) (a : List Nat) (a0 : Nat), DigitsOk a →
    a.length + 1 = b.length + k → a0 < B → val a + a0 * B ^ a.length < val b * B ^ k →
    ∃ qs af a0f, coreLoop P b (b.getLast?.getD 0) (b.getD (b.length - 2) 0) k a a0 = .ok (qs, af, a0f) ∧
      val qs * val b + (val af + a0f * B ^ af.length) = val a + a0 * B ^ a.length ∧
      val af + a0f * B ^ af.length < val b ∧ qs.length = k ∧ DigitsOk qs ∧ DigitsOk af ∧ a0f < B ∧
      af.length + 1 = b.length := by
  intro k
  induction k with
  | zero =>
    intro a a0 ha hlen ha0 hinv
    exact ⟨[], a, a0, rfl, by rw [val, Nat.zero_mul, Nat.zero_add],
      by rwa [pow_zero, Nat.mul_one] at hinv, rfl, DigitsOk.nil, ha, ha0, hlen⟩
  | succ j ih =>
    intro a a0 ha hlen _ hinv
    obtain ⟨q, a', a0', s1, s2, s3, s4, s5, s6, s7⟩ :=
      coreStep_spec P b hb hn hb0 j a a0 ha (Nat.succ.inj hlen) hinv
    obtain ⟨qs, af, a0f, l1, l2, l3, l4, l5, l6, l7, l8⟩ :=
      ih a' a0' s4 (s3.trans (Nat.succ.inj hlen)) s5 s7
    refine ⟨qs ++ [q], af, a0f, ?_, ?_, l3, by rw [List.length_append, l4]; rfl,
      l5.append (DigitsOk.cons s2 DigitsOk.nil), l6, l7, l8⟩
    · simp only [coreLoop, s1, l1]
    · rw [val_snoc, l4, ← s6, ← l2]; ring

theorem getLast_lt_B {l : List Nat} (h : DigitsOk l) : l.getLast?.getD 0 < B := by
  cases hl : l.getLast? with
  | none => simp; exact B_pos
  | some x => simp; exact h x (List.mem_of_getLast? hl)

theorem getLast_ne_zero_of_ge {b : List Nat} {t : Nat} (ht : 1 ≤ t) (h : t ≤ b.getLast?.getD 0) :
    b.getLast? ≠ some 0 := by
  intro h0; rw [h0] at h; simp at h; omega

/-- `div_rem_core` on pre-normalised operands: exact canonical quotient and remainder,
    none of its debug assertions / overflow sites is reachable -/
theorem divRemCore_spec (P : Params) (a b : List Nat) (ha : DigitsOk a) (hb : DigitsOk b)
    (hn : 2 ≤ b.length) (hlen : b.length ≤ a.length) (htop : B / 2 ≤ b.getLast?.getD 0) :
    divRemCore P a b = .ok (ofNat (val a / val b), ofNat (val a % val b)) := by
  have hhalf : 1 ≤ B / 2 := by decide
  have hb0 : 1 ≤ b.getLast?.getD 0 := Nat.le_trans hhalf htop
  have hbC : Canon b := ⟨hb, getLast_ne_zero_of_ge hhalf htop⟩
  have hbne : b ≠ [] := by rintro rfl; exact absurd hn (by decide)
  have hlz : leadingZeros (b.getLast?.getD 0) = 0 :=
    (leadingZeros_zero_iff (Nat.ne_of_gt hb0) (getLast_lt_B hb)).mpr htop
  have hVge := canon_val_ge hbC hbne
  have hinv : val a + 0 * B ^ a.length < val b * B ^ (a.length - b.length + 1) := by
    rw [Nat.zero_mul, Nat.add_zero]
    calc val a < B ^ a.length := val_lt ha
      _ = B ^ (b.length - 1) * B ^ (a.length - b.length + 1) := by rw [← pow_add]; congr 1; omega
      _ ≤ val b * B ^ (a.length - b.length + 1) := Nat.mul_le_mul_right _ hVge
  obtain ⟨qs, af, a0f, l1, l2, l3, _, l5, l6, l7, l8⟩ :=
    coreLoop_spec P b hb hn hb0 (a.length - b.length + 1) a 0 ha (by omega) B_pos hinv
  have hrD : DigitsOk (af ++ [a0f]) := l6.append (DigitsOk.cons l7 DigitsOk.nil)
  have hrv := val_snoc af a0f
  have hrC := normalize_canon hrD
  have hcmp : cmpSlice (normalize (af ++ [a0f])) b = .lt := by
    rw [cmpSlice_spec hrC hbC, normalize_val, hrv, Nat.compare_eq_lt]; exact l3
  have hpre : ¬ ¬ (a.length ≥ b.length ∧ b.length > 1) := not_not.mpr ⟨hlen, hn⟩
  simp only [divRemCore, hpre, hlz, ne_eq, not_true_eq_false, if_false, l1, hcmp]
  simp only [Nat.zero_mul, Nat.add_zero] at l2
  obtain ⟨e1, e2⟩ := div_mod_of_eq l2 l3
  rw [canon_eq_ofNat (normalize_canon l5), normalize_val, canon_eq_ofNat hrC, normalize_val, hrv, e1, e2]

theorem top_bounds {l : List Nat} (h : DigitsOk l) (hne : l ≠ []) :
    (l.getLast?.getD 0) * B ^ (l.length - 1) ≤ val l ∧
    val l < (l.getLast?.getD 0 + 1) * B ^ (l.length - 1) := by
  rcases eq_nil_or_snoc l with h0 | ⟨init, y, rfl⟩
  · exact absurd h0 hne
  · have hi := val_lt h.left
    rw [val_snoc]
    simp only [List.getLast?_append, List.getLast?_singleton, Option.some_or, Option.getD_some,
      List.length_append, List.length_cons, List.length_nil, Nat.zero_add, Nat.add_sub_cancel]
    exact ⟨Nat.le_add_left _ _, by rw [Nat.succ_mul]; omega⟩

theorem canon_getLast_pos {l : List Nat} (h : Canon l) (hne : l ≠ []) : 1 ≤ l.getLast?.getD 0 := by
  cases hl : l.getLast? with
  | none => simp at hl; exact absurd hl hne
  | some x =>
    simp
    have : x ≠ 0 := by intro hx; subst hx; exact h.2 hl
    omega

theorem length_eq_of_bounds {l : List Nat} (h : Canon l) {n t : Nat} (ht : 1 ≤ t)
    (hlo : t * B ^ (n - 1) ≤ val l) (hhi : val l < B ^ n) :
    l.length = n ∧ t ≤ l.getLast?.getD 0 := by
  have hge : B ^ (n - 1) ≤ val l := Nat.le_trans (Nat.le_mul_of_pos_left _ ht) hlo
  have hne : l ≠ [] := by
    rintro rfl; exact absurd hge (Nat.not_le.mpr (Nat.pow_pos B_pos))
  have hlen : l.length = n := by
    have a1 := (Nat.pow_lt_pow_iff_right one_lt_B).mp
      (Nat.lt_of_le_of_lt (canon_val_ge h hne) hhi)
    have a2 := length_ge_of_val_ge h.1 hge
    omega
  refine ⟨hlen, Nat.le_of_lt_succ (Nat.lt_of_mul_lt_mul_right (a := B ^ (n - 1)) ?_)⟩
  exact Nat.lt_of_le_of_lt hlo (hlen ▸ (top_bounds h.1 hne).2)

theorem shl_top_bounds {v t P S K h : Nat} (hlo : t * P ≤ v) (hhi : v < (t + 1) * P) (hh : h ≤ t * S)
    (hK : t * S < K * S) (hS : 0 < S) : h * P ≤ v * S ∧ v * S < (K * S) * P :=
  ⟨calc h * P ≤ (t * S) * P := Nat.mul_le_mul_right _ hh
      _ = (t * P) * S := Nat.mul_right_comm t S P
      _ ≤ v * S := Nat.mul_le_mul_right _ hlo,
   calc v * S < ((t + 1) * P) * S := Nat.mul_lt_mul_of_pos_right hhi hS
      _ = ((t + 1) * S) * P := Nat.mul_right_comm _ _ _
      _ ≤ (K * S) * P :=
        Nat.mul_le_mul_right _ (Nat.mul_le_mul_right _ (Nat.lt_of_mul_lt_mul_right hK))⟩

/-- normalise, divide with Knuth D, un-shift the remainder -/
theorem divRemKnuth_spec (P : Params) (u d : List Nat) (hu : Canon u) (hd : Canon d)
    (hn : 2 ≤ d.length) (hgt : val d < val u) :
    divRemKnuth P u d = .ok (ofNat (val u / val d), ofNat (val u % val d)) := by
  have hdne : d ≠ [] := by intro h; subst h; simp at hn
  have hdl1 := canon_getLast_pos hd hdne
  have hdlB := getLast_lt_B hd.1
  have ht0 : d.getLast?.getD 0 ≠ 0 := Nat.ne_of_gt hdl1
  obtain ⟨z1, z2, z3⟩ := leadingZeros_spec ht0 hdlB
  obtain ⟨tb1, tb2⟩ := top_bounds hd.1 hdne
  have hVge := canon_val_ge hd hdne
  have hn1 : 1 ≤ d.length := Nat.le_of_succ_le hn
  unfold divRemKnuth
  by_cases hs : leadingZeros (d.getLast?.getD 0) = 0
  · simp only [hs, if_true]
    exact divRemCore_spec P u d hu.1 hd.1 hn
      (length_ge_of_val_ge hu.1 (Nat.le_trans hVge (Nat.le_of_lt hgt)))
      ((leadingZeros_zero_iff ht0 hdlB).mp hs)
  · simp only [hs, if_false]
    generalize leadingZeros (d.getLast?.getD 0) = s at *
    have hS : 0 < 2 ^ s := Nat.two_pow_pos s
    rw [shlBig_spec u s hu.1 z1, shlBig_spec d s hd.1 z1]
    have hdC := ofNat_canon (val d * 2 ^ s)
    have huC := ofNat_canon (val u * 2 ^ s)
    -- the shifted divisor keeps its length and gets a top digit ≥ B/2
    have hB := B_split (Nat.le_of_lt z1)
    obtain ⟨hlo, hhi⟩ := shl_top_bounds tb1 tb2 z2 (hB ▸ z3) hS
    rw [← hB, ← pow_succ', Nat.sub_add_cancel hn1] at hhi
    obtain ⟨k1, k2⟩ := length_eq_of_bounds hdC (n := d.length) (t := B / 2) (by decide)
      (by rwa [ofNat_val]) (by rwa [ofNat_val])
    have hulen : (ofNat (val d * 2 ^ s)).length ≤ (ofNat (val u * 2 ^ s)).length := by
      rw [k1]
      refine length_ge_of_val_ge huC.1 ?_
      rw [ofNat_val]
      exact Nat.le_trans hVge (Nat.le_trans (Nat.le_of_lt hgt) (Nat.le_mul_of_pos_right _ hS))
    rw [divRemCore_spec P _ _ huC.1 hdC.1 (k1 ▸ hn) hulen k2]
    simp only [ofNat_val]
    rw [shrBig_spec _ s (ofNat_digitsOk _) z1, ofNat_val, Nat.mul_div_mul_right _ _ hS,
      Nat.mul_mod_mul_right, Nat.mul_div_cancel _ hS]

/-- all pre-checks of `div_rem_ref` / `div_rem` up to the Knuth branch -/
theorem divRem_common (P : Params) (u d : List Nat) (hu : Canon u) (hd : Canon d) (hd0 : d ≠ [])
    (f : Nat → List Nat) (hf : ∀ r, r < B → f r = ofNat r) :
    (if u = [] then (.ok ([], []) : Except Panic (List Nat × List Nat))
     else if d.length = 1 then
       if d = [1] then .ok (u, [])
       else match divRemDigit u (d.headD 0) with
         | .error e => .error e
         | .ok (q, r) => .ok (q, f r)
     else match cmpSlice u d with
       | .lt => .ok ([], u)
       | .eq => .ok ([1], [])
       | .gt => divRemKnuth P u d) = .ok (ofNat (val u / val d), ofNat (val u % val d)) := by
  have hdpos := canon_val_pos hd hd0
  by_cases hu0 : u = []
  · subst hu0; simp [val, ofNat_zero]
  · simp only [hu0, if_false]
    by_cases hl1 : d.length = 1
    · simp only [hl1, if_true]
      obtain ⟨x, rfl⟩ : ∃ x, d = [x] := by
        match d, hl1 with
        | [x], _ => exact ⟨x, rfl⟩
      obtain ⟨hx0, hxB⟩ := canon_singleton_iff.mp hd
      have hvx : val [x] = x := val_singleton x
      by_cases h1 : x = 1
      · subst h1
        simp only [if_true, hvx, Nat.div_one, Nat.mod_one, ofNat_zero]
        rw [← canon_eq_ofNat hu]
      · have : ¬ ([x] = [1]) := by simpa using h1
        simp only [this, if_false, List.headD_cons, divRemDigit_spec' u x hu.1 hx0, hvx]
        rw [hf _ (Nat.lt_trans (Nat.mod_lt _ (Nat.pos_of_ne_zero hx0)) hxB)]
    · simp only [hl1, if_false]
      have hn : 2 ≤ d.length := by
        have : d.length ≠ 0 := by intro h; exact hd0 (List.length_eq_zero_iff.mp h)
        omega
      rw [cmpSlice_spec hu hd]
      rcases Nat.lt_trichotomy (val u) (val d) with h | h | h
      · rw [Nat.compare_eq_lt.mpr h]
        simp only [Nat.div_eq_of_lt h, Nat.mod_eq_of_lt h, ofNat_zero]
        rw [← canon_eq_ofNat hu]
      · rw [Nat.compare_eq_eq.mpr h]
        simp only [h, Nat.div_self hdpos, Nat.mod_self, ofNat_zero, ofNat_one]
      · rw [Nat.compare_eq_gt.mpr h]
        exact divRemKnuth_spec P u d hu hd hn h

/-- `div_rem_ref`: `attempt to divide by zero` exactly for `d = 0`, otherwise the canonical
    quotient and remainder; no internal error -/
theorem divRemRef_spec' (P : Params) (u d : List Nat) (hu : Canon u) (hd : Canon d) :
    divRemRef P u d = if d = [] then .error .divzero
      else .ok (ofNat (val u / val d), ofNat (val u % val d)) := by
  unfold divRemRef
  by_cases hd0 : d = []
  · simp [hd0]
  · simp only [hd0, if_false]
    exact divRem_common P u d hu hd hd0 fromDigit (fun r hr => fromDigit_eq hr)

/-- `BigUint += digit` -/
theorem addDigit_spec (P : Params) (a : List Nat) (c : Nat) (ha : Canon a) (hc : c < B) :
    addDigit P a c = ofNat (val a + c) := by
  unfold addDigit
  by_cases hc0 : c = 0
  · rw [if_neg (not_not.mpr hc0), hc0]; exact canon_eq_ofNat ha
  · rw [if_pos hc0]
    -- `a`, or `[0]` for the empty vector, is non-empty and `val a + c` reaches its top digit
    have key : ∀ a' : List Nat, DigitsOk a' → a' ≠ [] → B ^ (a'.length - 1) ≤ val a' + c →
        (if (add2c P a' [c]).2 ≠ 0 then (add2c P a' [c]).1 ++ [(add2c P a' [c]).2] else (add2c P a' [c]).1)
          = ofNat (val a' + c) := by
      intro a' hD hne hge
      obtain ⟨l1, l2, l3, l4⟩ :=
        add2c_spec P a' [c] (List.length_pos_iff.2 hne) hD (DigitsOk.cons hc DigitsOk.nil)
      exact push_carry_spec l3 l4 (by rw [l2, l1, val, val, Nat.mul_zero, Nat.add_zero]) (fun _ => l2 ▸ hge)
    by_cases ha0 : a = []
    · rw [if_pos ha0, ha0]
      exact key [0] (by decide) (List.cons_ne_nil _ _) (Nat.le_trans (Nat.pos_of_ne_zero hc0) (Nat.le_add_left c _))
    · rw [if_neg ha0]
      exact key a ha.1 ha0 (Nat.le_trans (canon_val_ge ha ha0) (Nat.le_add_right _ _))

/-- `div_rem` by value (buffer-reusing variant): same outcome as `div_rem_ref` -/
theorem divRemVal_spec' (P : Params) (u d : List Nat) (hu : Canon u) (hd : Canon d) :
    divRemVal P u d = if d = [] then .error .divzero
      else .ok (ofNat (val u / val d), ofNat (val u % val d)) := by
  unfold divRemVal
  by_cases hd0 : d = []
  · simp [hd0]
  · simp only [hd0, if_false]
    refine divRem_common P u d hu hd hd0 (addDigit P []) (fun r hr => ?_)
    rw [addDigit_spec P [] r canon_nil hr]; simp [val]

end NB
