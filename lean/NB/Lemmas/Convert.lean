/- helper lemmas for C08, integer side: casts, the num-traits range macros, the `to_u64`/`to_u128`
   digit walks, the `From<u64>`/`From<u128>` digit loops -/
import NB.Lemmas.Base
import NB.Lemmas.Canon
import NB.Model.Convert
namespace NB.Conv

theorem PTy.bits_pos (t : PTy) : 0 < t.bits := by cases t <;> decide

theorem PTy.two_pow_bits (t : PTy) : (2 : Int) ^ t.bits = 2 * 2 ^ (t.bits - 1) := by
  rw [← pow_succ', Nat.sub_add_cancel t.bits_pos]

theorem PTy.half_pos (t : PTy) : (0 : Int) < 2 ^ (t.bits - 1) := by positivity

theorem PTy.inRange_signed {t : PTy} (hs : t.signed = true) (x : Int) :
    t.InRange x ↔ -2 ^ (t.bits - 1) ≤ x ∧ x < 2 ^ (t.bits - 1) := by
  simp only [PTy.InRange, PTy.minV, PTy.maxV, hs, if_true, Int.le_sub_one_iff]

theorem PTy.inRange_unsigned {t : PTy} (hs : t.signed = false) (x : Int) :
    t.InRange x ↔ 0 ≤ x ∧ x < 2 * 2 ^ (t.bits - 1) := by
  simp only [PTy.InRange, PTy.minV, PTy.maxV, hs, Bool.false_eq_true, if_false, t.two_pow_bits,
    Int.le_sub_one_iff]

/-- two's-complement wrap to `[-p, p)` fixes that interval -/
theorem wrap_of_lt {p x : Int} (h1 : -p ≤ x) (h2 : x < p) :
    (if p ≤ x % (2 * p) then x % (2 * p) - 2 * p else x % (2 * p)) = x := by
  by_cases hx : 0 ≤ x
  · rw [Int.emod_eq_of_lt hx (by omega), if_neg (by omega)]
  · have : x % (2 * p) = x + 2 * p := by
      rw [← Int.add_mul_emod_self_left x (2 * p) 1, mul_one]
      exact Int.emod_eq_of_lt (by omega) (by omega)
    rw [this, if_pos (by omega)]; omega

/-- `x as T` is the identity on values of `T` -/
theorem asCast_of_inRange (t : PTy) (x : Int) (h : t.InRange x) : asCast t x = x := by
  unfold asCast
  rw [t.two_pow_bits]
  cases hs : t.signed
  · rw [PTy.inRange_unsigned hs] at h
    simp only [Bool.false_eq_true, false_and, if_false]
    exact Int.emod_eq_of_lt h.1 h.2
  · rw [PTy.inRange_signed hs] at h
    simp only [true_and]
    exact wrap_of_lt h.1 h.2

/-- `x as T` always lands in `T` -/
theorem asCast_inRange (t : PTy) (x : Int) : t.InRange (asCast t x) := by
  have hp := t.half_pos
  have h0 := Int.emod_nonneg x (by omega : (2 : Int) * 2 ^ (t.bits - 1) ≠ 0)
  have h1 := Int.emod_lt_of_pos x (by omega : (0 : Int) < 2 * 2 ^ (t.bits - 1))
  unfold asCast
  rw [t.two_pow_bits]
  cases hs : t.signed
  · rw [PTy.inRange_unsigned hs]
    simp only [Bool.false_eq_true, false_and, if_false]; omega
  · rw [PTy.inRange_signed hs]
    simp only [true_and]; split <;> omega

theorem PTy.maxV_eq (t : PTy) :
    t.maxV = (if t.signed then 2 ^ (t.bits - 1) else 2 * 2 ^ (t.bits - 1)) - 1 := by
  unfold PTy.maxV; rw [t.two_pow_bits]; cases t.signed <;> rfl

theorem PTy.half_le {a b : PTy} (h : a.bits ≤ b.bits) :
    (2 : Int) ^ (a.bits - 1) ≤ 2 ^ (b.bits - 1) :=
  pow_le_pow_right₀ (by norm_num) (by omega)

theorem PTy.full_le_half {a b : PTy} (h : a.bits < b.bits) :
    2 * (2 : Int) ^ (a.bits - 1) ≤ 2 ^ (b.bits - 1) := by
  rw [← a.two_pow_bits]; exact pow_le_pow_right₀ (by norm_num) (by omega)

theorem PTy.InRange.nonneg {t : PTy} (hs : t.signed = false) {v : Int} (h : t.InRange v) : 0 ≤ v :=
  ((PTy.inRange_unsigned hs v).mp h).1

theorem PTy.inRange_zero (t : PTy) : t.InRange 0 := by
  have := t.half_pos
  cases hs : t.signed
  · rw [PTy.inRange_unsigned hs]; omega
  · rw [PTy.inRange_signed hs]; omega

theorem PTy.InRange.to_unsigned {a b : PTy} {v : Int} (hb : b.signed = false) (hw : a.bits ≤ b.bits)
    (hv : 0 ≤ v) (h : a.InRange v) : b.InRange v := by
  have := PTy.half_le hw
  have := a.half_pos
  rw [PTy.inRange_unsigned hb]
  cases ha : a.signed
  · rw [PTy.inRange_unsigned ha] at h; omega
  · rw [PTy.inRange_signed ha] at h; omega

theorem PTy.InRange.to_signed {a b : PTy} {v : Int} (ha : a.signed = true) (hb : b.signed = true)
    (hw : a.bits ≤ b.bits) (h : a.InRange v) : b.InRange v := by
  have := PTy.half_le hw
  rw [PTy.inRange_signed ha] at h
  rw [PTy.inRange_signed hb]; omega

theorem PTy.inRange_natCast {t : PTy} (hs : t.signed = false) (v : Nat) :
    t.InRange (v : Int) ↔ v < 2 ^ t.bits := by
  rw [PTy.inRange_unsigned hs, ← t.two_pow_bits]
  constructor
  · intro h; exact_mod_cast h.2
  · intro h; exact ⟨Int.natCast_nonneg v, by exact_mod_cast h⟩

/-- all 144 instances of num-traits' `impl_to_primitive_{int,uint}_to_{int,uint}!`:
    `Src::to_dst(x)` is `Some(x)` exactly when `x` fits `Dst` -/
theorem primTo_spec (src dst : PTy) (x : Int) (h : src.InRange x) :
    primTo src dst x = if dst.InRange x then some x else none := by
  have hp := src.half_pos
  have hq := dst.half_pos
  -- the guard of each macro arm is equivalent to `dst.InRange x`
  suffices hc : ∀ (c : Prop) [Decidable c], (c ↔ dst.InRange x) →
      (if c then some (asCast dst x) else none) = if dst.InRange x then some x else none by
    unfold primTo
    cases hs : src.signed <;> cases hd : dst.signed <;> dsimp only
    · rw [PTy.inRange_unsigned hs] at h
      apply hc; rw [PTy.inRange_unsigned hd]
      by_cases hw : src.bits ≤ dst.bits
      · have := PTy.half_le hw; simp only [hw, true_or, true_iff]; omega
      · have := PTy.full_le_half (Nat.lt_of_not_le hw)
        have hm : src.InRange dst.maxV := by
          rw [PTy.inRange_unsigned hs, dst.maxV_eq, hd]
          simp only [Bool.false_eq_true, if_false]; omega
        rw [asCast_of_inRange src _ hm, dst.maxV_eq, hd]
        simp only [hw, false_or, Bool.false_eq_true, if_false]; omega
    · rw [PTy.inRange_unsigned hs] at h
      apply hc; rw [PTy.inRange_signed hd]
      by_cases hw : src.bits < dst.bits
      · have := PTy.full_le_half hw; simp only [hw, true_or, true_iff]; omega
      · have := PTy.half_le (Nat.le_of_not_lt hw)
        have hm : src.InRange dst.maxV := by
          rw [PTy.inRange_unsigned hs, dst.maxV_eq, hd]; simp only [if_true]; omega
        rw [asCast_of_inRange src _ hm, dst.maxV_eq, hd]
        simp only [hw, false_or, if_true]; omega
    · rw [PTy.inRange_signed hs] at h
      apply hc; rw [PTy.inRange_unsigned hd]
      by_cases hw : src.bits ≤ dst.bits
      · have := PTy.half_le hw; simp only [hw, true_or, and_true]; omega
      · have := PTy.full_le_half (Nat.lt_of_not_le hw)
        have hm : src.InRange dst.maxV := by
          rw [PTy.inRange_signed hs, dst.maxV_eq, hd]
          simp only [Bool.false_eq_true, if_false]; omega
        rw [asCast_of_inRange src _ hm, dst.maxV_eq, hd]
        simp only [hw, false_or, Bool.false_eq_true, if_false]; omega
    · rw [PTy.inRange_signed hs] at h
      apply hc; rw [PTy.inRange_signed hd]
      by_cases hw : src.bits ≤ dst.bits
      · have := PTy.half_le hw; simp only [hw, true_or, true_iff]; omega
      · have := PTy.full_le_half (Nat.lt_of_not_le hw)
        have hm : src.InRange dst.maxV := by
          rw [PTy.inRange_signed hs, dst.maxV_eq, hd]; simp only [if_true]; omega
        have hn : src.InRange dst.minV := by
          rw [PTy.inRange_signed hs, PTy.minV, hd]; simp only [if_true]; omega
        rw [asCast_of_inRange src _ hm, asCast_of_inRange src _ hn, dst.maxV_eq, PTy.minV, hd]
        simp only [hw, false_or, if_true]; omega
  intro c _ hc
  by_cases hx : dst.InRange x
  · rw [if_pos (hc.mpr hx), if_pos hx, asCast_of_inRange dst x hx]
  · rw [if_neg (mt hc.mp hx), if_neg hx]

theorem ok_bind {α β} (a : α) (f : α → Except Panic β) : (Except.ok a >>= f) = f a := rfl

def fitOpt (t : PTy) (v : Int) : Option Int := if t.InRange v then some v else none

theorem fitOpt_bind (a t : PTy) (v : Int) (hsub : t.InRange v → a.InRange v) :
    (fitOpt a v).bind (primTo a t) = fitOpt t v := by
  unfold fitOpt
  by_cases ha : a.InRange v
  · simp only [ha, if_true, Option.bind_some]; exact primTo_spec a t v ha
  · have : ¬ t.InRange v := fun h => ha (hsub h)
    simp [ha, this]

theorem canon_len_le_one {x : List Nat} (h : Canon x) : x.length ≤ 1 ↔ val x < B := by
  rw [canon_length_le_iff h, Nat.pow_one]

theorem shl0_mod {d k : Nat} (hd : d < 2 ^ k) : (d <<< 0) % 2 ^ k = d := by
  rw [Nat.shiftLeft_zero]; exact Nat.mod_eq_of_lt hd

theorem digit_lt {d : Nat} {r : List Nat} (h : DigitsOk (d :: r)) : d < 2 ^ 64 :=
  digit_lt_of_mem h (List.mem_cons_self ..)

/-- `BigUint::to_u64` never trips the `+=` overflow check and returns the value iff it is one digit -/
theorem toU64_spec {x : List Nat} (h : Canon x) :
    U.toU64 x = .ok (if val x < 2 ^ 64 then some (val x) else none) := by
  have hl := canon_len_le_one h
  rw [B_eq] at hl
  unfold U.toU64
  cases x with
  | nil => rw [if_pos (hl.mp (Nat.zero_le _))]; rfl
  | cons d r =>
    have hd : d < 2 ^ 64 := digit_lt h.1
    -- the first digit is added to 0 without overflow; a second digit finds `bits = 64`
    unfold toU64Loop
    rw [if_neg (by decide)]
    dsimp only
    rw [if_neg (by rw [shl0_mod hd]; omega), shl0_mod hd, Nat.zero_add]
    cases r with
    | nil => rw [if_pos (hl.mp (Nat.le_refl _)), show val [d] = d by simp [val]]; rfl
    | cons e r =>
      unfold toU64Loop
      rw [if_pos (by decide), if_neg (mt hl.mpr (by simp))]

/-- `BigUint::to_u128` returns the value iff it has at most two digits -/
theorem toU128_spec {x : List Nat} (h : Canon x) :
    U.toU128 x = if val x < 2 ^ 128 then some (val x) else none := by
  have hl := canon_length_le_iff h 2
  rw [show B ^ 2 = 2 ^ 128 by decide] at hl
  unfold U.toU128
  cases x with
  | nil => rw [if_pos (hl.mp (Nat.zero_le _))]; rfl
  | cons d r =>
    have hd : d < 2 ^ 64 := digit_lt h.1
    unfold toU128Loop
    rw [if_neg (by decide), shl0_mod (show d < 2 ^ 128 by omega), Nat.zero_or]
    cases r with
    | nil => rw [if_pos (hl.mp (by simp)), show val [d] = d by simp [val]]; rfl
    | cons c r =>
      have hc : c < 2 ^ 64 := digit_lt h.1.tail
      -- the second digit lands above the first: `|` is `+`
      unfold toU128Loop
      rw [if_neg (by decide)]
      cases r with
      | nil =>
        have e2 : (c <<< (0 + digitBits)) % 2 ^ 128 = c <<< 64 :=
          Nat.mod_eq_of_lt (by show c <<< 64 < 2 ^ 128; rw [Nat.shiftLeft_eq]; omega)
        have hv : val [d, c] = c <<< 64 + d := by
          simp only [val, Nat.shiftLeft_eq, B_eq]; omega
        rw [if_pos (hl.mp (by simp)), e2, Nat.or_comm, ← Nat.shiftLeft_add_eq_or_of_lt hd c, hv]
        rfl
      | cons b r =>
        unfold toU128Loop
        rw [if_pos (by decide), if_neg (mt hl.mpr (by simp))]

theorem fromU64_eq_ofNat (n : Nat) : U.fromU64 n = ofNat n := by
  induction n using Nat.strongRecOn with
  | _ n ih =>
    unfold U.fromU64 ofNat
    by_cases h : n = 0
    · simp [h]
    · simp only [h, dite_false]
      have e : n / 2 / 2 ^ (digitBits - 1) = n / B := by
        rw [Nat.div_div_eq_div_mul]; rfl
      rw [e, ih (n / B) (Nat.div_lt_self (Nat.pos_of_ne_zero h) (by decide))]

theorem fromU128_eq_ofNat (n : Nat) : U.fromU128 n = ofNat n := by
  induction n using Nat.strongRecOn with
  | _ n ih =>
    unfold U.fromU128 ofNat
    by_cases h : n = 0
    · simp [h]
    · simp only [h, dite_false]
      have e : n / 2 ^ digitBits = n / B := rfl
      rw [e, ih (n / B) (Nat.div_lt_self (Nat.pos_of_ne_zero h) (by decide))]

end NB.Conv
