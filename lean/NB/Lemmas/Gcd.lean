/- helper lemmas for C13: trailing zeros, Stein's loop, the extended Euclid loop, mod_floor -/
import NB.Model.Gcd
import NB.Lemmas.Base
import NB.Lemmas.Canon
import Mathlib.Tactic.Ring
namespace NB.Gcd
open NB.IntVal

theorem tzLoop_spec : ∀ (fuel x : Nat), x ≠ 0 → x < 2 ^ fuel →
    2 ^ tzLoop fuel x ∣ x ∧ (x / 2 ^ tzLoop fuel x) % 2 = 1 := by
  intro fuel
  induction fuel with
  | zero => intro x h0 h; exact absurd (Nat.lt_one_iff.mp h) h0
  | succ fuel ih =>
    intro x h0 h
    rw [tzLoop]
    by_cases hc : x % 2 = 1
    · rw [if_pos hc, pow_zero, Nat.div_one]; exact ⟨one_dvd x, hc⟩
    · -- `x = 2 y`, and both claims are those for `y` with a factor 2 cancelled
      obtain ⟨y, rfl⟩ := Nat.dvd_of_mod_eq_zero ((Nat.mod_two_eq_zero_or_one x).resolve_right hc)
      rw [pow_succ'] at h
      rw [if_neg hc, Nat.add_comm, pow_succ', Nat.mul_div_cancel_left y (by decide),
        Nat.mul_div_mul_left _ _ (by decide)]
      obtain ⟨h1, h2⟩ := ih y (fun hy => h0 (by rw [hy])) (Nat.lt_of_mul_lt_mul_left h)
      exact ⟨Nat.mul_dvd_mul_left 2 h1, h2⟩

/-- `twos x` is the 2-adic valuation: `x = 2^(twos x) · odd` -/
theorem twos_spec {x : Nat} (hx : x ≠ 0) : 2 ^ twos x ∣ x ∧ (x / 2 ^ twos x) % 2 = 1 := by
  unfold twos
  rw [if_neg hx]
  exact tzLoop_spec _ x hx Nat.lt_log2_self

theorem shr_twos_odd {x : Nat} (hx : x ≠ 0) : (x >>> twos x) % 2 = 1 := by
  rw [Nat.shiftRight_eq_div_pow]; exact (twos_spec hx).2

theorem shr_twos_mul {x : Nat} (hx : x ≠ 0) : (x >>> twos x) * 2 ^ twos x = x := by
  rw [Nat.shiftRight_eq_div_pow]; exact Nat.div_mul_cancel (twos_spec hx).1

theorem coprime_two_of_odd {n : Nat} (h : n % 2 = 1) : Nat.Coprime 2 n := by
  unfold Nat.Coprime; rw [Nat.gcd_rec, h]; rfl

/-- powers of two can be dropped against an odd number -/
theorem gcd_mul_two_pow_odd (m k : Nat) {n : Nat} (h : n % 2 = 1) : Nat.gcd (m * 2 ^ k) n = Nat.gcd m n :=
  Nat.Coprime.gcd_mul_right_cancel m (Nat.Coprime.pow_left k (coprime_two_of_odd h))

/-- a power of two dividing `2^b · odd` divides `2^b` -/
theorem le_of_two_pow_dvd {a b y : Nat} (hy : y % 2 = 1) (h : 2 ^ a ∣ 2 ^ b * y) : a ≤ b :=
  (Nat.pow_dvd_pow_iff_le_right (by decide)).mp
    ((Nat.Coprime.pow_left a (coprime_two_of_odd hy)).dvd_of_dvd_mul_right h)

theorem gcd_shr_twos {m n : Nat} (hm : m ≠ 0) (hn : n % 2 = 1) : Nat.gcd (m >>> twos m) n = Nat.gcd m n := by
  conv_rhs => rw [← shr_twos_mul hm]
  rw [gcd_mul_two_pow_odd _ _ hn]

/-- one pass of the loop, with the swap resolved -/
theorem steinLoop_succ (fuel : Nat) {m : Nat} (n : Nat) (hm : m ≠ 0) :
    steinLoop (fuel + 1) m n =
      if n > m >>> twos m then
        (if n < m >>> twos m then .error .underflow else steinLoop fuel (n - m >>> twos m) (m >>> twos m))
      else (if m >>> twos m < n then .error .underflow else steinLoop fuel (m >>> twos m - n) n) := by
  rw [steinLoop, if_pos hm]
  by_cases hc : n > m >>> twos m
  · simp only [hc, if_true]
  · simp only [hc, if_false]

/-- with `n` odd the loop returns `gcd m n`; fuel `m + n + 1` suffices; `m -= &n` never underflows -/
theorem steinLoop_spec : ∀ (fuel m n : Nat), n % 2 = 1 → m + n < fuel → steinLoop fuel m n = .ok (Nat.gcd m n) := by
  intro fuel
  induction fuel with
  | zero => intro m n _ h; exact absurd h (Nat.not_lt_zero _)
  | succ fuel ih =>
    intro m n hn hf
    by_cases hm : m = 0
    · rw [steinLoop, if_neg (not_not.mpr hm), hm, Nat.gcd_zero_left]
    · -- the shifted `m1` is odd, no larger than `m`, and has the same gcd with the odd `n`
      rw [steinLoop_succ fuel n hm, ← gcd_shr_twos hm hn]
      have hodd := shr_twos_odd hm
      have hle : m >>> twos m ≤ m := Nat.shiftRight_le _ _
      generalize m >>> twos m = m1 at hodd hle ⊢
      have hn0 : 0 < n := Nat.pos_of_ne_zero (fun h => by rw [h] at hn; cases hn)
      have hnf : n < fuel :=
        Nat.lt_of_lt_of_le (Nat.lt_add_of_pos_left (Nat.pos_of_ne_zero hm)) (Nat.le_of_lt_succ hf)
      have hmf : m1 < fuel :=
        Nat.lt_of_le_of_lt hle (Nat.lt_of_lt_of_le (Nat.lt_add_of_pos_right hn0) (Nat.le_of_lt_succ hf))
      by_cases hc : n > m1
      · rw [if_pos hc, if_neg (Nat.lt_asymm hc), ih (n - m1) m1 hodd (by rwa [Nat.sub_add_cancel hc.le]),
          Nat.gcd_sub_self_left hc.le, Nat.gcd_comm]
      · have hc' := Nat.le_of_not_gt hc
        rw [if_neg hc, if_neg hc, ih (m1 - n) n hn (by rwa [Nat.sub_add_cancel hc']), Nat.gcd_sub_self_left hc']

/-- the common power of two of `a' 2^ta` and `b' 2^tb` (`a'`, `b'` odd) is `2^min` -/
theorem gcd_two_pow_mul {a' b' : Nat} (ta tb : Nat) (ha : a' % 2 = 1) (hb : b' % 2 = 1) :
    Nat.gcd (a' * 2 ^ ta) b' * 2 ^ min tb ta = Nat.gcd (a' * 2 ^ ta) (b' * 2 ^ tb) := by
  rw [gcd_mul_two_pow_odd a' ta hb]
  rcases Nat.le_total tb ta with h | h
  · obtain ⟨d, rfl⟩ := Nat.exists_eq_add_of_le h
    rw [Nat.min_eq_left h, pow_add, ← Nat.mul_assoc, Nat.mul_right_comm, Nat.gcd_mul_right,
      gcd_mul_two_pow_odd a' d hb]
  · obtain ⟨d, rfl⟩ := Nat.exists_eq_add_of_le h
    rw [Nat.min_eq_right h, pow_add, ← Nat.mul_assoc, Nat.mul_right_comm b', Nat.gcd_mul_right,
      Nat.gcd_comm a' (b' * 2 ^ d), gcd_mul_two_pow_odd b' d ha, Nat.gcd_comm]

theorem gcd_ok (a b : Nat) : gcd a b = .ok (Nat.gcd a b) := by
  unfold gcd
  by_cases ha : a = 0
  · rw [if_pos ha, ha, Nat.gcd_zero_left]
  · by_cases hb : b = 0
    · rw [if_neg ha, if_pos hb, hb, Nat.gcd_zero_right]
    · rw [if_neg ha, if_neg hb]
      have hs := steinLoop_spec (steinFuel a (b >>> twos b)) a _ (shr_twos_odd hb) (Nat.lt_succ_self _)
      simp only [hs, Nat.shiftLeft_eq]
      have h := gcd_two_pow_mul (twos a) (twos b) (shr_twos_odd ha) (shr_twos_odd hb)
      rw [shr_twos_mul ha, shr_twos_mul hb] at h
      rw [h]

theorem div_gcd_mul (a b : Nat) : a / Nat.gcd a b * b = Nat.lcm a b :=
  Nat.div_mul_right_comm (Nat.gcd_dvd_left a b) b

theorem lcm_ok (a b : Nat) : lcm a b = .ok (Nat.lcm a b) := by
  unfold lcm
  by_cases h0 : a = 0 ∧ b = 0
  · rw [if_pos h0, h0.1, Nat.lcm_zero_left]
  · have hg : Nat.gcd a b ≠ 0 := fun h => h0 (Nat.gcd_eq_zero_iff.mp h)
    simp only [h0, hg, if_false, gcd_ok, udiv, div_gcd_mul]

theorem gcdLcm_ok (a b : Nat) : gcdLcm a b = .ok (Nat.gcd a b, Nat.lcm a b) := by
  unfold gcdLcm
  simp only [gcd_ok, udiv]
  by_cases hg : Nat.gcd a b = 0
  · rw [if_pos hg, (Nat.gcd_eq_zero_iff.mp hg).1, Nat.lcm_zero_left, Nat.gcd_zero_left,
      (Nat.gcd_eq_zero_iff.mp hg).2]
  · simp only [hg, if_false, div_gcd_mul]

theorem isMultipleOf_ok (a b : Nat) : isMultipleOf a b = .ok (decide (b ∣ a)) := by
  unfold isMultipleOf umod
  by_cases hb : b = 0
  · rw [if_pos hb, hb]; simp only [Nat.zero_dvd]
  · simp only [hb, if_false, Nat.dvd_iff_mod_eq_zero]

theorem isEven_ok (ds : List Nat) : isEven ds = decide (val ds % 2 = 0) := by
  unfold isEven
  cases ds with
  | nil => rfl
  | cons d t =>
    -- `B` is even, so only the first digit matters
    obtain ⟨k, hk⟩ : 2 ∣ B := by decide
    simp only [List.head?_cons, val, hk, Nat.mul_assoc, Nat.add_mul_mod_self_left]

theorem isOdd_ok (ds : List Nat) : isOdd ds = decide (val ds % 2 = 1) := by
  unfold isOdd
  rw [isEven_ok]
  rcases Nat.mod_two_eq_zero_or_one (val ds) with h | h <;> rw [h] <;> rfl

/-- rounding up to a multiple of `b`, in terms of the remainder -/
theorem ceil_mul_eq (a : Nat) {b : Nat} (hb : 0 < b) :
    (a + b - 1) / b * b = if a % b = 0 then a else a + (b - a % b) := by
  have hlt := Nat.mod_lt a hb
  have h := Nat.div_add_mod a b
  generalize a / b = q at h
  generalize a % b = r at h hlt ⊢
  subst h
  cases r with
  | zero =>
    rw [if_pos rfl, Nat.add_zero, Nat.add_sub_assoc hb, Nat.mul_add_div hb,
      Nat.div_eq_of_lt (Nat.sub_lt hb Nat.one_pos), Nat.add_zero, Nat.mul_comm]
  | succ r =>
    -- `b q + (r+1) + b - 1 = b (q+1) + r` with `r < b`
    rw [if_neg (Nat.succ_ne_zero r), Nat.add_right_comm, ← Nat.add_assoc, Nat.add_sub_cancel, ← Nat.mul_succ,
      Nat.mul_add_div hb, Nat.div_eq_of_lt (Nat.lt_of_succ_lt hlt), Nat.add_zero, Nat.mul_comm, Nat.mul_succ,
      Nat.add_assoc, Nat.add_sub_cancel' hlt.le]

theorem egcdLoop_spec (a b : Int) : ∀ (fuel : Nat) (s0 s1 t0 t1 r0 r1 : Int),
    a * s0 + b * t0 = r0 → a * s1 + b * t1 = r1 → r0.natAbs < fuel →
    ∃ g x y, egcdLoop fuel s0 s1 t0 t1 r0 r1 = .ok (g, x, y) ∧ a * x + b * y = g ∧ g.natAbs = Int.gcd r0 r1 := by
  intro fuel
  induction fuel with
  | zero => intro _ _ _ _ _ _ _ _ h; exact absurd h (Nat.not_lt_zero _)
  | succ fuel ih =>
    intro s0 s1 t0 t1 r0 r1 h0 h1 hf
    rw [egcdLoop]
    by_cases hr : r0 = 0
    · rw [if_neg (not_not.mpr hr), hr, Int.gcd_zero_left]
      exact ⟨r1, s1, t1, rfl, h1, rfl⟩
    · simp only [hr, ne_eq, not_false_eq_true, if_true, idiv, if_false]
      -- the new `r.0` is the truncated remainder, of smaller magnitude
      have hdec : (r1 - Int.tdiv r1 r0 * r0).natAbs < fuel := by
        rw [Int.mul_comm, ← Int.tmod_def, Int.natAbs_tmod]
        exact Nat.lt_of_lt_of_le (Nat.mod_lt _ (Int.natAbs_pos.mpr hr)) (Nat.le_of_lt_succ hf)
      obtain ⟨g, x, y, e, hxy, hg⟩ := ih (s1 - Int.tdiv r1 r0 * s0) s0 (t1 - Int.tdiv r1 r0 * t0) t0
        (r1 - Int.tdiv r1 r0 * r0) r0 (by rw [← h0, ← h1]; ring) h0 hdec
      exact ⟨g, x, y, e, hxy, by rw [hg, Int.gcd_sub_mul_right_left, Int.gcd_comm]⟩

theorem extendedGcd_ok (a b : Int) : ∃ x y, extendedGcd a b = .ok ((Int.gcd a b : Int), x, y) ∧
    a * x + b * y = (Int.gcd a b : Int) := by
  unfold extendedGcd
  obtain ⟨g, x, y, e, hxy, hg⟩ := egcdLoop_spec a b (egcdFuel b) 0 1 1 0 b a (by ring) (by ring)
    (Nat.lt_succ_self _)
  rw [e]
  rw [Int.gcd_comm] at hg
  simp only
  by_cases hpos : g ≥ 0
  · rw [if_pos hpos, ← hg, Int.natAbs_of_nonneg hpos]
    exact ⟨x, y, rfl, hxy⟩
  · rw [if_neg hpos, ← hg, Int.ofNat_natAbs_of_nonpos (Int.le_of_lt (Int.not_le.mp hpos)), Int.zero_sub]
    exact ⟨0 - x, 0 - y, rfl, by rw [← hxy]; ring⟩

theorem fmod_unique {a b q m : Int} (h : a = b * q + m) (hp : 0 < b → 0 ≤ m ∧ m < b) (hn : b < 0 → b < m ∧ m ≤ 0)
    (hb : b ≠ 0) : Int.fmod a b = m := by
  rw [h, Int.add_comm, Int.add_mul_fmod_self_left]
  rcases Int.lt_or_gt_of_ne hb with hneg | hpos
  · have e := Int.neg_fmod_neg (-m) (-b)
    rw [neg_neg, neg_neg] at e
    rw [e, Int.fmod_eq_of_lt (by have := hn hneg; omega) (by have := hn hneg; omega), neg_neg]
  · exact Int.fmod_eq_of_lt (hp hpos).1 (hp hpos).2

theorem fmod_decomp (a b : Int) :
    a = b * Int.fdiv a b + Int.fmod a b ∧ (0 < b → 0 ≤ Int.fmod a b ∧ Int.fmod a b < b) ∧
    (b < 0 → b < Int.fmod a b ∧ Int.fmod a b ≤ 0) := by
  refine ⟨by rw [Int.fmod_def]; ring, fun h => ⟨Int.fmod_nonneg_of_pos a h, Int.fmod_lt_of_pos a h⟩, fun h => ?_⟩
  have e := Int.neg_fmod_neg (-a) (-b)
  rw [neg_neg, neg_neg] at e
  have h1 := Int.fmod_nonneg_of_pos (-a) (show 0 < -b by omega)
  have h2 := Int.fmod_lt_of_pos (-a) (show 0 < -b by omega)
  omega

theorem fmod_neg_left (a : Int) {b : Int} (hb : b ≠ 0) :
    Int.fmod (-a) b = if Int.fmod a b = 0 then 0 else b - Int.fmod a b := by
  obtain ⟨h1, h2, h3⟩ := fmod_decomp a b
  by_cases h0 : Int.fmod a b = 0
  · rw [if_pos h0]
    refine fmod_unique (q := - Int.fdiv a b) ?_ (fun h => ⟨Int.le_refl 0, h⟩) (fun h => ⟨h, Int.le_refl 0⟩) hb
    rw [h0] at h1; conv_lhs => rw [h1]
    ring
  · rw [if_neg h0]
    refine fmod_unique (q := - Int.fdiv a b - 1) ?_ (fun h => by have := h2 h; omega)
      (fun h => by have := h3 h; omega) hb
    conv_lhs => rw [h1]
    ring

theorem signOf_neg {x : Int} (h : x < 0) : signOf x = .minus := if_pos h

theorem signOf_pos {x : Int} (h : 0 < x) : signOf x = .plus := by
  unfold signOf; rw [if_neg (by omega), if_neg (by omega)]

/-- the arm of `mod_floor` for operands of opposite sign, `m` being the floored remainder of `-a` -/
theorem ok_fmod_of_neg {a b m : Int} (hb : b ≠ 0) (hm : m = Int.fmod (-a) b) :
    (if m = 0 then Except.ok m else .ok (b - m) : Except Panic Int) = .ok (Int.fmod a b) := by
  have h := fmod_neg_left (-a) hb
  rw [neg_neg, ← hm] at h
  rw [h]
  by_cases h0 : m = 0
  · rw [if_pos h0, if_pos h0, h0]
  · rw [if_neg h0, if_neg h0]

theorem bigintModFloor_ok (a : Int) {b : Int} (hb : b ≠ 0) : bigintModFloor a b = .ok (Int.fmod a b) := by
  unfold bigintModFloor umod
  rw [if_neg (Int.natAbs_ne_zero.mpr hb)]
  dsimp only
  -- the remainder of the magnitudes with the sign of `b` is the floored remainder of `±|a|`, sign as `b`
  have hm : fromBiguint (signOf b) (a.natAbs % b.natAbs) =
      Int.fmod (if b < 0 then -(a.natAbs : Int) else a.natAbs) b := by
    by_cases hb' : b < 0
    · rw [signOf_neg hb', if_pos hb']
      conv_rhs => rw [← Int.neg_neg b, ← Int.ofNat_natAbs_of_nonpos (Int.le_of_lt hb'), Int.neg_fmod_neg,
        ← Int.ofNat_fmod]
      rfl
    · rw [signOf_pos (by omega), if_neg hb']
      conv_rhs => rw [← Int.natAbs_of_nonneg (Int.not_lt.mp hb'), ← Int.ofNat_fmod]
      rfl
  generalize fromBiguint (signOf b) (a.natAbs % b.natAbs) = m at hm ⊢
  -- same signs (or `a = 0 < b`): `±|a| = a`; opposite signs (or `a = 0 > b`): `±|a| = -a`
  rcases Int.lt_or_gt_of_ne hb with hb' | hb'
  · rw [signOf_neg hb']; rw [if_pos hb'] at hm
    rcases lt_trichotomy a 0 with ha | ha | ha
    · rw [signOf_neg ha]
      show Except.ok m = _
      rw [hm, Int.ofNat_natAbs_of_nonpos (Int.le_of_lt ha), Int.neg_neg]
    · rw [ha]
      exact ok_fmod_of_neg hb (by rw [hm, ha]; rfl)
    · rw [signOf_pos ha]
      exact ok_fmod_of_neg hb (by rw [hm, Int.natAbs_of_nonneg (Int.le_of_lt ha)])
  · rw [signOf_pos hb']; rw [if_neg (Int.not_lt.mpr (Int.le_of_lt hb'))] at hm
    rcases lt_trichotomy a 0 with ha | ha | ha
    · rw [signOf_neg ha]
      exact ok_fmod_of_neg hb (by rw [hm, Int.ofNat_natAbs_of_nonpos (Int.le_of_lt ha)])
    · rw [ha]
      show Except.ok m = _
      rw [hm, ha]; rfl
    · rw [signOf_pos ha]
      show Except.ok m = _
      rw [hm, Int.natAbs_of_nonneg (Int.le_of_lt ha)]

theorem bigintModFloor_zero (a : Int) : bigintModFloor a 0 = .error .divzero := by
  simp [bigintModFloor, umod]

end NB.Gcd
