/- Over a callee that is correct on smaller operands (`MacSpec`, NB.Lemmas.Mac3): the `impl_mul!`
   shape match and BigInt products used inside Toom-3, the Toom-3 branch of `mac3`, the regime
   dispatch and the zero-stripping prologue, i.e. one whole recursion level (`mac3Body_spec`). -/
import NB.Lemmas.Mac3
namespace NB.Mul

theorem mul3With_spec (P : Params) (hP : P.ValidMul) {rec : MacFn} {N : Nat} (hrec : MacSpec rec N)
    (x y : List Nat) (hx : DigitsOk x) (hy : DigitsOk y) (hN : x.length + y.length < N) :
    mul3With P rec x y = .ok (ofNat (val x * val y)) := by
  obtain ⟨r, e, c, v, _⟩ := fresh_mac hrec (x.length + y.length + P.mulSlack) x y hx hy
    (Nat.le_refl _) (Nat.le_refl _) hN
    (Nat.add_le_add_left hP.mulSlack_pos _)
  unfold mul3With
  simp only [e]
  rw [canon_eq_ofNat c, v]

theorem mulMagWith_spec (P : Params) (hP : P.ValidMul) {rec : MacFn} {N : Nat} (hrec : MacSpec rec N)
    (a b : List Nat) (ha : Canon a) (hb : Canon b) (hN : a.length + b.length < N) :
    mulMagWith P rec a b = .ok (ofNat (val a * val b)) := by
  have h0 := ofNat_zero
  rcases a with _ | ⟨a1, _ | ⟨a2, at'⟩⟩ <;> rcases b with _ | ⟨b1, _ | ⟨b2, bt⟩⟩
  · simp [mulMagWith, val, h0]
  · simp [mulMagWith, val, h0]
  · simp [mulMagWith, val, h0]
  · simp [mulMagWith, val, h0]
  · simp only [mulMagWith]
    rw [scalarMul_spec [a1] b1 ha hb.1.head]; simp [val]
  · simp only [mulMagWith]
    rw [scalarMul_spec (b1 :: b2 :: bt) a1 hb ha.1.head]; simp only [val, Nat.mul_zero, Nat.add_zero]
    rw [Nat.mul_comm]
  · simp [mulMagWith, val, h0]
  · simp only [mulMagWith]
    rw [scalarMul_spec (a1 :: a2 :: at') b1 ha hb.1.head]; simp only [val, Nat.mul_zero, Nat.add_zero]
  · simp only [mulMagWith]
    exact mul3With_spec P hP hrec _ _ ha.1 hb.1 hN

theorem mulInt_spec (P : Params) (hP : P.ValidMul) {rec : MacFn} {N : Nat} (hrec : MacSpec rec N)
    (a b : Int) (hN : (ofNat a.natAbs).length + (ofNat b.natAbs).length < N) :
    mulInt P rec a b = .ok (a * b) := by
  unfold mulInt
  rw [mulMagWith_spec P hP hrec _ _ (ofNat_canon _) (ofNat_canon _) hN]
  simp only [ofNat_val]
  congr 1
  have h1 := Int.sign_mul_natAbs a
  have h2 := Int.sign_mul_natAbs b
  calc a.sign * b.sign * ((a.natAbs * b.natAbs : Nat) : Int)
      = (a.sign * (a.natAbs : Int)) * (b.sign * (b.natAbs : Int)) := by push_cast; ring
    _ = a * b := by rw [h1, h2]

/-- the Bodrato interpolation sequence of the Toom-3 branch of `mac3`, as written in the source
    (`/ 3` truncating, `>> 1` flooring), on arbitrary integers -/
theorem toom_interp (x0 x1 x2 y0 y1 y2 : Int) :
    let r0 := x0 * y0
    let r4 := x2 * y2
    let r1 := (x0 + x2 + x1) * (y0 + y2 + y1)
    let r2 := (x0 + x2 - x1) * (y0 + y2 - y1)
    let r3 := ((x0 + x2 - x1 + x2) * 2 - x0) * ((y0 + y2 - y1 + y2) * 2 - y0)
    let c3a := (r3 - r1).tdiv 3
    let c1a := (r1 - r2) >>> 1
    let c2a := r2 - r0
    let c3 := ((c2a - c3a) >>> 1) + r4 * 2
    let c2 := c2a + (c1a - r4)
    let c1 := c1a - c3
    c1 = x0 * y1 + x1 * y0 ∧ c2 = x0 * y2 + x1 * y1 + x2 * y0 ∧ c3 = x1 * y2 + x2 * y1 := by
  intro r0 r4 r1 r2 r3 c3a c1a c2a c3 c2 c1
  have h31 : r3 - r1 = 3 * (-(x0 * y1 + x1 * y0) + (x0 * y2 + x1 * y1 + x2 * y0)
      - 3 * (x1 * y2 + x2 * y1) + 5 * (x2 * y2)) := by
    simp only [r3, r1]; ring
  have hc3a : c3a = -(x0 * y1 + x1 * y0) + (x0 * y2 + x1 * y1 + x2 * y0)
      - 3 * (x1 * y2 + x2 * y1) + 5 * (x2 * y2) := by
    simp only [c3a]; rw [h31]; exact Int.mul_tdiv_cancel_left _ (by decide)
  have h12 : r1 - r2 = 2 * ((x0 * y1 + x1 * y0) + (x1 * y2 + x2 * y1)) := by
    simp only [r1, r2]; ring
  have hc1a : c1a = (x0 * y1 + x1 * y0) + (x1 * y2 + x2 * y1) := by
    simp only [c1a]; rw [h12, Int.shiftRight_eq_div_pow]; exact Int.mul_ediv_cancel_left _ (by decide)
  have hc2a : c2a = -(x0 * y1 + x1 * y0) + (x0 * y2 + x1 * y1 + x2 * y0) - (x1 * y2 + x2 * y1)
      + x2 * y2 := by
    simp only [c2a, r2, r0]; ring
  have h23 : c2a - c3a = 2 * ((x1 * y2 + x2 * y1) - 2 * (x2 * y2)) := by rw [hc2a, hc3a]; ring
  have hc3 : c3 = x1 * y2 + x2 * y1 := by
    simp only [c3]; rw [h23, Int.shiftRight_eq_div_pow]
    rw [show ((2:Int) * (x1 * y2 + x2 * y1 - 2 * (x2 * y2))) / ((2 ^ 1 : Nat) : Int)
        = x1 * y2 + x2 * y1 - 2 * (x2 * y2) from Int.mul_ediv_cancel_left _ (by decide)]
    simp only [r4]; ring
  refine ⟨?_, ?_, hc3⟩
  · simp only [c1]; rw [hc1a, hc3]; ring
  · simp only [c2]; rw [hc2a, hc1a]; simp only [r4]; ring

/-- in the Toom-3 regime the part length `i` satisfies `i + 2 ≤ x.len()` -/
theorem toom_i_bound (P : Params) (hP : P.ValidMul) (lx ly : Nat) (h1 : P.tKara < lx)
    (h2 : ¬ lx * P.halfMul ≤ ly) : ly / P.toomDen + P.toomAdd + 2 ≤ lx := by
  have hden := hP.halfMul_lt_toomDen
  have hk := hP.toom_le_tKara
  clear hP
  have hq : P.toomDen * (ly / P.toomDen) ≤ ly := Nat.mul_div_le _ _
  generalize ly / P.toomDen = q at *
  by_contra hlt
  have hle : lx ≤ q + P.toomAdd + 1 := by omega
  have a1 : lx * P.halfMul ≤ (q + P.toomAdd + 1) * P.halfMul := Nat.mul_le_mul_right _ hle
  have a2 : (P.halfMul + 1) * q ≤ P.toomDen * q := Nat.mul_le_mul_right _ hden
  have e1 : (q + P.toomAdd + 1) * P.halfMul = q * P.halfMul + (P.toomAdd + 1) * P.halfMul := by ring
  have e2 : (P.halfMul + 1) * q = q * P.halfMul + q := by ring
  have e3 : (P.halfMul + 1) * (P.toomAdd + 1) = (P.toomAdd + 1) * P.halfMul + (P.toomAdd + 1) := by ring
  rw [e1] at a1; rw [e2] at a2; rw [e3] at hk
  generalize q * P.halfMul = u at *
  generalize (P.toomAdd + 1) * P.halfMul = v at *
  omega

theorem toomSplit_spec (x : List Nat) (hx : DigitsOk x) (i : Nat) (hi : i ≤ x.length) :
    ∃ X0 X1 X2 : Nat, toomSplit i (min (x.length - i) i) x = ((X0 : Int), (X1 : Int), (X2 : Int)) ∧
      val x = X0 + B ^ i * X1 + B ^ i * B ^ i * X2 ∧ X0 < B ^ i ∧ X1 < B ^ i ∧
      X2 < B ^ (x.length - 2 * i) := by
  refine ⟨_, _, _, rfl, ?_, ?_, ?_, ?_⟩
  · have h1 := val_split_at x i
    by_cases hc : i ≤ x.length - i
    · rw [Nat.min_eq_right hc]
      have hdl : (x.drop i).length = x.length - i := List.length_drop
      have h2 := val_split_at (x.drop i) i
      rw [List.drop_drop] at h2
      rw [h1, h2]; ring
    · have hm : min (x.length - i) i = x.length - i := Nat.min_eq_left (by omega)
      rw [hm]
      have hdl : (x.drop i).length = x.length - i := List.length_drop
      have ht : (x.drop i).take (x.length - i) = x.drop i := List.take_of_length_le (by rw [hdl])
      rw [ht]
      have : i + (x.length - i) = x.length := by omega
      rw [this, List.drop_length]
      simp only [val, Nat.mul_zero, Nat.add_zero]
      exact h1
  · have := val_lt (hx.take i); rwa [List.length_take, Nat.min_eq_left hi] at this
  · exact Nat.lt_of_lt_of_le (val_lt ((hx.drop i).take (min (x.length - i) i)))
      (B_pow_le_pow (Nat.le_trans (List.length_take_le _ _) (Nat.min_le_right _ _)))
  · have h := val_lt (hx.drop (i + min (x.length - i) i))
    refine Nat.lt_of_lt_of_le h (B_pow_le_pow ?_)
    rw [List.length_drop]; omega

/-- every evaluation point of an operand whose parts are `< M` has magnitude `< 7 * M` -/
theorem toomPts_bound (X0 X1 X2 M : Nat) (h0 : X0 < M) (h1 : X1 < M) (h2 : X2 < M) :
    (toomPts X0 X1 X2).1.natAbs < 7 * M ∧ (toomPts X0 X1 X2).2.1.natAbs < 7 * M ∧
    (toomPts X0 X1 X2).2.2.1.natAbs < 7 * M ∧ (toomPts X0 X1 X2).2.2.2.1.natAbs < 7 * M ∧
    (toomPts X0 X1 X2).2.2.2.2.natAbs < 7 * M := by
  simp only [toomPts]
  omega

theorem ofNat_length_of_natAbs_lt {a : Int} {k : Nat} (h : a.natAbs < 7 * B ^ k) :
    (ofNat a.natAbs).length ≤ k + 1 := by
  apply ofNat_length_le
  calc a.natAbs < 7 * B ^ k := h
    _ ≤ B * B ^ k := Nat.mul_le_mul_right _ (by decide)
    _ = B ^ (k + 1) := (pow_succ' B k).symm

theorem toomPoints_spec (x : List Nat) (hx : DigitsOk x) (i k : Nat) (hi : i ≤ x.length) (hk : i ≤ k)
    (hk2 : x.length - 2 * i ≤ k) :
    ∃ X0 X1 X2 : Nat, toomSplit i (min (x.length - i) i) x = ((X0 : Int), (X1 : Int), (X2 : Int)) ∧
      val x = X0 + B ^ i * X1 + B ^ i * B ^ i * X2 ∧
      (toomPts X0 X1 X2).1.natAbs < 7 * B ^ k ∧ (toomPts X0 X1 X2).2.1.natAbs < 7 * B ^ k ∧
      (toomPts X0 X1 X2).2.2.1.natAbs < 7 * B ^ k ∧ (toomPts X0 X1 X2).2.2.2.1.natAbs < 7 * B ^ k ∧
      (toomPts X0 X1 X2).2.2.2.2.natAbs < 7 * B ^ k := by
  obtain ⟨X0, X1, X2, e, v, b0, b1, b2⟩ := toomSplit_spec x hx i hi
  have hM := B_pow_le_pow hk
  exact ⟨X0, X1, X2, e, v, toomPts_bound X0 X1 X2 (B ^ k) (Nat.lt_of_lt_of_le b0 hM)
    (Nat.lt_of_lt_of_le b1 hM) (Nat.lt_of_lt_of_le b2 (B_pow_le_pow hk2))⟩

/-- a point-wise product: each factor is at most one digit longer than its bound -/
theorem toomMul_spec (P : Params) (hP : P.ValidMul) {rec : MacFn} {N : Nat} (hrec : MacSpec rec N)
    {a b : Int} {kx ky : Nat} (ha : a.natAbs < 7 * B ^ kx) (hb : b.natAbs < 7 * B ^ ky)
    (hN : kx + 1 + (ky + 1) < N) : mulInt P rec a b = .ok (a * b) :=
  mulInt_spec P hP hrec a b (Nat.lt_of_le_of_lt
    (Nat.add_le_add (ofNat_length_of_natAbs_lt ha) (ofNat_length_of_natAbs_lt hb)) hN)

theorem ofNat_length_add_le {off n k : Nat} (hn : 0 < n) (h : B ^ off * n < B ^ k) :
    off + (ofNat n).length ≤ k := by
  have hne := mx_ofNat_ne_nil hn
  have hge := canon_val_ge (ofNat_canon n) hne
  rw [ofNat_val] at hge
  have h2 : B ^ (off + ((ofNat n).length - 1)) < B ^ k := by
    rw [pow_add]; exact Nat.lt_of_le_of_lt (Nat.mul_le_mul_left _ hge) h
  have h3 := (Nat.pow_lt_pow_iff_right one_lt_B).mp h2
  have h4 := List.length_pos_iff.mpr hne
  omega

/-- one recomposition step with a non-negative coefficient -/
theorem toomAdd1_spec (P : Params) (off : Nat) (wn : Nat) (acc : List Nat)
    (ha : DigitsOk acc) (hv : val acc + B ^ off * wn < B ^ (acc.length - 1)) :
    Adds (toomAdd1 P off (wn : Int) acc) acc (B ^ off * wn) := by
  unfold toomAdd1
  by_cases h0 : wn = 0
  · subst h0
    simp only [Int.natCast_zero, lt_self_iff_false, if_false]
    exact ⟨acc, rfl, by simp, rfl, ha⟩
  · have hpos : (0 : Int) < (wn : Int) := Int.natCast_pos.mpr (Nat.pos_of_ne_zero h0)
    simp only [gt_iff_lt, hpos, if_true, Int.natAbs_natCast]
    have hlen := ofNat_length_add_le (Nat.pos_of_ne_zero h0)
      (Nat.lt_of_le_of_lt (Nat.le_add_left _ _) hv)
    obtain ⟨r, e, v, l, d⟩ := addAt_spec P off acc (ofNat wn) ha (ofNat_digitsOk _)
      (Nat.le_trans hlen (Nat.sub_le _ _))
      (by rw [ofNat_val]; exact Nat.lt_of_lt_of_le hv (B_pow_le_pow (Nat.sub_le _ _)))
    rw [ofNat_val] at v
    exact ⟨r, e, v, l, d⟩

/-- the product of two three-part operands, in the order of the recomposition loop; the offsets
    are written `i * j` (also `i * 1`, `i * 0`) because that is what `&mut acc[i * j..]` unfolds to -/
theorem toom_expand (X0 X1 X2 Y0 Y1 Y2 : Nat) (i : Nat) :
    (X0 + B ^ i * X1 + B ^ i * B ^ i * X2) * (Y0 + B ^ i * Y1 + B ^ i * B ^ i * Y2)
      = B ^ (i * 4) * (X2 * Y2) + (B ^ (i * 3) * (X1 * Y2 + X2 * Y1)
        + (B ^ (i * 2) * (X0 * Y2 + X1 * Y1 + X2 * Y0) + (B ^ (i * 1) * (X0 * Y1 + X1 * Y0)
        + B ^ (i * 0) * (X0 * Y0)))) := by
  simp only [pow_mul]
  ring

/-- the recomposition loop (from `j = 4` down) with non-negative coefficients; each step peels
    one term off the bounded total -/
theorem toomRecompose_spec (P : Params) (i : Nat) (acc : List Nat) (ha : DigitsOk acc)
    (w0 w1 w2 w3 w4 : Nat)
    (hv : val acc + (B ^ (i * 4) * w4 + (B ^ (i * 3) * w3 + (B ^ (i * 2) * w2 + (B ^ (i * 1) * w1
      + B ^ (i * 0) * w0)))) < B ^ (acc.length - 1)) :
    Adds (toomAdd1 P (i * 4) (w4 : Int) acc >>= fun a => toomAdd1 P (i * 3) (w3 : Int) a >>= fun a =>
        toomAdd1 P (i * 2) (w2 : Int) a >>= fun a => toomAdd1 P (i * 1) (w1 : Int) a >>= fun a =>
        toomAdd1 P (i * 0) (w0 : Int) a) acc
      (B ^ (i * 4) * w4 + (B ^ (i * 3) * w3 + (B ^ (i * 2) * w2 + (B ^ (i * 1) * w1
        + B ^ (i * 0) * w0)))) := by
  refine (toomAdd1_spec P (i * 4) w4 acc ha (lt_of_add_rest hv)).bind fun a4 v4 l4 d4 => ?_
  rw [← Nat.add_assoc (val acc), ← v4, ← l4] at hv
  refine (toomAdd1_spec P (i * 3) w3 a4 d4 (lt_of_add_rest hv)).bind fun a3 v3 l3 d3 => ?_
  rw [← Nat.add_assoc (val a4), ← v3, ← l3] at hv
  refine (toomAdd1_spec P (i * 2) w2 a3 d3 (lt_of_add_rest hv)).bind fun a2 v2 l2 d2 => ?_
  rw [← Nat.add_assoc (val a3), ← v2, ← l2] at hv
  refine (toomAdd1_spec P (i * 1) w1 a2 d2 (lt_of_add_rest hv)).bind fun a1 v1 l1 d1 => ?_
  rw [← Nat.add_assoc (val a2), ← v1, ← l1] at hv
  exact toomAdd1_spec P (i * 0) w0 a1 d1 hv

theorem toom3_spec (P : Params) (hP : P.ValidMul) {rec : MacFn} {N : Nat} (hrec : MacSpec rec N)
    (acc x y : List Nat) (hpre : MacPre acc x y) (hN : x.length + y.length ≤ N)
    (hxy : x.length ≤ y.length) (hk : P.tKara < x.length) (hh : ¬ x.length * P.halfMul ≤ y.length) :
    MacOk (toom3 P rec) acc x y := by
  have hi := toom_i_bound P hP x.length y.length hk hh
  have hi1 : 1 ≤ y.length / P.toomDen + P.toomAdd := Nat.le_trans hP.toomAdd_pos (Nat.le_add_left _ _)
  clear hk hh
  unfold MacOk toom3
  dsimp only
  generalize y.length / P.toomDen + P.toomAdd = i at hi hi1 ⊢
  have hix : i ≤ x.length := by omega
  have hiy : i ≤ y.length := by omega
  rw [(lenGe_iff y i).mpr hiy, Nat.min_eq_right hix]
  simp only [if_true]
  have hN' : x.length - 2 + 1 + (y.length - 2 + 1) < N := by omega
  have hkx : i ≤ x.length - 2 ∧ x.length - 2 * i ≤ x.length - 2 := by omega
  have hky : i ≤ y.length - 2 ∧ y.length - 2 * i ≤ y.length - 2 := by omega
  obtain ⟨ha, hx, hy, -, hv⟩ := hpre
  obtain ⟨X0, X1, X2, ex, vx, px0, px1, px2, px3, px4⟩ := toomPoints_spec x hx i (x.length - 2) hix
    hkx.1 hkx.2
  obtain ⟨Y0, Y1, Y2, ey, vy, py0, py1, py2, py3, py4⟩ := toomPoints_spec y hy i (y.length - 2) hiy
    hky.1 hky.2
  rw [ex, ey]
  simp only [toomMul_spec P hP hrec px0 py0 hN', toomMul_spec P hP hrec px1 py1 hN',
    toomMul_spec P hP hrec px2 py2 hN', toomMul_spec P hP hrec px3 py3 hN',
    toomMul_spec P hP hrec px4 py4 hN', mx_ok_bind]
  simp only [toomPts]
  obtain ⟨h1, h2, h3⟩ := toom_interp X0 X1 X2 Y0 Y1 Y2
  rw [h1, h2, h3]
  -- all five interpolated coefficients are naturals, so the recomposition only ever adds
  have hexp := toom_expand X0 X1 X2 Y0 Y1 Y2 i
  rw [vx, vy, hexp] at hv ⊢
  simp only [← Int.natCast_mul, ← Int.natCast_add]
  exact toomRecompose_spec P i acc ha _ _ _ _ _ hv

theorem mac3Core_spec_of_le (P : Params) (hP : P.ValidMul) {rec : MacFn} {N : Nat} (hrec : MacSpec rec N)
    (acc x y : List Nat) (hpre : MacPre acc x y) (hN : x.length + y.length ≤ N)
    (hxy : x.length ≤ y.length) :
    Adds (if x.length ≤ P.tSchool then school P acc y x
          else if x.length * P.halfMul ≤ y.length then halfKara P rec acc x y
          else if x.length ≤ P.tKara then karatsuba P rec acc x y
          else toom3 P rec acc x y) acc (val x * val y) := by
  by_cases h1 : x.length ≤ P.tSchool
  · rw [if_pos h1]
    obtain ⟨ha, hx, hy, hl, hv⟩ := hpre
    have hpow : B ^ (acc.length - 1) ≤ B ^ acc.length := B_pow_le_pow (by omega)
    obtain ⟨r, e, v, l, d⟩ := school_spec P y hy x acc hx ha (by intro _; omega)
      (by rw [Nat.mul_comm]; omega)
    exact ⟨r, e, by rw [v, Nat.mul_comm], l, d⟩
  rw [if_neg h1]
  by_cases h2 : x.length * P.halfMul ≤ y.length
  · rw [if_pos h2]
    have hd2 := hP.two_le_halfDen
    have hd := hP.halfDen_le
    exact halfKara_spec P hrec acc x y hpre hN (Nat.div_pos (by omega) (by omega))
      (Nat.div_lt_self (by omega) (by omega))
  rw [if_neg h2]
  by_cases h3 : x.length ≤ P.tKara
  · rw [if_pos h3]
    exact karatsuba_spec P hP hrec acc x y hpre hN hxy (Nat.lt_of_not_le h1)
  · rw [if_neg h3]
    exact toom3_spec P hP hrec acc x y hpre hN hxy (Nat.lt_of_not_le h3) h2

theorem mac3Core_spec (P : Params) (hP : P.ValidMul) {rec : MacFn} {N : Nat} (hrec : MacSpec rec N)
    (acc b c : List Nat) (hpre : MacPre acc b c) (hN : b.length + c.length ≤ N) :
    MacOk (mac3Core P rec) acc b c := by
  unfold MacOk mac3Core
  dsimp only
  by_cases h : b.length < c.length
  · simp only [h, if_true]
    exact mac3Core_spec_of_le P hP hrec acc b c hpre hN (by omega)
  · simp only [h, if_false]
    obtain ⟨ha, hb, hc, hl, hv⟩ := hpre
    rw [Nat.mul_comm (val b)] at hv ⊢
    exact mac3Core_spec_of_le P hP hrec acc c b ⟨ha, hc, hb, by omega, hv⟩ (by omega) (by omega)

/-- stripping the low zero digits of one operand `b`: the remaining work `g` runs on
    `acc[nb..]` with `b[nb..]`; `w` is the value of the other operand -/
theorem stripZeros_spec {g : List Nat → Except Panic (List Nat)} (acc b : List Nat) (w : Nat)
    (ha : DigitsOk acc) (hl : b.length + 1 ≤ acc.length)
    (hv : val acc + val b * w < B ^ (acc.length - 1))
    (hg : ∀ acc1, DigitsOk acc1 → acc1.length + lowZeros b = acc.length →
      val acc1 + val (b.drop (lowZeros b)) * w < B ^ (acc1.length - 1) →
      Adds (g acc1) acc1 (val (b.drop (lowZeros b)) * w)) :
    Adds (if lowZeros b ≠ 0 ∧ lowZeros b = b.length then .ok acc else onSuffix (lowZeros b) acc g)
      acc (val b * w) := by
  have hnb := lowZeros_le b
  have hvb := val_drop_lowZeros b
  by_cases h0 : lowZeros b ≠ 0 ∧ lowZeros b = b.length
  · rw [if_pos h0, val_eq_zero_of_lowZeros_all b h0.2, Nat.zero_mul]
    exact ⟨acc, rfl, rfl, rfl, ha⟩
  · rw [if_neg h0]
    generalize lowZeros b = nb at hnb hvb hg ⊢
    rw [hvb, Nat.mul_assoc] at hv ⊢
    have hoff : nb ≤ acc.length := by omega
    refine onSuffix_spec ha hoff (hg _ (ha.drop nb) (by rw [List.length_drop]; omega) ?_)
    rw [List.length_drop, Nat.sub_right_comm]
    exact val_drop_add_lt (by omega) hv

/-- one level of `mac3` (zero stripping + dispatch) is correct if the callee is correct on all
    strictly smaller operand pairs -/
theorem mac3Body_spec (P : Params) (hP : P.ValidMul) {rec : MacFn} {N : Nat} (hrec : MacSpec rec N)
    (acc b c : List Nat) (hpre : MacPre acc b c) (hN : b.length + c.length ≤ N) :
    MacOk (mac3Body P rec) acc b c := by
  obtain ⟨ha, hb, hc, hl, hv⟩ := hpre
  have hnb := lowZeros_le b
  have hnc := lowZeros_le c
  unfold MacOk mac3Body
  dsimp only
  refine stripZeros_spec acc b (val c) ha (by omega) hv fun acc1 ha1 hl1 hv1 => ?_
  rw [Nat.mul_comm _ (val c)] at hv1 ⊢
  refine stripZeros_spec acc1 c _ ha1 (by omega) hv1 fun acc2 ha2 hl2 hv2 => ?_
  rw [Nat.mul_comm (val (c.drop _))] at hv2 ⊢
  exact mac3Core_spec P hP hrec acc2 _ _
    ⟨ha2, hb.drop _, hc.drop _, by rw [List.length_drop, List.length_drop]; omega, hv2⟩
    (by rw [List.length_drop, List.length_drop]; omega)

end NB.Mul
