/- helper lemmas for C12: the two loops of `pow_impl!` -/
import NB.Model.Pow
import Mathlib.Tactic.Ring
namespace NB.Pow

theorem lt_two_pow_powFuel (e : Nat) : e < 2 ^ powFuel e := by
  unfold powFuel
  by_cases h : e = 0
  · rw [if_pos h, h]; exact Nat.one_pos
  · rw [if_neg h]; exact Nat.lt_log2_self

theorem pow_split (b e : Nat) : b ^ e = b ^ (e % 2) * (b * b) ^ (e / 2) := by
  rw [← pow_two, ← pow_mul, ← pow_add, Nat.mod_add_div]

/-- trailing-zero squaring phase: returns an odd exponent, `base'^exp' = base^exp` -/
theorem sqLoop_spec : ∀ (fuel base exp : Nat), exp ≠ 0 → exp < 2 ^ fuel →
    ∃ b' e', sqLoop fuel base exp = .ok (b', e') ∧ e' % 2 = 1 ∧ e' ≤ exp ∧ b' ^ e' = base ^ exp := by
  intro fuel
  induction fuel with
  | zero => intro base exp h0 h; exact absurd (Nat.lt_one_iff.mp h) h0
  | succ fuel ih =>
    intro base exp h0 h
    rw [sqLoop, Nat.and_one_is_mod, Nat.shiftRight_one]
    by_cases hc : exp % 2 = 0
    · obtain ⟨k, rfl⟩ := Nat.dvd_of_mod_eq_zero hc
      rw [pow_succ'] at h
      rw [if_pos hc, Nat.mul_div_cancel_left k Nat.two_pos]
      obtain ⟨b', e', he, ho, hle, hv⟩ := ih (base * base) k (fun hk => h0 (by rw [hk]))
        (Nat.lt_of_mul_lt_mul_left h)
      exact ⟨b', e', he, ho, le_trans hle (Nat.le_mul_of_pos_left k Nat.two_pos), by rw [hv, ← pow_two, ← pow_mul]⟩
    · rw [if_neg hc]
      exact ⟨base, exp, rfl, (Nat.mod_two_eq_zero_or_one exp).resolve_left hc, le_refl _, rfl⟩

/-- accumulate phase: invariant `acc · (base²)^(exp/2)` -/
theorem accLoop_spec : ∀ (fuel base exp acc : Nat), exp ≠ 0 → exp < 2 ^ fuel →
    accLoop fuel base exp acc = .ok (acc * (base * base) ^ (exp / 2)) := by
  intro fuel
  induction fuel with
  | zero => intro base exp acc h0 h; exact absurd (Nat.lt_one_iff.mp h) h0
  | succ fuel ih =>
    intro base exp acc h0 h
    rw [accLoop]
    by_cases hc : exp > 1
    · have h2 : exp / 2 ≠ 0 := Nat.ne_of_gt (Nat.div_pos hc Nat.two_pos)
      have h3 : exp / 2 < 2 ^ fuel := Nat.div_lt_of_lt_mul (by rwa [pow_succ'] at h)
      simp only [hc, if_true, Nat.and_one_is_mod, Nat.shiftRight_one, ih _ _ _ h2 h3]
      -- the bit just shifted out decides whether `acc` takes a factor `base²`
      rw [pow_split (base * base) (exp / 2)]
      rcases Nat.mod_two_eq_zero_or_one (exp / 2) with hb | hb
      · rw [hb, if_neg (by decide), pow_zero, Nat.one_mul]
      · rw [hb, if_pos rfl, pow_one, Nat.mul_assoc]
    · rw [if_neg hc, Nat.div_eq_of_lt (Nat.lt_succ_of_le (Nat.le_of_not_gt hc)), pow_zero, Nat.mul_one]

theorem powVV_ok (x e : Nat) : powVV x e = .ok (x ^ e) := by
  unfold powVV
  by_cases h0 : e = 0
  · rw [if_pos h0, h0, pow_zero]
  · obtain ⟨b', e', he, ho, hle, hv⟩ := sqLoop_spec (powFuel e) x e h0 (lt_two_pow_powFuel e)
    simp only [h0, if_false, he]
    by_cases h1 : e' = 1
    · rw [if_pos h1, ← hv, h1, pow_one]
    · rw [if_neg h1, accLoop_spec (powFuel e) b' e' b' (fun h => by rw [h] at ho; cases ho)
        (lt_of_le_of_lt hle (lt_two_pow_powFuel e)), ← hv, pow_split b' e', ho, pow_one]

theorem powRV_ok (x e : Nat) : powRV x e = .ok (x ^ e) := by
  unfold powRV
  by_cases h0 : e = 0
  · rw [if_pos h0, h0, pow_zero]
  · rw [if_neg h0, powVV_ok]

theorem powPrim_ok (f : Form) (x e : Nat) : powPrim f x e = .ok (x ^ e) := by
  cases f
  exacts [powVV_ok x e, powVV_ok x e, powRV_ok x e, powRV_ok x e]

end NB.Pow
