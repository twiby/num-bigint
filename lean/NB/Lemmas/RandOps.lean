/- helper lemmas for C18 that need the operator theorems of C01 and the order theorem of C04:
   `Ord for BigInt`, scalar `+ u32`, lifting spec-level results through the BigUint/BigInt
   additions of the range forms -/
import NB.Lemmas.Rand
import NB.Props.C04
namespace NB
open NB.Rand

/-- spec-level result (value : Int) lifted to the model's result type -/
def Rand.liftI (r : Option (Int × List Nat)) : R BigInt :=
  .ok (r.map fun (c, t) => (BigInt.ofInt c, t))

/-- `impl Ord for BigInt` on canonical values is the order of the integers: `bigintCmp` is
    `Core.BigInt.cmp` with the sign discriminants compared by `compare` -/
theorem Rand.bigintCmp_spec {a b : BigInt} (ha : a.Canon) (hb : b.Canon) :
    bigintCmp a b = compare a.val b.val := by
  rw [← bigint_cmp_spec ha hb]
  rcases a with ⟨sa, ma⟩
  rcases b with ⟨sb, mb⟩
  cases sa <;> cases sb <;> rfl

theorem fromU_ofNat (c : Nat) : fromU (ofNat c) = BigInt.ofInt (c : Int) := C07.fromU_ofNat c

/-- `a += d` for a u32/u64 scalar: exact canonical sum -/
theorem addAssignU32_spec (P : Params) (a : List Nat) (d : Nat) (ha : Canon a) (hd : d < B) :
    addAssignU32 P a d = ofNat (val a + d) :=
  C07.addAssignU32_spec P a d ha hd

theorem uFromU32_eq {d : Nat} (hd : d < B) : uFromU32 d = ofNat d := by
  unfold uFromU32
  by_cases h : d = 0
  · rw [if_neg (not_not.mpr h), h, ofNat_zero]
  · rw [if_pos h, ofNat_digit h hd]

/-- `a + d` for a BigInt and a u32/u64 scalar: exact, never panics -/
theorem bigintAddU32_spec (P : Params) (a : BigInt) (d : Nat) (ha : a.Canon) (hd : d < B) :
    bigintAddU32 P a d = .ok (BigInt.ofInt (a.val + (d : Int))) := by
  obtain ⟨s, m⟩ := a
  obtain ⟨hc, hs⟩ := ha
  simp only at hc hs
  have hdOk : DigitsOk [d] := .cons hd .nil
  have hdV : val [d] = d := val_singleton d
  cases s with
  | nosign =>
    simp only [bigintAddU32, BigInt.val, Int.zero_add, uFromU32_eq hd, ofInt_natCast, Nat.pos_iff_ne_zero,
      ite_not]
  | plus =>
    simp only [bigintAddU32, BigInt.val]
    rw [addAssignU32_spec P m d hc hd, fromU_ofNat, Int.natCast_add]
  | minus =>
    have hm : m ≠ [] := fun e => nomatch hs.mpr e
    simp only [bigintAddU32, BigInt.val]
    rw [uFromU32_eq hd, cmpSlice_spec hc (ofNat_canon d), ofNat_val]
    rcases Nat.lt_trichotomy (val m) d with h | h | h
    · obtain ⟨r, hr, hv, hok⟩ := (sub2rev_spec [d] m (List.length_pos_iff.mpr hm) hdOk hc.1).2 (by omega)
      rw [Nat.compare_eq_lt.mpr h, if_neg hm, hr]
      show Except.ok (fromU (normalize r)) = _
      rw [normalize_eq_ofNat hok, fromU_ofNat, hv, hdV, Int.natCast_sub h.le, Int.sub_eq_add_neg, Int.add_comm]
    · rw [Nat.compare_eq_eq.mpr h, h, Int.add_left_neg, ofInt_zero]
    · obtain ⟨r, hr, hv, _, hok⟩ := (sub2_spec P m [d] hc.1 hdOk).2 (by omega)
      rw [Nat.compare_eq_gt.mpr h, hr]
      show Except.ok (Core.BigInt.negVal (fromU (normalize r))) = _
      rw [normalize_eq_ofNat hok, fromU_ofNat, Core.bigint_negVal_eq (bigint_ofInt_canon _), bigint_ofInt_val, hv, hdV,
        Int.natCast_sub h.le, Int.neg_sub, Int.sub_eq_add_neg, Int.add_comm]

/-- every range form is `if <range non-empty> then <a lifted sample> else emptyrange`: it panics
    exactly for an empty range … -/
theorem range_error_iff {α : Type} {c : Prop} [Decidable c] {r : Option (α × Tape)} {p : Panic} :
    (if c then (.ok r : R α) else .error .emptyrange) = .error p ↔ p = .emptyrange ∧ ¬ c := by
  by_cases h : c
  · simp [h]
  · simp [h, eq_comm]

/-- … and returns only for a non-empty one -/
theorem range_ok {α : Type} {c : Prop} [Decidable c] {x : R α} {e : Panic} {o : Option (α × Tape)}
    (h : (if c then x else .error e) = .ok o) : c ∧ x = .ok o := by
  by_cases hc : c
  · exact ⟨hc, by rwa [if_pos hc] at h⟩
  · rw [if_neg hc] at h; cases h

theorem toNat_sub_of_lt {a b : Int} (h : a < b) : (b - a).toNat ≠ 0 ∧ (b - a).natAbs = (b - a).toNat := by
  have h0 := Int.sub_pos_of_lt h
  exact ⟨Nat.pos_iff_ne_zero.mp (Int.lt_toNat.mpr h0),
    Int.ofNat.inj ((Int.natAbs_of_nonneg h0.le).trans (Int.toNat_of_nonneg h0.le).symm)⟩

theorem liftU_bindE_add (P : Params) (r : Option (Nat × List Nat)) (lo : List Nat) (hlo : Canon lo) :
    (liftU r).bindE (fun x => .ok (addAssign P x lo)) = liftU r (val lo) := by
  unfold liftU R.bindE
  cases r with
  | none => rfl
  | some ct =>
    obtain ⟨c, t⟩ := ct
    simp only [Option.map]
    rw [addAssign_spec P _ lo (ofNat_canon _) hlo, ofNat_val, Nat.zero_add, Nat.add_comm]

theorem liftU_mem {r : Option (Nat × List Nat)} {off w : Nat} {v : List Nat} {rest : Tape}
    (hr : ∀ c t, r = some (c, t) → c < w) (h : liftU r off = .ok (some (v, rest))) :
    Canon v ∧ off ≤ val v ∧ val v < off + w := by
  obtain _ | ⟨c, t⟩ := r
  · cases h
  · obtain ⟨rfl, _⟩ := Prod.mk.inj (Option.some.inj (Except.ok.inj h))
    rw [ofNat_val]
    exact ⟨ofNat_canon _, Nat.le_add_right _ _, Nat.add_lt_add_left (hr c t rfl) _⟩

theorem liftU_bindE_int (r : Option (Nat × List Nat)) (f : List Nat → Except Panic BigInt) (g : Nat → Int)
    (hf : ∀ c, f (ofNat c) = .ok (BigInt.ofInt (g c))) :
    (liftU r).bindE f = liftI (r.map fun (c, t) => (g c, t)) := by
  unfold liftU liftI R.bindE
  cases r with
  | none => rfl
  | some ct =>
    obtain ⟨c, t⟩ := ct
    simp only [Option.map, Nat.zero_add, hf]

theorem add_fromU (P : Params) (lo : BigInt) (hlo : lo.Canon) (c : Nat) :
    BigInt.add P lo (fromU (ofNat c)) = .ok (BigInt.ofInt (lo.val + (c : Int))) := by
  rw [fromU_ofNat, bigint_add_spec P lo _ hlo (bigint_ofInt_canon _), bigint_ofInt_val]

theorem liftI_mem {r : Option (Nat × List Nat)} {lo : Int} {w : Nat} {v : BigInt} {rest : Tape}
    (hr : ∀ c t, r = some (c, t) → c < w)
    (h : liftI (r.map fun (c, t) => (lo + (c : Int), t)) = .ok (some (v, rest))) :
    v.Canon ∧ lo ≤ v.val ∧ v.val < lo + w := by
  obtain _ | ⟨c, t⟩ := r
  · cases h
  · obtain ⟨rfl, _⟩ := Prod.mk.inj (Option.some.inj (Except.ok.inj h))
    rw [bigint_ofInt_val]
    exact ⟨bigint_ofInt_canon _, Int.le_add_of_nonneg_right (Int.natCast_nonneg c),
      Int.add_lt_add_left (Int.ofNat_lt.mpr (hr c t rfl)) lo⟩

end NB
