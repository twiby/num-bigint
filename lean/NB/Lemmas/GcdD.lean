/- helper lemmas for the digit-level layer of C13 (NB.Model.GcdD): every digit-level function equals the
   value-level function of NB.Model.Gcd on the values, mapped back through `ofNat` / `BigInt.ofInt`.
   The loops are stated over `ofNat m` / `BigInt.ofInt i` states (the canonical representations the
   operator theorems return), the public entry points over canonical inputs. -/
import NB.Lemmas.DigitOps
import NB.Model.GcdD
import NB.Lemmas.Gcd
namespace NB.GcdD

/-- the digit count fits `usize` (true of every `Vec`; the right shift of `biguint_shr` saturates its
    digit count at `usize::MAX`, `biguint_shl` panics beyond it) -/
def Small (a : List Nat) : Prop := a.length < NB.C07.USIZE_RANGE

/-- the triple `(gcd, x, y)` of `extended_gcd` as canonical BigInts -/
def ofInt3 (r : Int × Int × Int) : BigInt × BigInt × BigInt :=
  (BigInt.ofInt r.1, BigInt.ofInt r.2.1, BigInt.ofInt r.2.2)

theorem small_of_le {x : Nat} {a : List Nat} (ha : DigitsOk a) (h : x ≤ val a) (hs : Small a) :
    Small (ofNat x) :=
  lt_of_le_of_lt (ofNat_length_le_of_le_val ha h) hs

theorem small_mono {x y : Nat} (h : x ≤ y) (hy : Small (ofNat y)) : Small (ofNat x) :=
  small_of_le (ofNat_digitsOk y) (by rw [ofNat_val]; exact h) hy

theorem valuation_unique {x t m s : Nat} (hx : x = 2 ^ t * (2 * m + 1)) (hd : 2 ^ s ∣ x)
    (ho : (x / 2 ^ s) % 2 = 1) : s = t := by
  refine Nat.le_antisymm (NB.Gcd.le_of_two_pow_dvd (Nat.mul_add_mod 2 m 1) (hx ▸ hd)) ?_
  refine NB.Gcd.le_of_two_pow_dvd ho ?_
  rw [Nat.mul_div_cancel' hd, hx]
  exact Nat.dvd_mul_right _ _

/-- `twos` on digits (through `trailing_zeros`) is `twos` on the value -/
theorem twos_eq {a : List Nat} (ha : DigitsOk a) : twos a = NB.Gcd.twos (val a) := by
  obtain ⟨h0, h1⟩ := NB.C07.trailingZerosU_spec a ha
  unfold twos
  by_cases hz : val a = 0
  · rw [h0 hz, hz]; simp [NB.Gcd.twos]
  · obtain ⟨t, m, e, hv⟩ := h1 hz
    rw [e]
    obtain ⟨d1, d2⟩ := NB.Gcd.twos_spec hz
    exact (valuation_unique hv d1 d2).symm

theorem twos_ofNat (n : Nat) : twos (ofNat n) = NB.Gcd.twos n := by
  rw [twos_eq (ofNat_digitsOk n), ofNat_val]

/-- a non-zero value has fewer trailing zeros than bits -/
theorem twos_lt {n : Nat} (hn : n ≠ 0) : NB.Gcd.twos n < NB.C07.BITS * (ofNat n).length := by
  have h1 := Nat.le_of_dvd (Nat.pos_of_ne_zero hn) (NB.Gcd.twos_spec hn).1
  have h2 := val_lt (ofNat_digitsOk n)
  rw [ofNat_val, NB.C07.B_pow] at h2
  exact (Nat.pow_lt_pow_iff_right (by decide)).mp (Nat.lt_of_le_of_lt h1 h2)

theorem twos_shift_ok {n : Nat} (hs : Small (ofNat n)) : NB.Gcd.twos n / NB.C07.BITS < NB.C07.USIZE_RANGE := by
  by_cases hn : n = 0
  · rw [hn]; decide
  · exact lt_trans (Nat.div_lt_of_lt_mul (twos_lt hn)) hs

theorem modFloor_ofNat (P : Params) (x y : Nat) :
    modFloor P (ofNat x) (ofNat y) = if y = 0 then .error .divzero else .ok (ofNat (x % y)) := by
  rw [modFloor_spec P _ _ (ofNat_canon x) (ofNat_canon y), ofNat_val, ofNat_val]
  simp only [ofNat_eq_nil_iff]

variable (P : Params)

/-- one pass of the loop body on canonical states -/
theorem steinStep_ofNat (m n : Nat) (hs : Small (ofNat m)) :
    steinStep P (ofNat m) (ofNat n) =
      (if n > m >>> NB.Gcd.twos m then
        (if n < m >>> NB.Gcd.twos m then .error .underflow
         else .ok (ofNat (n - m >>> NB.Gcd.twos m), ofNat (m >>> NB.Gcd.twos m)))
       else
        (if m >>> NB.Gcd.twos m < n then .error .underflow
         else .ok (ofNat (m >>> NB.Gcd.twos m - n), ofNat n))) := by
  unfold steinStep
  rw [twos_ofNat, shr_ofNat m _ (twos_shift_ok hs), ← Nat.shiftRight_eq_div_pow]
  simp only [cmpSlice_ofNat]
  by_cases hgt : n > m >>> NB.Gcd.twos m
  · have hc : compare n (m >>> NB.Gcd.twos m) = .gt := Nat.compare_eq_gt.mpr hgt
    simp only [hc, hgt, beq_self_eq_true, if_true, subAssign_ofNat]
    by_cases hlt : n < m >>> NB.Gcd.twos m <;> simp [hlt]
  · have hc : (compare n (m >>> NB.Gcd.twos m) == Ordering.gt) = false := by
      rcases Nat.lt_or_eq_of_le (Nat.le_of_not_gt hgt) with h | h
      · rw [Nat.compare_eq_lt.mpr h]; rfl
      · rw [Nat.compare_eq_eq.mpr h]; rfl
    simp only [hc, hgt, if_false, Bool.false_eq_true, subAssign_ofNat]

/-- the digit-level loop refines the value-level loop, any fuel: both sides take the same pass -/
theorem steinLoop_ofNat : ∀ (fuel m n : Nat), Small (ofNat m) → Small (ofNat n) →
    steinLoop P fuel (ofNat m) (ofNat n) = (NB.Gcd.steinLoop fuel m n).map ofNat := by
  intro fuel
  induction fuel with
  | zero => intro m n _ _; rfl
  | succ fuel ih =>
    intro m n hm hn
    by_cases h0 : m = 0
    · rw [h0, ofNat_zero]; rfl
    · rw [steinLoop, if_neg (fun e => h0 ((ofNat_eq_nil_iff _).mp e)), steinStep_ofNat P m n hm,
        NB.Gcd.steinLoop_succ fuel n h0]
      have hs1 : Small (ofNat (m >>> NB.Gcd.twos m)) := small_mono (Nat.shiftRight_le _ _) hm
      generalize m >>> NB.Gcd.twos m = m1 at hs1 ⊢
      by_cases hgt : n > m1
      · rw [if_pos hgt, if_pos hgt, if_neg (Nat.lt_asymm hgt), if_neg (Nat.lt_asymm hgt)]
        exact ih (n - m1) m1 (small_mono (Nat.sub_le _ _) hn) hs1
      · rw [if_neg hgt, if_neg hgt, if_neg hgt, if_neg hgt]
        exact ih (m1 - n) n (small_mono (Nat.sub_le _ _) hs1) hn

theorem gcd_ofNat (x y : Nat) (hx : Small (ofNat x)) (hy : Small (ofNat y)) :
    gcd P (ofNat x) (ofNat y) = (NB.Gcd.gcd x y).map ofNat := by
  unfold gcd NB.Gcd.gcd
  simp only [ofNat_eq_nil_iff]
  refine ite_map (fun _ => rfl) fun h1 => ite_map (fun _ => rfl) fun _ => ?_
  simp only [twos_ofNat, shr_ofNat y _ (twos_shift_ok hy), ← Nat.shiftRight_eq_div_pow, steinFuel, ofNat_val,
    steinLoop_ofNat P _ x _ hx (small_mono (Nat.shiftRight_le _ _) hy)]
  refine bind_map _ fun r => ?_
  -- the common shift is below the bit length of `x`, so `<<` cannot overflow the capacity
  have hk : min (NB.Gcd.twos y) (NB.Gcd.twos x) / NB.C07.BITS < NB.C07.USIZE_RANGE :=
    lt_trans (Nat.div_lt_of_lt_mul (lt_of_le_of_lt (Nat.min_le_right _ _) (twos_lt h1))) hx
  rw [shl_ofNat r _ hk, Nat.shiftLeft_eq]; rfl

theorem gcd_refines (a b : List Nat) (ha : Canon a) (hb : Canon b) (hsa : Small a) (hsb : Small b) :
    gcd P a b = (NB.Gcd.gcd (val a) (val b)).map ofNat :=
  canon_lift₂_of (p := Small) (gcd_ofNat P) ha hb hsa hsb

theorem gcd_ok (x y : Nat) (hx : Small (ofNat x)) (hy : Small (ofNat y)) :
    gcd P (ofNat x) (ofNat y) = .ok (ofNat (Nat.gcd x y)) := by
  rw [gcd_ofNat P x y hx hy, NB.Gcd.gcd_ok]; rfl

theorem divMul_ofNat (hP : P.ValidMul) (x g y : Nat) :
    divMul P (ofNat x) (ofNat g) (ofNat y) = if g = 0 then .error .divzero else .ok (ofNat (x / g * y)) := by
  unfold divMul
  rw [divRef_ofNat]
  by_cases hg : g = 0
  · rw [if_pos hg, if_pos hg]
  · simp only [hg, if_false, mulRef_ofNat P hP]

theorem lcm_ofNat (hP : P.ValidMul) (x y : Nat) (hx : Small (ofNat x)) (hy : Small (ofNat y)) :
    lcm P (ofNat x) (ofNat y) = (NB.Gcd.lcm x y).map ofNat := by
  unfold lcm NB.Gcd.lcm
  simp only [ofNat_eq_nil_iff, gcd_ok P x y hx hy, NB.Gcd.gcd_ok, divMul_ofNat P hP, NB.Gcd.udiv]
  by_cases h0 : x = 0 ∧ y = 0
  · rw [if_pos h0, if_pos h0, ← ofNat_zero]; rfl
  · rw [if_neg h0, if_neg h0]
    by_cases hg : Nat.gcd x y = 0
    · rw [if_pos hg, if_pos hg]; rfl
    · rw [if_neg hg, if_neg hg]; rfl

theorem gcdLcm_ofNat (hP : P.ValidMul) (x y : Nat) (hx : Small (ofNat x)) (hy : Small (ofNat y)) :
    gcdLcm P (ofNat x) (ofNat y) = (NB.Gcd.gcdLcm x y).map (fun p => (ofNat p.1, ofNat p.2)) := by
  unfold gcdLcm NB.Gcd.gcdLcm
  simp only [ofNat_eq_nil_iff, gcd_ok P x y hx hy, NB.Gcd.gcd_ok, divMul_ofNat P hP, NB.Gcd.udiv]
  by_cases hg : Nat.gcd x y = 0
  · rw [if_pos hg, if_pos hg, ← ofNat_zero]; rfl
  · rw [if_neg hg, if_neg hg, if_neg hg, if_neg hg]; rfl

theorem isMultipleOf_ofNat (x y : Nat) :
    isMultipleOf P (ofNat x) (ofNat y) = NB.Gcd.isMultipleOf x y := by
  unfold isMultipleOf NB.Gcd.isMultipleOf
  simp only [ofNat_eq_nil_iff, remRef_ofNat, NB.Gcd.umod]
  by_cases hy : y = 0
  · simp [hy]
  · simp [hy, ofNat_eq_nil_iff]

theorem nextMultipleOf_ofNat (x y : Nat) :
    nextMultipleOf P (ofNat x) (ofNat y) = (NB.Gcd.nextMultipleOf x y).map ofNat := by
  unfold nextMultipleOf NB.Gcd.nextMultipleOf
  simp only [modFloor_ofNat, NB.Gcd.umod, NB.Gcd.usub]
  by_cases hy : y = 0
  · rw [if_pos hy, if_pos hy]; rfl
  · simp only [hy, if_false, ofNat_eq_nil_iff, subRefVal_ofNat]
    by_cases hm : x % y = 0
    · rw [if_pos hm, if_pos hm]; rfl
    · rw [if_neg hm, if_neg hm]
      by_cases hlt : y < x % y
      · rw [if_pos hlt, if_pos hlt]; rfl
      · simp only [hlt, if_false, addAssign_ofNat, Except.map, Nat.add_comm]

theorem prevMultipleOf_ofNat (x y : Nat) :
    prevMultipleOf P (ofNat x) (ofNat y) = (NB.Gcd.prevMultipleOf x y).map ofNat := by
  unfold prevMultipleOf NB.Gcd.prevMultipleOf
  simp only [modFloor_ofNat, NB.Gcd.umod, NB.Gcd.usub]
  by_cases hy : y = 0
  · rw [if_pos hy, if_pos hy]; rfl
  · simp only [hy, if_false, subRefVal_ofNat]
    split <;> rfl

theorem inc_ofNat (x : Nat) : inc P (ofNat x) = (NB.Gcd.inc x).map ofNat := by
  unfold inc NB.Gcd.inc
  rw [NB.C07.addAssignU32_spec P _ 1 (ofNat_canon x) (by decide), ofNat_val]; rfl

theorem dec_ofNat (x : Nat) : dec P (ofNat x) = (NB.Gcd.dec x).map ofNat := by
  unfold dec NB.Gcd.dec NB.Gcd.usub
  by_cases h : x < 1
  · have h0 : x = 0 := by omega
    subst h0
    simp only [ofNat_zero, Nat.lt_one_iff, if_true]
    show subAssign P [] [1] = _
    rw [subAssign_spec P [] [1] canon_nil NB.canon_one]
    simp [val, Except.map]
  · rw [NB.C07.subAssignU32_spec P _ (ofNat_canon x) (by rw [ofNat_val]; omega), ofNat_val]
    simp [h, Except.map]

theorem div_ofInt (P : Params) (i j : Int) :
    BigInt.div P (BigInt.ofInt i) (BigInt.ofInt j) =
      if j = 0 then .error .divzero else .ok (BigInt.ofInt (Int.tdiv i j)) := by
  rw [bigint_div_spec P _ _ (bigint_ofInt_canon i) (bigint_ofInt_canon j), bigint_ofInt_val, bigint_ofInt_val]

theorem mul_ofInt (P : Params) (hP : P.ValidMul) (i j : Int) :
    NB.Mul.bigintMul P (BigInt.ofInt i) (BigInt.ofInt j) = .ok (BigInt.ofInt (i * j)) := by
  rw [bigint_mul_spec P hP _ _ (bigint_ofInt_canon i) (bigint_ofInt_canon j), bigint_ofInt_val, bigint_ofInt_val]

theorem modFloor_ofInt (P : Params) (i j : Int) :
    BigInt.modFloor P (BigInt.ofInt i) (BigInt.ofInt j) =
      if j = 0 then .error .divzero else .ok (BigInt.ofInt (Int.fmod i j)) := by
  rw [bigint_modFloor_spec P _ _ (bigint_ofInt_canon i) (bigint_ofInt_canon j), bigint_ofInt_val, bigint_ofInt_val]

theorem bzero_eq : bzero = BigInt.ofInt 0 := by rw [ofInt_zero]; rfl

theorem bone_eq : bone = BigInt.ofInt 1 := by
  unfold bone BigInt.ofInt
  simp [ofNat_one]

/-- `x >= zero` through `Ord::cmp`: against zero only the sign is looked at -/
theorem cmp_zero_ofInt (i : Int) : (NB.Core.BigInt.cmp (BigInt.ofInt i) bzero ≠ .lt) ↔ 0 ≤ i := by
  have h : ∀ x : BigInt, NB.Core.BigInt.cmp x bzero = .lt ↔ x.sign = .minus := by
    rintro ⟨s, m⟩
    cases s
    · exact ⟨fun _ => rfl, fun _ => rfl⟩
    · exact ⟨fun h => (nomatch h), fun h => (nomatch h)⟩
    · exact ⟨fun h => (nomatch h), fun h => (nomatch h)⟩
  rw [Ne, h, ofInt_sign_minus]
  exact Int.not_lt

theorem bigintGcd_ofInt (i j : Int) (hi : Small (BigInt.ofInt i).mag) (hj : Small (BigInt.ofInt j).mag) :
    bigintGcd P (BigInt.ofInt i) (BigInt.ofInt j) = (NB.Gcd.bigintGcd i j).map BigInt.ofInt := by
  rw [ofInt_mag] at hi hj
  unfold bigintGcd NB.Gcd.bigintGcd
  rw [ofInt_mag, ofInt_mag, gcd_ofNat P _ _ hi hj]
  cases NB.Gcd.gcd i.natAbs j.natAbs with
  | error e => rfl
  | ok g => simp only [Except.map, NB.Gcd.ofMag, fromBU_ofNat]

theorem bigintLcm_ofInt (hP : P.ValidMul) (i j : Int) (hi : Small (BigInt.ofInt i).mag)
    (hj : Small (BigInt.ofInt j).mag) :
    bigintLcm P (BigInt.ofInt i) (BigInt.ofInt j) = (NB.Gcd.bigintLcm i j).map BigInt.ofInt := by
  rw [ofInt_mag] at hi hj
  unfold bigintLcm NB.Gcd.bigintLcm
  rw [ofInt_mag, ofInt_mag, lcm_ofNat P hP _ _ hi hj]
  cases NB.Gcd.lcm i.natAbs j.natAbs with
  | error e => rfl
  | ok g => simp only [Except.map, NB.Gcd.ofMag, fromBU_ofNat]

theorem bigintGcdLcm_ofInt (hP : P.ValidMul) (i j : Int) (hi : Small (BigInt.ofInt i).mag)
    (hj : Small (BigInt.ofInt j).mag) :
    bigintGcdLcm P (BigInt.ofInt i) (BigInt.ofInt j) =
      (NB.Gcd.bigintGcdLcm i j).map (fun p => (BigInt.ofInt p.1, BigInt.ofInt p.2)) := by
  rw [ofInt_mag] at hi hj
  unfold bigintGcdLcm NB.Gcd.bigintGcdLcm
  rw [ofInt_mag, ofInt_mag, gcdLcm_ofNat P hP _ _ hi hj]
  cases NB.Gcd.gcdLcm i.natAbs j.natAbs with
  | error e => rfl
  | ok g => obtain ⟨g, l⟩ := g; simp only [Except.map, NB.Gcd.ofMag, fromBU_ofNat]

theorem egcdF_ofInt (hP : P.ValidMul) (q x0 x1 : Int) :
    egcdF P (BigInt.ofInt q) (BigInt.ofInt x0) (BigInt.ofInt x1) =
      .ok (BigInt.ofInt (x1 - q * x0), BigInt.ofInt x0) := by
  unfold egcdF
  simp only [mul_ofInt P hP, sub_ofInt]

theorem egcdLoop_ofInt (hP : P.ValidMul) : ∀ (fuel : Nat) (s0 s1 t0 t1 r0 r1 : Int),
    egcdLoop P fuel (BigInt.ofInt s0) (BigInt.ofInt s1) (BigInt.ofInt t0) (BigInt.ofInt t1)
      (BigInt.ofInt r0) (BigInt.ofInt r1) = (NB.Gcd.egcdLoop fuel s0 s1 t0 t1 r0 r1).map ofInt3 := by
  intro fuel
  induction fuel with
  | zero => intro s0 s1 t0 t1 r0 r1; rfl
  | succ fuel ih =>
    intro s0 s1 t0 t1 r0 r1
    unfold egcdLoop NB.Gcd.egcdLoop
    simp only [ofInt_sign_nosign, div_ofInt, NB.Gcd.idiv]
    by_cases h0 : r0 = 0
    · simp [h0, Except.map, ofInt3]
    · simp only [h0, if_false, ne_eq, not_false_eq_true, if_true, egcdF_ofInt P hP]
      exact ih _ _ _ _ _ _

theorem extendedGcd_ofInt (hP : P.ValidMul) (a b : Int) :
    extendedGcd P (BigInt.ofInt a) (BigInt.ofInt b) = (NB.Gcd.extendedGcd a b).map ofInt3 := by
  unfold extendedGcd NB.Gcd.extendedGcd
  have hf : egcdFuel (BigInt.ofInt b) = NB.Gcd.egcdFuel b := by
    unfold egcdFuel NB.Gcd.egcdFuel; rw [ofInt_mag, ofNat_val]
  rw [hf]
  have h01 := egcdLoop_ofInt P hP (NB.Gcd.egcdFuel b) 0 1 1 0 b a
  rw [← bzero_eq, ← bone_eq] at h01
  rw [h01]
  cases NB.Gcd.egcdLoop (NB.Gcd.egcdFuel b) 0 1 1 0 b a with
  | error e => rfl
  | ok r =>
    obtain ⟨r1, s1, t1⟩ := r
    simp only [Except.map, ofInt3, cmp_zero_ofInt, ge_iff_le]
    by_cases hr : 0 ≤ r1
    · simp [hr]
    · simp only [hr, if_false, bzero_eq, sub_ofInt]

theorem extendedGcdLcm_ofInt (hP : P.ValidMul) (a b : Int) :
    extendedGcdLcm P (BigInt.ofInt a) (BigInt.ofInt b) =
      (NB.Gcd.extendedGcdLcm a b).map (fun r => (ofInt3 r.1, BigInt.ofInt r.2)) := by
  unfold extendedGcdLcm NB.Gcd.extendedGcdLcm
  rw [extendedGcd_ofInt P hP]
  cases NB.Gcd.extendedGcd a b with
  | error e => rfl
  | ok r =>
    obtain ⟨g, x, y⟩ := r
    simp only [Except.map, ofInt3, ofInt_sign_nosign, ofInt_mag, divMul_ofNat P hP, NB.Gcd.udiv]
    by_cases hg : g = 0
    · simp [hg, bzero_eq]
    · have hg' : g.natAbs ≠ 0 := by omega
      simp only [hg, hg', if_false, NB.Gcd.ofMag, fromBU_ofNat]

theorem bigintIsMultipleOf_ofInt (a b : Int) :
    bigintIsMultipleOf P (BigInt.ofInt a) (BigInt.ofInt b) = NB.Gcd.bigintIsMultipleOf a b := by
  unfold bigintIsMultipleOf NB.Gcd.bigintIsMultipleOf
  rw [ofInt_mag, ofInt_mag, isMultipleOf_ofNat]

theorem bigintModFloor_ofInt (a b : Int) :
    BigInt.modFloor P (BigInt.ofInt a) (BigInt.ofInt b) = (NB.Gcd.bigintModFloor a b).map BigInt.ofInt := by
  rw [modFloor_ofInt]
  by_cases hb : b = 0
  · subst hb; rw [NB.Gcd.bigintModFloor_zero]; rfl
  · rw [NB.Gcd.bigintModFloor_ok a hb]; simp [hb, Except.map]

theorem bigintNextMultipleOf_ofInt (a b : Int) :
    bigintNextMultipleOf P (BigInt.ofInt a) (BigInt.ofInt b) =
      (NB.Gcd.bigintNextMultipleOf a b).map BigInt.ofInt := by
  unfold bigintNextMultipleOf NB.Gcd.bigintNextMultipleOf
  rw [bigintModFloor_ofInt]
  cases NB.Gcd.bigintModFloor a b with
  | error e => rfl
  | ok m =>
    simp only [Except.map, ofInt_sign_nosign]
    by_cases hm : m = 0
    · simp [hm]
    · simp only [hm, if_false, sub_ofInt, add_ofInt]

theorem bigintPrevMultipleOf_ofInt (a b : Int) :
    bigintPrevMultipleOf P (BigInt.ofInt a) (BigInt.ofInt b) =
      (NB.Gcd.bigintPrevMultipleOf a b).map BigInt.ofInt := by
  unfold bigintPrevMultipleOf NB.Gcd.bigintPrevMultipleOf
  rw [bigintModFloor_ofInt]
  cases NB.Gcd.bigintModFloor a b with
  | error e => rfl
  | ok m => simp only [Except.map, sub_ofInt]

theorem bigintInc_ofInt (a : Int) :
    bigintInc P (BigInt.ofInt a) = (NB.Gcd.bigintInc a).map BigInt.ofInt := by
  unfold bigintInc NB.Gcd.bigintInc
  rw [addU_spec P _ 1 (bigint_ofInt_canon a) (by decide), bigint_ofInt_val]; rfl

theorem bigintDec_ofInt (a : Int) :
    bigintDec P (BigInt.ofInt a) = (NB.Gcd.bigintDec a).map BigInt.ofInt := by
  unfold bigintDec NB.Gcd.bigintDec
  rw [subU_spec P _ 1 (bigint_ofInt_canon a) (by decide), bigint_ofInt_val]; rfl

end NB.GcdD
