/- NB.Model.Cost (the work counter of `mac3`, one row length per non-zero multiplier digit): under
   `ValidMul ∧ ValidCost` no regime counts more than the schoolbook rectangle `x.len · y.len`.
   `CostBound rec` is that bound for the recursive callee. -/
import NB.Lemmas.Toom3
import NB.Model.Cost
namespace NB.Mul

/-- parameter conditions under which every regime of `mac3` costs at most the schoolbook count
    (Karatsuba must split in halves; the Toom-3 split is thirds; both thresholds are large
    enough that three half-size / five third-size products beat the full rectangle).
    `6 ≤ tSchool`: Karatsuba then starts at `x.len ≥ 7`, so the low half has `b ≥ 3` digits, which is
    what `kara_cost_arith` needs (`y ≤ h * b`).  `80 ≤ tKara`: Toom-3 then starts at `x.len ≥ 81`,
    the hypothesis of `toom_cost_arith`; neither constant is claimed to be the least possible. -/
def _root_.NB.Params.ValidCost (P : Params) : Prop :=
  P.karaDen = 2 ∧ P.halfMul ≤ 2 ∧ P.toomDen = 3 ∧ P.toomAdd = 1 ∧ 6 ≤ P.tSchool ∧ 80 ≤ P.tKara

instance (P : Params) : Decidable P.ValidCost := by unfold Params.ValidCost; infer_instance

section
variable {P : Params} (h : P.ValidCost)
include h
theorem _root_.NB.Params.ValidCost.karaDen_eq : P.karaDen = 2 := h.1
theorem _root_.NB.Params.ValidCost.halfMul_le : P.halfMul ≤ 2 := h.2.1
theorem _root_.NB.Params.ValidCost.toomDen_eq : P.toomDen = 3 := h.2.2.1
theorem _root_.NB.Params.ValidCost.toomAdd_eq : P.toomAdd = 1 := h.2.2.2.1
theorem _root_.NB.Params.ValidCost.six_le_tSchool : 6 ≤ P.tSchool := h.2.2.2.2.1
theorem _root_.NB.Params.ValidCost.eighty_le_tKara : 80 ≤ P.tKara := h.2.2.2.2.2
end

/-- `rec` never counts more than the schoolbook rectangle -/
def CostBound (rec : Cost.CostFn) : Prop :=
  ∀ b c, DigitsOk b → DigitsOk c → rec b c ≤ b.length * c.length

/-- three products on the halves `h ≥ b` of an `(h + b) × (y + b)` rectangle fit into it -/
theorem kara_cost_arith {b h y : Nat} (hh : h ≤ b + 1) (hy : y ≤ h * b) :
    h * y + b * b + h * y ≤ (h + b) * (y + b) := by
  have h1 : h * y ≤ (b + 1) * y := Nat.mul_le_mul_right _ hh
  have e1 : (b + 1) * y = b * y + y := by ring
  have e2 : (h + b) * (y + b) = h * y + h * b + b * y + b * b := by ring
  rw [e1] at h1
  rw [e2]
  omega

/-- five products on thirds (`i = ly / 3 + 1`; three of them one digit longer) fit into the
    `lx × ly` rectangle -/
theorem toom_cost_arith {lx ly i : Nat} (hxy : lx ≤ ly) (hy : ly < 2 * lx) (hk : 81 ≤ lx)
    (h1 : ly < 3 * i) (h2 : 3 * i ≤ ly + 3) :
    i * i + (lx - 2 * i) * (ly - 2 * i) + (i + 1) * (i + 1) + (i + 1) * (i + 1) + (i + 1) * (i + 1)
      ≤ lx * ly := by
  by_cases hA : 2 * i ≤ lx
  · -- `lx = 2i + u`, `ly = 2i + v`: the three long products cost `6i + 3` more than `3i²`,
    -- and `2iv` pays for that
    obtain ⟨u, rfl⟩ := Nat.exists_eq_add_of_le hA
    obtain ⟨v, rfl⟩ := Nat.exists_eq_add_of_le (Nat.le_trans hA hxy)
    have e1 : (i + 1) * (i + 1) = i * i + 2 * i + 1 := by ring
    have e2 : (2 * i + u) * (2 * i + v) = 4 * (i * i) + 2 * (i * u) + 2 * (i * v) + u * v := by ring
    have hv : i * 4 ≤ i * v := Nat.mul_le_mul_left i (by omega)
    rw [Nat.add_sub_cancel_left, Nat.add_sub_cancel_left, e1, e2]
    omega
  · -- no high part of `x`: `2·lx·ly ≥ (ly + 1)·ly ≥ (3j + 1)·3j` with `i = j + 1`; twice the left side is
    -- `8j² + 28j + 26`, so `j² ≥ 25j + 26` suffices, i.e. `j ≥ 26` (here `2(j + 1) > lx ≥ 81`)
    obtain ⟨j, rfl⟩ : ∃ j, i = j + 1 := ⟨i - 1, by omega⟩
    have a1 : (ly + 1) * ly ≤ 2 * lx * ly := Nat.mul_le_mul_right ly (by omega)
    have a2 : (3 * j + 1) * (3 * j) ≤ (ly + 1) * ly := Nat.mul_le_mul (by omega) (by omega)
    have a3 : 26 * j ≤ j * j := Nat.mul_le_mul_right j (by omega)
    have e1 : (j + 1) * (j + 1) = j * j + 2 * j + 1 := by ring
    have e2 : (j + 1 + 1) * (j + 1 + 1) = j * j + 4 * j + 4 := by ring
    have e3 : (3 * j + 1) * (3 * j) = 9 * (j * j) + 3 * j := by ring
    rw [e3] at a2
    rw [Nat.mul_assoc] at a1
    rw [Nat.sub_eq_zero_of_le (by omega : lx ≤ 2 * (j + 1)), Nat.zero_mul, e1, e2]
    omega

theorem cost_mulMag_le {rec : Cost.CostFn} (hrec : CostBound rec) (a b : List Nat) (ha : DigitsOk a)
    (hb : DigitsOk b) : Cost.mulMag rec a b ≤ a.length * b.length := by
  rcases a with _ | ⟨a1, _ | ⟨a2, at'⟩⟩ <;> rcases b with _ | ⟨b1, _ | ⟨b2, bt⟩⟩ <;>
    simp only [Cost.mulMag, Nat.zero_le]
  exact hrec _ _ ha hb

theorem cost_mulInt_le {rec : Cost.CostFn} (hrec : CostBound rec) (a b : Int) {la lb : Nat}
    (ha : (ofNat a.natAbs).length ≤ la) (hb : (ofNat b.natAbs).length ≤ lb) :
    Cost.mulInt rec a b ≤ la * lb :=
  le_trans (cost_mulMag_le hrec _ _ (ofNat_digitsOk _) (ofNat_digitsOk _)) (Nat.mul_le_mul ha hb)

theorem cost_karatsuba_le (P : Params) (hC : P.ValidCost) {rec : Cost.CostFn} (hrec : CostBound rec)
    (x y : List Nat) (hx : DigitsOk x) (hy : DigitsOk y) (hxy : x.length ≤ y.length)
    (hxs : P.tSchool < x.length) (hh : ¬ x.length * P.halfMul ≤ y.length) :
    Cost.karatsuba P rec x y ≤ x.length * y.length := by
  have hkd := hC.karaDen_eq
  have hhm := hC.halfMul_le
  have hts := hC.six_le_tSchool
  have hy2 : y.length < x.length * 2 :=
    Nat.lt_of_lt_of_le (Nat.lt_of_not_le hh) (Nat.mul_le_mul_left _ hhm)
  unfold Cost.karatsuba
  dsimp only
  rw [hkd]
  generalize hb : x.length / 2 = b
  obtain ⟨-, -, hx0l, hy0l, hx1l, hy1l, hx01, hy01⟩ :=
    karaSplit_lengths (hb ▸ Nat.mul_div_le x.length 2) hxy
  have hb3 : (x.drop b).length * 3 ≤ (x.drop b).length * b := Nat.mul_le_mul_left _ (by omega)
  have harith := kara_cost_arith (b := b) (h := (x.drop b).length) (y := (y.drop b).length)
    (by omega) (by omega)
  rw [hx1l, hy1l] at harith
  have c2 := hrec (x.drop b) (y.drop b) (hx.drop b) (hy.drop b)
  have c0 := hrec (x.take b) (y.take b) (hx.take b) (hy.take b)
  rw [hx0l, hy0l] at c0
  obtain ⟨s0, j0, e3, c3, h3⟩ := subSign_spec P (x.drop b) (x.take b) (hx.drop b) (hx.take b)
  obtain ⟨s1, j1, e4, c4, h4⟩ := subSign_spec P (y.drop b) (y.take b) (hy.drop b) (hy.take b)
  have c1 : rec j0 j1 ≤ (x.drop b).length * (y.drop b).length :=
    Nat.le_trans (hrec j0 j1 c3.1.1 c4.1.1) (Nat.mul_le_mul
      (subSign_length_le c3 h3 (hx.drop b) (hx.take b) hx01)
      (subSign_length_le c4 h4 (hy.drop b) (hy.take b) hy01))
  simp only [e3, e4]
  refine Nat.le_trans ?_ (Nat.le_trans (Nat.add_le_add (Nat.add_le_add c2 c0) c1) harith)
  cases s0.mul s1 with
  | nosign => exact Nat.le_add_right _ _
  | minus => exact Nat.le_refl _
  | plus => exact Nat.le_refl _

theorem cost_toom3_le (P : Params) (hP : P.ValidMul) (hC : P.ValidCost) {rec : Cost.CostFn}
    (hrec : CostBound rec) (x y : List Nat) (hx : DigitsOk x) (hy : DigitsOk y)
    (hxy : x.length ≤ y.length) (hk : P.tKara < x.length) (hh : ¬ x.length * P.halfMul ≤ y.length) :
    Cost.toom3 P rec x y ≤ x.length * y.length := by
  have hi := toom_i_bound P hP x.length y.length hk hh
  have hhm := hC.halfMul_le
  have htd := hC.toomDen_eq
  have hta := hC.toomAdd_eq
  have htk := hC.eighty_le_tKara
  have hy2 : y.length < 2 * x.length := by
    rw [Nat.mul_comm]
    exact Nat.lt_of_lt_of_le (Nat.lt_of_not_le hh) (Nat.mul_le_mul_left _ hhm)
  unfold Cost.toom3
  dsimp only
  rw [htd, hta] at hi ⊢
  generalize hq : y.length / 3 + 1 = i at hi ⊢
  have harith := toom_cost_arith hxy hy2 (by omega) (show y.length < 3 * i by omega) (by omega)
  have hix : i ≤ x.length := Nat.le_trans (Nat.le_add_right i 2) hi
  have hiy : i ≤ y.length := by omega
  have hMx2 : B ^ (x.length - 2 * i) ≤ B ^ i := B_pow_le_pow (by omega)
  have hMy2 : B ^ (y.length - 2 * i) ≤ B ^ i := B_pow_le_pow (by omega)
  rw [Nat.min_eq_right hix]
  obtain ⟨X0, X1, X2, ex, -, bx0, bx1, bx2⟩ := toomSplit_spec x hx i hix
  obtain ⟨Y0, Y1, Y2, ey, -, by0, by1, by2⟩ := toomSplit_spec y hy i hiy
  rw [ex, ey]
  obtain ⟨-, -, px2, px3, px4⟩ := toomPts_bound X0 X1 X2 (B ^ i) bx0 bx1 (Nat.lt_of_lt_of_le bx2 hMx2)
  obtain ⟨-, -, py2, py3, py4⟩ := toomPts_bound Y0 Y1 Y2 (B ^ i) by0 by1 (Nat.lt_of_lt_of_le by2 hMy2)
  -- the points `0` and `∞` are the parts themselves, the other three may carry into one more digit
  have m0 : Cost.mulInt rec (toomPts X0 X1 X2).1 (toomPts Y0 Y1 Y2).1 ≤ i * i :=
    cost_mulInt_le hrec _ _ (ofNat_length_le _ _ bx0) (ofNat_length_le _ _ by0)
  have m4 : Cost.mulInt rec (toomPts X0 X1 X2).2.1 (toomPts Y0 Y1 Y2).2.1
      ≤ (x.length - 2 * i) * (y.length - 2 * i) :=
    cost_mulInt_le hrec _ _ (ofNat_length_le _ _ bx2) (ofNat_length_le _ _ by2)
  have m1 := cost_mulInt_le hrec _ _ (ofNat_length_of_natAbs_lt px2) (ofNat_length_of_natAbs_lt py2)
  have m2 := cost_mulInt_le hrec _ _ (ofNat_length_of_natAbs_lt px3) (ofNat_length_of_natAbs_lt py3)
  have m3 := cost_mulInt_le hrec _ _ (ofNat_length_of_natAbs_lt px4) (ofNat_length_of_natAbs_lt py4)
  exact Nat.le_trans
    (Nat.add_le_add (Nat.add_le_add (Nat.add_le_add (Nat.add_le_add m0 m4) m1) m2) m3) harith

theorem cost_mac3Core_le (P : Params) (hP : P.ValidMul) (hC : P.ValidCost) {rec : Cost.CostFn}
    (hrec : CostBound rec) : CostBound (Cost.mac3Core P rec) := by
  have ordered : ∀ x y : List Nat, DigitsOk x → DigitsOk y → x.length ≤ y.length →
      (if x.length ≤ P.tSchool then Cost.school x y
       else if x.length * P.halfMul ≤ y.length then Cost.halfKara P rec x y
       else if x.length ≤ P.tKara then Cost.karatsuba P rec x y
       else Cost.toom3 P rec x y) ≤ x.length * y.length := by
    intro x y hx hy hxy
    by_cases h1 : x.length ≤ P.tSchool
    · rw [if_pos h1]
      exact Nat.mul_le_mul_right _ (List.length_filter_le _ _)
    rw [if_neg h1]
    by_cases h2 : x.length * P.halfMul ≤ y.length
    · -- the two calls of half-Karatsuba split `y` exactly
      rw [if_pos h2]
      have a1 := hrec x (y.take (y.length / P.halfDen)) hx (hy.take _)
      have a2 := hrec x (y.drop (y.length / P.halfDen)) hx (hy.drop _)
      rw [List.length_take, Nat.min_eq_left (Nat.div_le_self _ _)] at a1
      rw [List.length_drop] at a2
      refine Nat.le_trans (Nat.add_le_add a1 a2) (Nat.le_of_eq ?_)
      rw [← Nat.mul_add, Nat.add_sub_of_le (Nat.div_le_self _ _)]
    rw [if_neg h2]
    by_cases h3 : x.length ≤ P.tKara
    · rw [if_pos h3]
      exact cost_karatsuba_le P hC hrec x y hx hy hxy (Nat.lt_of_not_le h1) h2
    · rw [if_neg h3]
      exact cost_toom3_le P hP hC hrec x y hx hy hxy (Nat.lt_of_not_le h3) h2
  intro b c hb hc
  unfold Cost.mac3Core
  dsimp only
  by_cases h : b.length < c.length
  · simp only [h, if_true]; exact ordered b c hb hc (by omega)
  · simp only [h, if_false]; exact le_of_le_of_eq (ordered c b hc hb (by omega)) (Nat.mul_comm _ _)

theorem cost_mac3Body_le (P : Params) (hP : P.ValidMul) (hC : P.ValidCost) {rec : Cost.CostFn}
    (hrec : CostBound rec) : CostBound (Cost.mac3Body P rec) := by
  intro b c hb hc
  unfold Cost.mac3Body
  dsimp only
  split
  · exact Nat.zero_le _
  · split
    · exact Nat.zero_le _
    · have := cost_mac3Core_le P hP hC hrec (b.drop (lowZeros b)) (c.drop (lowZeros c)) (hb.drop _) (hc.drop _)
      rw [List.length_drop, List.length_drop] at this
      exact le_trans this (Nat.mul_le_mul (Nat.sub_le _ _) (Nat.sub_le _ _))

theorem cost_mac3_bound (P : Params) (hP : P.ValidMul) (hC : P.ValidCost) :
    ∀ fuel, CostBound (Cost.mac3 P fuel)
  | 0 => fun _ _ _ _ => Nat.zero_le _
  | fuel + 1 => cost_mac3Body_le P hP hC (cost_mac3_bound P hP hC fuel)

end NB.Mul
