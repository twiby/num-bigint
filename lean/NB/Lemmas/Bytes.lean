/- helper lemmas for C09 / C17: positional digits in bases 2^8, 2^32, 2^64 -/
import NB.Lemmas.Canon
import NB.Model.Bytes
import Mathlib.Data.Nat.Digits.Lemmas
namespace NB.Bytes

/-- all elements below the base -/
def Below (b : Nat) (l : List Nat) : Prop := ∀ x ∈ l, x < b

instance (b : Nat) (l : List Nat) : Decidable (Below b l) := by unfold Below; infer_instance

theorem Below.nil {b} : Below b [] := fun _ h => nomatch h
theorem Below.cons {b d} {l : List Nat} (h : d < b) (hl : Below b l) : Below b (d :: l) :=
  List.forall_mem_cons.mpr ⟨h, hl⟩
theorem Below.head {b d} {l : List Nat} (h : Below b (d :: l)) : d < b := (List.forall_mem_cons.mp h).1
theorem Below.tail {b d} {l : List Nat} (h : Below b (d :: l)) : Below b l := (List.forall_mem_cons.mp h).2
theorem Below.append {b} {l1 l2 : List Nat} (h1 : Below b l1) (h2 : Below b l2) : Below b (l1 ++ l2) :=
  List.forall_mem_append.mpr ⟨h1, h2⟩
theorem Below.left {b} {l1 l2 : List Nat} (h : Below b (l1 ++ l2)) : Below b l1 :=
  (List.forall_mem_append.mp h).1
theorem Below.right {b} {l1 l2 : List Nat} (h : Below b (l1 ++ l2)) : Below b l2 :=
  (List.forall_mem_append.mp h).2
theorem Below.take {b} {l : List Nat} (n : Nat) (h : Below b l) : Below b (l.take n) :=
  fun x hx => h x (List.mem_of_mem_take hx)
theorem Below.drop {b} {l : List Nat} (n : Nat) (h : Below b l) : Below b (l.drop n) :=
  fun x hx => h x (List.mem_of_mem_drop hx)
theorem Below.reverse {b} {l : List Nat} (h : Below b l) : Below b l.reverse :=
  fun x hx => h x (List.mem_reverse.mp hx)

theorem Below.replicate {b d : Nat} (h : d < b) (k : Nat) : Below b (List.replicate k d) :=
  fun _ hx => List.eq_of_mem_replicate hx ▸ h
theorem Below.digits {b : Nat} (hb : 1 < b) (n : Nat) : Below b (Nat.digits b n) :=
  fun _ hx => Nat.digits_lt_base hb hx

theorem below_B_iff (l : List Nat) : Below B l ↔ DigitsOk l := Iff.rfl

theorem valBase_eq_ofDigits (b : Nat) (l : List Nat) : valBase b l = Nat.ofDigits b l := by
  induction l with
  | nil => rfl
  | cons d ds ih => simp [valBase, Nat.ofDigits_cons, ih]

theorem val_eq_valBase (l : List Nat) : val l = valBase B l := by
  induction l with
  | nil => rfl
  | cons d ds ih => simp [val, valBase, ih]

theorem valBase_append (b : Nat) (l1 l2 : List Nat) :
    valBase b (l1 ++ l2) = valBase b l1 + b ^ l1.length * valBase b l2 := by
  simp only [valBase_eq_ofDigits, Nat.ofDigits_append]

theorem valBase_snoc (b : Nat) (l : List Nat) (t : Nat) :
    valBase b (l ++ [t]) = valBase b l + b ^ l.length * t := by
  rw [valBase_append]; simp only [valBase, Nat.mul_zero, Nat.add_zero]

theorem valBase_lt {b : Nat} {l : List Nat} (h : Below b l) : valBase b l < b ^ l.length := by
  induction l with
  | nil => exact Nat.one_pos
  | cons d ds ih => exact pow_succ' b _ ▸ add_mul_lt h.head (ih h.tail)

theorem valBase_take_drop (b : Nat) : ∀ (n : Nat) (l : List Nat),
    valBase b l = valBase b (l.take n) + b ^ n * valBase b (l.drop n)
  | 0, l => by rw [List.take_zero, List.drop_zero, pow_zero, Nat.one_mul]; exact (Nat.zero_add _).symm
  | n + 1, [] => rfl
  | n + 1, d :: ds => by
    rw [List.take_succ_cons, List.drop_succ_cons, valBase, valBase, valBase_take_drop b n ds, pow_succ]
    ring

/-- uniqueness of positional digits: a list of proper digits without a high zero digit is
    `Nat.digits` of its value -/
theorem digits_unique {b : Nat} (hb : 1 < b) {L : List Nat} (hlt : Below b L)
    (hlast : L.getLast? ≠ some 0) : L = Nat.digits b (valBase b L) := by
  rw [valBase_eq_ofDigits]
  symm
  apply Nat.digits_ofDigits b hb L hlt
  intro hne h0
  apply hlast
  rw [List.getLast?_eq_some_getLast hne, h0]

theorem canon_eq_digits {a : List Nat} (h : Canon a) : a = Nat.digits B (val a) := by
  rw [val_eq_valBase]
  exact digits_unique (by decide) h.1 h.2

theorem ofNat_eq_digits (n : Nat) : ofNat n = Nat.digits B n := by
  have := canon_eq_digits (ofNat_canon n)
  rwa [ofNat_val] at this

theorem W_eq : W = 2 ^ 32 := by decide
theorem W_mul_W : W * W = B := by decide
theorem B_eq_256 : B = 256 ^ 8 := by decide

/-- `(hi << k) | lo` (truncated to the digit width) is `lo + 2^k·hi` when nothing overlaps or overflows -/
theorem shl_or {k lo hi : Nat} (hl : lo < 2 ^ k) (hh : hi * 2 ^ k < B) :
    ((hi <<< k) % B) ||| lo = lo + 2 ^ k * hi := by
  rw [Nat.shiftLeft_eq, Nat.mod_eq_of_lt hh, Nat.or_comm, Nat.mul_comm, or_eq_add_of_lt hi hl]

theorem or_shl32 {lo hi : Nat} (hl : lo < W) (hh : hi < W) :
    lo ||| ((hi <<< halfBits) % B) = lo + W * hi := by
  rw [Nat.or_comm]
  exact shl_or (k := 32) hl (W_mul_W ▸ Nat.mul_lt_mul_of_pos_right hh (by decide))

theorem chunks_nil (n : Nat) : chunks n [] = [] := by
  rw [chunks, dif_pos (Or.inr rfl)]
theorem chunks_cons {n : Nat} {l : List Nat} (hn : n ≠ 0) (hl : l ≠ []) :
    chunks n l = l.take n :: chunks n (l.drop n) := by
  rw [chunks, dif_neg (not_or.mpr ⟨hn, hl⟩)]
theorem chunks2_cons_cons (a b : Nat) (t : List Nat) : chunks 2 (a :: b :: t) = [a, b] :: chunks 2 t :=
  chunks_cons (by decide) (List.cons_ne_nil _ _)
theorem chunks2_single (a : Nat) : chunks 2 [a] = [[a]] := by
  rw [chunks_cons (by decide) (List.cons_ne_nil _ _)]; exact congrArg _ (chunks_nil 2)

/-- pairwise packing of u32 words (specification side) -/
def pairUp : List Nat → List Nat
  | [] => []
  | [a] => [a]
  | a :: b :: t => (a + W * b) :: pairUp t

theorem pairUp_val : ∀ (ws : List Nat), val (pairUp ws) = valBase W ws
  | [] => rfl
  | [a] => by simp [pairUp, val, valBase]
  | a :: b :: t => by
    simp only [pairUp, val, valBase, pairUp_val t]
    have := W_mul_W
    rw [← this]; ring

theorem pairUp_ok : ∀ (ws : List Nat), Below W ws → DigitsOk (pairUp ws)
  | [], _ => DigitsOk.nil
  | [a], h => DigitsOk.cons (lt_trans (h.head) (by decide)) DigitsOk.nil
  | a :: b :: t, h =>
    DigitsOk.cons (W_mul_W ▸ add_mul_lt h.head h.tail.head) (pairUp_ok t h.tail.tail)

theorem mapM_chunks2 : ∀ (ws : List Nat), Below W ws →
    mapM' u32ChunkToU64 (chunks 2 ws) = .ok (pairUp ws)
  | [], _ => by simp [chunks_nil, mapM', pairUp]
  | [a], _ => by simp [chunks2_single, mapM', pairUp, u32ChunkToU64]
  | a :: b :: t, h => by
    rw [chunks2_cons_cons]
    simp only [mapM', u32ChunkToU64, mapM_chunks2 t h.tail.tail, pairUp]
    rw [or_shl32 h.head h.tail.head]

theorem assignFromSlice_eq (old ws : List Nat) (h : Below W ws) :
    assignFromSlice old ws = .ok (ofNat (valBase W ws)) := by
  unfold assignFromSlice
  rw [mapM_chunks2 ws h]
  simp only
  rw [normalize_eq_ofNat (pairUp_ok ws h), pairUp_val]

/-! ### bytes → digits (`from_bitwise_digits_le` with 8-bit digits) -/

theorem foldChunk8 : ∀ (chunk : List Nat), Below 256 chunk → chunk.length ≤ 8 →
    foldChunk 8 chunk = valBase 256 chunk := by
  intro chunk hb hl
  unfold foldChunk
  rw [List.foldl_reverse]
  induction chunk with
  | nil => rfl
  | cons c cs ih =>
    rw [List.foldr_cons, ih hb.tail (Nat.le_of_succ_le hl)]
    have hp : 256 ^ cs.length ≤ 256 ^ 7 := Nat.pow_le_pow_right (by decide) (Nat.le_of_succ_le_succ hl)
    -- the accumulator has at most 7 bytes, so shifting it by one byte stays within the digit
    exact shl_or (k := 8) hb.head (Nat.lt_of_lt_of_le
      (Nat.mul_lt_mul_of_pos_right (valBase_lt hb.tail) (by decide)) (Nat.mul_le_mul_right (2 ^ 8) hp))

theorem chunks8_val (bs : List Nat) (hb : Below 256 bs) :
    val ((chunks 8 bs).map (foldChunk 8)) = valBase 256 bs ∧
    DigitsOk ((chunks 8 bs).map (foldChunk 8)) := by
  induction hn : bs.length using Nat.strong_induction_on generalizing bs with
  | _ n ih =>
    by_cases hne : bs = []
    · subst hne; rw [chunks_nil]; exact ⟨rfl, DigitsOk.nil⟩
    · have htl : (bs.take 8).length ≤ 8 := List.length_take_le 8 bs
      obtain ⟨iv, iok⟩ := ih _ (by rw [List.length_drop, ← hn]; exact Nat.sub_lt (List.length_pos_iff.mpr hne) (by decide))
        (bs.drop 8) (hb.drop 8) rfl
      rw [chunks_cons (by decide) hne, List.map_cons, foldChunk8 _ (hb.take 8) htl]
      refine ⟨?_, DigitsOk.cons ?_ iok⟩
      · rw [val, iv, valBase_take_drop 256 8 bs, B_eq_256]
      · calc valBase 256 (bs.take 8) < 256 ^ (bs.take 8).length := valBase_lt (hb.take 8)
          _ ≤ 256 ^ 8 := Nat.pow_le_pow_right (by decide) htl
          _ = B := B_eq_256.symm

theorem fromBytesLe_eq (bs : List Nat) (h : Below 256 bs) :
    fromBytesLe bs = .ok (ofNat (valBase 256 bs)) := by
  by_cases hne : bs = []
  · subst hne; simp [fromBytesLe, valBase, ofNat]
  · have he : bs.isEmpty = false := by rwa [List.isEmpty_eq_false_iff]
    have hall : (bs.all fun c => decide (c < 1 <<< byteBits)) = true :=
      List.all_eq_true.mpr fun x hx => decide_eq_true (h x hx)
    obtain ⟨hv, hok⟩ := chunks8_val bs h
    unfold fromBytesLe fromBitwiseDigitsLe
    rw [he, hall]
    exact congrArg Except.ok ((normalize_eq_ofNat hok).trans (congrArg ofNat hv))

theorem fromBytesBe_eq (bs : List Nat) (h : Below 256 bs) :
    fromBytesBe bs = .ok (ofNat (valBase 256 bs.reverse)) := by
  cases bs with
  | nil => simp [fromBytesBe, valBase, ofNat]
  | cons b bs => exact fromBytesLe_eq _ h.reverse

/-! ### digits → bytes (`to_bitwise_digits_le` with 8-bit digits) -/

theorem and255 (r : Nat) : (r &&& 255) % byteBase = r % 256 := by
  have := Nat.and_two_pow_sub_one_eq_mod r 8
  simp only [show (2:Nat) ^ 8 = 256 by decide] at this
  rw [this, show byteBase = 256 from rfl, Nat.mod_mod]

theorem fullDigits_spec : ∀ (k r : Nat),
    (fullDigits 255 8 k r).length = k ∧ Below 256 (fullDigits 255 8 k r) ∧
    valBase 256 (fullDigits 255 8 k r) = r % 256 ^ k := by
  intro k
  induction k with
  | zero => intro r; simp [fullDigits, valBase, Below.nil, Nat.mod_one]
  | succ k ih =>
    intro r
    obtain ⟨h1, h2, h3⟩ := ih (r >>> 8)
    simp only [fullDigits, and255, List.length_cons, h1, valBase, h3, true_and]
    refine ⟨Below.cons (Nat.mod_lt _ (by decide)) h2, ?_⟩
    rw [Nat.shiftRight_eq_div_pow, show (2:Nat) ^ 8 = 256 by decide, pow_succ,
      Nat.mul_comm (256 ^ k) 256, Nat.mod_mul]

theorem whileDigits_spec (r : Nat) : whileDigits 255 8 r = Nat.digits 256 r := by
  induction r using Nat.strongRecOn with
  | _ r ih =>
    rw [whileDigits]
    by_cases h : r = 0
    · subst h; simp
    · have h' : ¬ (r = 0 ∨ (8:Nat) = 0) := not_or.mpr ⟨h, by decide⟩
      simp only [h', dite_false, and255]
      have hlt : r >>> 8 < r := by
        rw [Nat.shiftRight_eq_div_pow]
        exact Nat.div_lt_self (Nat.pos_of_ne_zero h) (by decide)
      rw [ih _ hlt, Nat.shiftRight_eq_div_pow, show (2:Nat) ^ 8 = 256 by decide]
      rw [Nat.digits_def' (by decide) (Nat.pos_of_ne_zero h)]

theorem flatMap_full_spec : ∀ (init : List Nat), DigitsOk init →
    Below 256 (init.flatMap (fun r => fullDigits 255 8 8 r)) ∧
    (init.flatMap (fun r => fullDigits 255 8 8 r)).length = 8 * init.length ∧
    valBase 256 (init.flatMap (fun r => fullDigits 255 8 8 r)) = val init := by
  intro init
  induction init with
  | nil => intro _; simp [valBase, val, Below.nil]
  | cons d ds ih =>
    intro h
    obtain ⟨i1, i2, i3⟩ := ih h.tail
    obtain ⟨f1, f2, f3⟩ := fullDigits_spec 8 d
    simp only [List.flatMap_cons, List.length_append, f1, i2, List.length_cons, valBase_append, f3, i3, val]
    refine ⟨f2.append i1, by rw [Nat.mul_add, Nat.mul_one, Nat.add_comm], ?_⟩
    rw [← B_eq_256, Nat.mod_eq_of_lt h.head]

theorem toBytesLe_snoc (init : List Nat) (last : Nat) :
    toBytesLe (init ++ [last]) =
      .ok (init.flatMap (fun r => fullDigits 255 8 8 r) ++ whileDigits 255 8 last) := by
  have he : (init ++ [last]).isEmpty = false := by cases init <;> rfl
  unfold toBytesLe toBitwiseDigitsLe
  rw [he, List.dropLast_concat, List.getLast?_concat]
  rfl

/-- structure of the byte export of a non-zero canonical magnitude -/
theorem toBytesLe_struct {u : List Nat} (hc : Canon u) (hne : u ≠ []) :
    ∃ bytes, toBytesLe u = .ok bytes ∧ Below 256 bytes ∧ bytes.getLast? ≠ some 0 ∧ bytes ≠ [] ∧
      valBase 256 bytes = val u := by
  rcases eq_nil_or_snoc u with h | ⟨init, last, rfl⟩
  · exact absurd h hne
  · have hlast0 : last ≠ 0 := by
      rintro rfl; exact hc.2 (by rw [List.getLast?_append, List.getLast?_singleton]; rfl)
    have hdn : Nat.digits 256 last ≠ [] := Nat.digits_ne_nil_iff_ne_zero.mpr hlast0
    obtain ⟨f1, f2, f3⟩ := flatMap_full_spec init hc.1.left
    refine ⟨_, toBytesLe_snoc init last, ?_, ?_, ?_, ?_⟩ <;> rw [whileDigits_spec]
    · exact f1.append (Below.digits (by decide) last)
    · rw [List.getLast?_append, List.getLast?_eq_some_getLast hdn]
      simpa using Nat.getLast_digit_ne_zero 256 hlast0
    · exact List.append_ne_nil_of_right_ne_nil _ hdn
    · rw [valBase_append, f2, f3, val_append, valBase_eq_ofDigits, Nat.ofDigits_digits]
      simp only [val, Nat.mul_zero, Nat.add_zero]
      rw [B_eq_256, ← pow_mul]

theorem xor255 {d : Nat} (h : d < 256) : d ^^^ 255 = 255 - d := xor_two_pow_sub_one (k := 8) h

theorem twosGo_length : ∀ (bs : List Nat) (c : Bool), (twosGo c bs).length = bs.length := by
  intro bs
  induction bs with
  | nil => intro c; rfl
  | cons d ds ih =>
    intro c
    cases c <;> simp [twosGo, ih]

/-! The three steps of `twosGo` on proper bytes: a zero byte under a carry stays zero and passes the
    carry on; a non-zero byte absorbs the carry; without a carry every byte is complemented.  Hence
    `twosGo false` complements (`v ↦ 256^n - 1 - v`) and `twosGo true` negates modulo `256^n`. -/

theorem twosGo_true_zero (ds : List Nat) : twosGo true (0 :: ds) = 0 :: twosGo true ds := rfl

theorem twosGo_true_pos {d : Nat} (ds : List Nat) (h0 : d ≠ 0) (h : d < 256) :
    twosGo true (d :: ds) = (256 - d) :: twosGo false ds := by
  have e : (255 - d + 1) % 256 = 256 - d := by
    rw [← Nat.sub_add_comm (Nat.le_of_lt_succ h)]
    exact Nat.mod_eq_of_lt (Nat.sub_lt (by decide) (Nat.pos_of_ne_zero h0))
  have ne : (256 - d == 0) = false := beq_eq_false_iff_ne.mpr (Nat.sub_ne_zero_of_lt h)
  simp only [twosGo, if_true, xor255 h, show byteBase = 256 from rfl, e, ne]

theorem twosGo_false {d : Nat} (ds : List Nat) (h : d < 256) :
    twosGo false (d :: ds) = (255 - d) :: twosGo false ds := by
  simp only [twosGo, Bool.false_eq_true, if_false, xor255 h]

theorem twosGo_false_spec : ∀ (bs : List Nat), Below 256 bs →
    Below 256 (twosGo false bs) ∧ valBase 256 (twosGo false bs) + valBase 256 bs + 1 = 256 ^ bs.length
  | [], _ => ⟨Below.nil, rfl⟩
  | d :: ds, h => by
    obtain ⟨ib, iv⟩ := twosGo_false_spec ds h.tail
    have hd := h.head
    rw [twosGo_false ds hd]
    refine ⟨Below.cons (Nat.lt_succ_of_le (Nat.sub_le _ _)) ib, ?_⟩
    simp only [valBase, List.length_cons, pow_succ]
    omega

theorem twosGo_true_spec : ∀ (bs : List Nat), Below 256 bs →
    Below 256 (twosGo true bs) ∧
    valBase 256 (twosGo true bs) + valBase 256 bs = if valBase 256 bs = 0 then 0 else 256 ^ bs.length
  | [], _ => ⟨Below.nil, rfl⟩
  | d :: ds, h => by
    have hd := h.head
    by_cases hd0 : d = 0
    · subst hd0
      obtain ⟨ib, iv⟩ := twosGo_true_spec ds h.tail
      rw [twosGo_true_zero]
      refine ⟨Below.cons hd ib, ?_⟩
      simp only [valBase, List.length_cons, pow_succ, Nat.zero_add]
      rw [← Nat.mul_add, iv]
      by_cases hw : valBase 256 ds = 0
      · rw [if_pos hw, hw]; rfl
      · rw [if_neg hw, if_neg (Nat.mul_ne_zero (by decide) hw), Nat.mul_comm]
    · obtain ⟨ib, iv⟩ := twosGo_false_spec ds h.tail
      rw [twosGo_true_pos ds hd0 hd]
      refine ⟨Below.cons (Nat.sub_lt (by decide) (Nat.pos_of_ne_zero hd0)) ib, ?_⟩
      simp only [valBase, List.length_cons, pow_succ]
      rw [if_neg (fun h0 => hd0 (Nat.eq_zero_of_add_eq_zero_right h0))]
      omega

/-- list form of "all other bytes are zero" -/
theorem all_zero_iff_valBase (b : Nat) (hb : 0 < b) : ∀ (l : List Nat), (l.all (· == 0)) = true ↔ valBase b l = 0
  | [] => by simp [valBase]
  | d :: ds => by
    simp only [List.all_cons, Bool.and_eq_true, beq_iff_eq, valBase, all_zero_iff_valBase b hb ds,
      Nat.add_eq_zero_iff, Nat.mul_eq_zero, Nat.ne_of_gt hb, false_or]

theorem tcDecode_snoc (init : List Nat) (t : Nat) :
    tcDecode (init ++ [t]) =
      if t > 127 then (valBase 256 (init ++ [t]) : Int) - ((256 ^ (init.length + 1) : Nat) : Int)
      else (valBase 256 (init ++ [t]) : Int) := by
  -- the last byte is `t` and there are `init.length + 1` bytes; the rest is the definition
  unfold tcDecode
  rw [List.getLast?_concat, List.length_append]
  rfl

/-- the top byte is the quotient of the value by `256^k`, the lower bytes are the remainder -/
theorem top_gt_iff {init : List Nat} {t : Nat} (hi : Below 256 init) :
    t > 127 ↔ 128 * 256 ^ init.length ≤ valBase 256 (init ++ [t]) := by
  have hv := valBase_lt hi
  have hp := Nat.zero_lt_of_lt hv
  rw [valBase_snoc, ← Nat.le_div_iff_mul_le hp, Nat.add_mul_div_left _ _ hp, Nat.div_eq_of_lt hv, Nat.zero_add]
  exact Iff.rfl

theorem top_eq_iff {init : List Nat} {t : Nat} (hi : Below 256 init) :
    t = 128 ∧ valBase 256 init = 0 ↔ valBase 256 (init ++ [t]) = 128 * 256 ^ init.length := by
  have hv := valBase_lt hi
  have hp := Nat.zero_lt_of_lt hv
  rw [valBase_snoc]
  constructor
  · rintro ⟨rfl, h0⟩; rw [h0, Nat.zero_add, Nat.mul_comm]
  · intro h
    have h1 := congrArg (· / 256 ^ init.length) h
    have h2 := congrArg (· % 256 ^ init.length) h
    simp only [Nat.add_mul_div_left _ _ hp, Nat.div_eq_of_lt hv, Nat.zero_add, Nat.mul_div_cancel _ hp,
      Nat.add_mul_mod_self_left, Nat.mod_eq_of_lt hv, Nat.mul_mod_left] at h1 h2
    exact ⟨h1, h2⟩

theorem tcDecode_eq {bs : List Nat} {n : Nat} (hb : Below 256 bs) (hn : bs.length = n + 1) :
    tcDecode bs =
      if 128 * 256 ^ n ≤ valBase 256 bs then (valBase 256 bs : Int) - ((256 ^ (n + 1) : Nat) : Int)
      else (valBase 256 bs : Int) := by
  rcases eq_nil_or_snoc bs with rfl | ⟨init, t, rfl⟩
  · cases hn
  · obtain rfl : init.length = n := by simpa using hn
    rw [tcDecode_snoc]
    exact if_congr (top_gt_iff hb.left) rfl rfl

theorem tcDecode_range {bs : List Nat} {n : Nat} (hb : Below 256 bs) (hn : bs.length = n + 1) :
    - ((128 * 256 ^ n : Nat) : Int) ≤ tcDecode bs ∧ tcDecode bs < ((128 * 256 ^ n : Nat) : Int) := by
  have hv := valBase_lt hb
  rw [hn, pow_succ] at hv
  rw [tcDecode_eq hb hn, pow_succ]
  split_ifs with h <;> omega

theorem not_outside_of_inside {v : Int} {a b : Nat} (hab : a ≤ b)
    (hin : - ((128 * 256 ^ a : Nat) : Int) ≤ v ∧ v < ((128 * 256 ^ a : Nat) : Int))
    (hout : v < - ((128 * 256 ^ b : Nat) : Int) ∨ ((128 * 256 ^ b : Nat) : Int) ≤ v) : False := by
  have hle : ((128 * 256 ^ a : Nat) : Int) ≤ ((128 * 256 ^ b : Nat) : Int) :=
    Int.ofNat_le.mpr (Nat.mul_le_mul_left _ (Nat.pow_le_pow_right (by decide) hab))
  rcases hout with h | h
  · exact absurd (Int.lt_of_lt_of_le h (Int.neg_le_neg hle)) (Int.not_lt.mpr hin.1)
  · exact absurd (Int.lt_of_lt_of_le hin.2 hle) (Int.not_lt.mpr h)

/-- an encoding whose value lies outside the range of the next shorter length is a shortest one -/
theorem minimal_of_outside {v : Int} {j : Nat}
    (hout : v < - ((128 * 256 ^ j : Nat) : Int) ∨ ((128 * 256 ^ j : Nat) : Int) ≤ v) :
    ∀ bs, Below 256 bs → bs ≠ [] → tcDecode bs = v → j + 2 ≤ bs.length := by
  intro bs hb hne hv
  by_contra hlt
  obtain ⟨l, hl⟩ := Nat.exists_eq_add_one_of_ne_zero (mt List.length_eq_zero_iff.mp hne)
  exact not_outside_of_inside (Nat.le_of_lt_succ (Nat.lt_of_succ_lt_succ (hl ▸ Nat.lt_of_not_le hlt)))
    (hv ▸ tcDecode_range hb hl) hout

theorem tcDecode_extend {bs : List Nat} (hb : Below 256 bs) (hne : bs ≠ []) :
    tcDecode (bs ++ [if tcDecode bs < 0 then 255 else 0]) = tcDecode bs := by
  rcases eq_nil_or_snoc bs with rfl | ⟨init, t, rfl⟩
  · exact absurd rfl hne
  · have hv := valBase_lt hb
    rw [tcDecode_snoc (init ++ [t]), valBase_snoc, tcDecode_snoc init]
    rw [List.length_append, List.length_singleton] at hv ⊢
    by_cases ht : t > 127
    · rw [if_pos ht, if_pos (Int.sub_neg_of_lt (Int.ofNat_lt.mpr hv)), if_pos (by decide)]
      push_cast; ring
    · rw [if_neg ht, if_neg (Int.not_lt.mpr (Int.natCast_nonneg _)), if_neg (by decide), Nat.mul_zero,
        Nat.add_zero]

theorem tcDecode_twosGo {bs : List Nat} {n : Nat} (hb : Below 256 bs) (hn : bs.length = n + 1)
    (h0 : 0 < valBase 256 bs) (h : valBase 256 bs ≤ 128 * 256 ^ n) :
    tcDecode (twosGo true bs) = - (valBase 256 bs : Int) := by
  obtain ⟨tb, tv⟩ := twosGo_true_spec bs hb
  rw [if_neg (Nat.ne_of_gt h0), hn, pow_succ] at tv
  have hV : 128 * 256 ^ n ≤ valBase 256 (twosGo true bs) :=
    Nat.le_of_add_le_add_right (b := valBase 256 bs) (calc
      _ ≤ 128 * 256 ^ n + 128 * 256 ^ n := Nat.add_le_add_left h _
      _ = 256 ^ n * 256 := by ring
      _ = _ := tv.symm)
  rw [tcDecode_eq tb (by rw [twosGo_length, hn]), pow_succ, if_pos hV, ← tv]
  push_cast; ring

/-- the last step of `to_signed_bytes_le`: `b` of `n + 1` bytes is returned for a positive and
    complemented for a negative number, provided the magnitude fits -/
theorem encode_spec {b : List Nat} {n : Nat} (neg : Prop) [Decidable neg] (hb : Below 256 b)
    (hn : b.length = n + 1) (h0 : 0 < valBase 256 b)
    (hfit : valBase 256 b < 128 * 256 ^ n ∨ (neg ∧ valBase 256 b = 128 * 256 ^ n)) :
    Below 256 (if neg then twosGo true b else b) ∧ (if neg then twosGo true b else b).length = n + 1 ∧
    tcDecode (if neg then twosGo true b else b) = if neg then - (valBase 256 b : Int) else valBase 256 b := by
  by_cases hneg : neg
  · simp only [if_pos hneg]
    refine ⟨(twosGo_true_spec b hb).1, by rw [twosGo_length, hn], tcDecode_twosGo hb hn h0 ?_⟩
    rcases hfit with h | h
    · exact Nat.le_of_lt h
    · exact Nat.le_of_eq h.2
  · simp only [if_neg hneg]
    refine ⟨hb, hn, ?_⟩
    rw [tcDecode_eq hb hn, if_neg (Nat.not_le.mpr (hfit.resolve_right fun h => hneg h.1))]

/-- What `to_signed_bytes_le` makes of the magnitude bytes, given its two decisions:
    `ext` is `last_byte > 0x7f && !(last_byte == 0x80 && bytes.iter().rev().skip(1).all(Zero::is_zero)
    && x.sign == Sign::Minus)` (push a zero byte), `neg` is `x.sign == Sign::Minus` (complement). -/
def signedOut (bytes : List Nat) (ext neg : Prop) [Decidable ext] [Decidable neg] : List Nat :=
  let b2 := if ext then bytes ++ [0] else bytes
  if neg then twosGo true b2 else b2

theorem toSignedBytesLe_snoc (s : Sign) (m init : List Nat) (t : Nat) (h1 : toBytesLe m = .ok (init ++ [t])) :
    toSignedBytesLe ⟨s, m⟩ = .ok (signedOut (init ++ [t])
      (t > 127 ∧ ¬ (t = 128 ∧ ((init ++ [t]).reverse.drop 1).all (· == 0) ∧ s = .minus)) (s = .minus)) := by
  unfold toSignedBytesLe
  simp only [h1, List.getLast?_append, List.getLast?_singleton, Option.some_or, Option.getD_some]
  rfl

/-- in terms of the magnitude `m` the extension test reads `128·256^k ≤ m`, except `m = 128·256^k`
    for a negative number -/
theorem extension_test_iff {init : List Nat} {t : Nat} (hi : Below 256 init) (neg : Prop) :
    (t > 127 ∧ ¬ (t = 128 ∧ ((init ++ [t]).reverse.drop 1).all (· == 0) ∧ neg)) ↔
      (128 * 256 ^ init.length ≤ valBase 256 (init ++ [t]) ∧
        ¬ (valBase 256 (init ++ [t]) = 128 * 256 ^ init.length ∧ neg)) := by
  have hall : ((init ++ [t]).reverse.drop 1).all (· == 0) = true ↔ valBase 256 init = 0 := by
    rw [List.reverse_append, List.reverse_singleton, List.singleton_append, List.drop_one, List.tail_cons,
      List.all_reverse]
    exact all_zero_iff_valBase 256 (by decide) init
  rw [hall, ← and_assoc, top_gt_iff hi, top_eq_iff hi]

/-- The decision core of `to_signed_bytes_le` on `k + 1` magnitude bytes whose top byte is not zero:
    the output encodes `±m`, and when it has `j + 2` bytes then `m` is beyond the `j + 1`-byte range
    (strictly for a negative number, whose range reaches one further). -/
theorem signedOut_spec {bytes : List Nat} {k : Nat} (hb : Below 256 bytes) (hk : bytes.length = k + 1)
    (hlo : 256 ^ k ≤ valBase 256 bytes) (ext neg : Prop) [Decidable ext] [Decidable neg]
    (hext : ext ↔ (128 * 256 ^ k ≤ valBase 256 bytes ∧ ¬ (valBase 256 bytes = 128 * 256 ^ k ∧ neg))) :
    Below 256 (signedOut bytes ext neg) ∧ signedOut bytes ext neg ≠ [] ∧
    tcDecode (signedOut bytes ext neg) = (if neg then - (valBase 256 bytes : Int) else valBase 256 bytes) ∧
    ∀ j, (signedOut bytes ext neg).length = j + 2 →
      128 * 256 ^ j ≤ valBase 256 bytes ∧ (neg → 128 * 256 ^ j < valBase 256 bytes) := by
  have hp : 0 < 256 ^ k := Nat.pow_pos (by decide)
  have hhi := valBase_lt hb
  rw [hk, pow_succ] at hhi
  by_cases h : ext
  · have hx := hext.mp h
    simp only [signedOut, if_pos h]
    have hb0 : Below 256 (bytes ++ [0]) := hb.append (Below.cons (by decide) Below.nil)
    have hv0 : valBase 256 (bytes ++ [0]) = valBase 256 bytes := by
      rw [valBase_snoc, Nat.mul_zero, Nat.add_zero]
    have hl0 : (bytes ++ [0]).length = k + 1 + 1 := by rw [List.length_append, hk]; rfl
    have hfit : valBase 256 bytes < 128 * 256 ^ (k + 1) :=
      Nat.lt_of_lt_of_le hhi (by rw [pow_succ]; exact Nat.le_mul_of_pos_left _ (by decide))
    rw [← hv0] at hlo hfit
    obtain ⟨e1, e2, e3⟩ := encode_spec neg hb0 hl0 (Nat.lt_of_lt_of_le hp hlo) (Or.inl hfit)
    rw [hv0] at e3
    refine ⟨e1, List.ne_nil_of_length_eq_add_one e2, e3, fun j hj => ?_⟩
    obtain rfl : j = k := Nat.succ.inj (Nat.succ.inj (hj.symm.trans e2))
    exact ⟨hx.1, fun hn => Nat.lt_of_le_of_ne hx.1 (fun h => hx.2 ⟨h.symm, hn⟩)⟩
  · have hx := mt hext.mpr h
    simp only [signedOut, if_neg h]
    have hfit : valBase 256 bytes < 128 * 256 ^ k ∨ (neg ∧ valBase 256 bytes = 128 * 256 ^ k) := by
      by_contra hc
      rw [not_or] at hc
      exact hx ⟨Nat.le_of_not_lt hc.1, fun h => hc.2 ⟨h.2, h.1⟩⟩
    obtain ⟨e1, e2, e3⟩ := encode_spec neg hb hk (Nat.lt_of_lt_of_le hp hlo) hfit
    refine ⟨e1, List.ne_nil_of_length_eq_add_one e2, e3, fun j hj => ?_⟩
    obtain rfl : k = j + 1 := Nat.succ.inj (e2.symm.trans hj)
    have hq : 0 < 256 ^ j := Nat.pow_pos (by decide)
    rw [pow_succ] at hlo
    have : 128 * 256 ^ j < valBase 256 bytes :=
      Nat.lt_of_lt_of_le (Nat.mul_comm _ _ ▸ Nat.mul_lt_mul_of_pos_left (by decide : 128 < 256) hq) hlo
    exact ⟨Nat.le_of_lt this, fun _ => this⟩

theorem from_signed_bytes_be_eq (bs : List Nat) : fromSignedBytesBe bs = fromSignedBytesLe bs.reverse := by
  unfold fromSignedBytesBe fromSignedBytesLe
  cases bs with
  | nil => rfl
  | cons b rest =>
    have hne : ((b :: rest).isEmpty) = false := rfl
    have hne2 : (twosGo true (b :: rest).reverse).reverse.isEmpty = false := by
      cases h : (twosGo true (b :: rest).reverse).reverse with
      | nil =>
        have := congrArg List.length h
        simp [twosGo_length] at this
      | cons _ _ => rfl
    simp only [List.head?_cons, List.getLast?_reverse, fromBytesBe, hne, hne2, Bool.false_eq_true, if_false,
      twosComplementBe, twosComplementLe, List.reverse_reverse]

theorem to_signed_bytes_be_eq (x : BigInt) :
    toSignedBytesBe x = (toSignedBytesLe x).map List.reverse := by
  unfold toSignedBytesBe toSignedBytesLe toBytesBe
  cases h : toBytesLe x.mag with
  | error e => rfl
  | ok bytes =>
    simp only [Except.map, List.head?_reverse, twosComplementBe, twosComplementLe, apply_ite List.reverse,
      List.reverse_append, List.reverse_cons, List.reverse_nil, List.nil_append, List.singleton_append,
      List.reverse_reverse]

end NB.Bytes
