/- the induction hypothesis for `mac3` (`MacSpec`: the recursive callee is already correct on
   strictly smaller operand pairs) and, over such a callee, the half-Karatsuba and Karatsuba branches -/
import NB.Lemmas.Mul
namespace NB.Mul

/-- Well-formedness of the extracted thresholds / split rules for the multiplication model.
    These make the recursion well founded and the temporaries large enough:
    * `karaSlack, mulSlack ≥ 1`: one spare digit in `p` and in `mul3`'s product buffer;
    * `2 ≤ halfDen ≤ tSchool+1`, `2 ≤ karaDen ≤ tSchool+1`: both parts of a split are non-empty
      and the low part is not longer than the high part (`x1.len() >= x0.len()`);
    * Toom-3: `i = y.len()/toomDen + toomAdd ≥ 1` and `i + 2 ≤ x.len()` in that regime. -/
def _root_.NB.Params.ValidMul (P : Params) : Prop :=
  1 ≤ P.karaSlack ∧ 1 ≤ P.mulSlack ∧ 2 ≤ P.halfDen ∧ P.halfDen ≤ P.tSchool + 1 ∧
  2 ≤ P.karaDen ∧ P.karaDen ≤ P.tSchool + 1 ∧ 1 ≤ P.toomAdd ∧ P.halfMul + 1 ≤ P.toomDen ∧
  (P.halfMul + 1) * (P.toomAdd + 1) ≤ P.tKara + 1

instance (P : Params) : Decidable P.ValidMul := by unfold Params.ValidMul; infer_instance

section
variable {P : Params} (h : P.ValidMul)
include h
theorem _root_.NB.Params.ValidMul.karaSlack_pos : 1 ≤ P.karaSlack := h.1
theorem _root_.NB.Params.ValidMul.mulSlack_pos : 1 ≤ P.mulSlack := h.2.1
theorem _root_.NB.Params.ValidMul.two_le_halfDen : 2 ≤ P.halfDen := h.2.2.1
theorem _root_.NB.Params.ValidMul.halfDen_le : P.halfDen ≤ P.tSchool + 1 := h.2.2.2.1
theorem _root_.NB.Params.ValidMul.two_le_karaDen : 2 ≤ P.karaDen := h.2.2.2.2.1
theorem _root_.NB.Params.ValidMul.karaDen_le : P.karaDen ≤ P.tSchool + 1 := h.2.2.2.2.2.1
theorem _root_.NB.Params.ValidMul.toomAdd_pos : 1 ≤ P.toomAdd := h.2.2.2.2.2.2.1
theorem _root_.NB.Params.ValidMul.halfMul_lt_toomDen : P.halfMul + 1 ≤ P.toomDen := h.2.2.2.2.2.2.2.1
theorem _root_.NB.Params.ValidMul.toom_le_tKara :
    (P.halfMul + 1) * (P.toomAdd + 1) ≤ P.tKara + 1 := h.2.2.2.2.2.2.2.2
end

/-- the type of `mac3` with the recursion opened: accumulator, two operands, new accumulator -/
abbrev MacFn := List Nat → List Nat → List Nat → Except Panic (List Nat)

/-- what callers of `mac3` establish: proper digits, room for the product plus one spare digit,
    and the final value below the top digit -/
def MacPre (acc b c : List Nat) : Prop :=
  DigitsOk acc ∧ DigitsOk b ∧ DigitsOk c ∧ b.length + c.length + 1 ≤ acc.length ∧
  val acc + val b * val c < B ^ (acc.length - 1)

/-- what `mac3` guarantees -/
def MacOk (f : MacFn) (acc b c : List Nat) : Prop :=
  Adds (f acc b c) acc (val b * val c)

/-- `f` is a correct multiply-accumulate on all operand pairs of total length `< N` -/
def MacSpec (f : MacFn) (N : Nat) : Prop :=
  ∀ acc b c, b.length + c.length < N → MacPre acc b c → MacOk f acc b c

theorem val_mul_lt {b c : List Nat} (hb : DigitsOk b) (hc : DigitsOk c) :
    val b * val c < B ^ (b.length + c.length) := by
  rw [pow_add]; exact Nat.mul_lt_mul'' (val_lt hb) (val_lt hc)

/-- a recursive call on `acc[off..]`; `n`, `m` bound the operand lengths -/
theorem suffix_mac {rec : MacFn} {N : Nat} (hrec : MacSpec rec N) (off : Nat) (acc b c : List Nat)
    (ha : DigitsOk acc) (hb : DigitsOk b) (hc : DigitsOk c) {n m : Nat} (hbn : b.length ≤ n)
    (hcm : c.length ≤ m) (hN : n + m < N) (hl : off + n + m + 1 ≤ acc.length)
    (hv : val acc + B ^ off * (val b * val c) < B ^ (acc.length - 1)) :
    Adds (onSuffix off acc (fun t => rec t b c)) acc (B ^ off * (val b * val c)) := by
  have hoff : off ≤ acc.length := by omega
  refine onSuffix_spec ha hoff
    (hrec _ b c (Nat.lt_of_le_of_lt (Nat.add_le_add hbn hcm) hN) ⟨ha.drop _, hb, hc, ?_, ?_⟩)
  · rw [List.length_drop]; omega
  · rw [List.length_drop, Nat.sub_right_comm]; exact val_drop_add_lt (by omega) hv

/-- a product into a fresh zeroed temporary, then `normalize`; `n`, `m` bound the operand lengths -/
theorem fresh_mac {rec : MacFn} {N : Nat} (hrec : MacSpec rec N) (len : Nat) (b c : List Nat)
    (hb : DigitsOk b) (hc : DigitsOk c) {n m : Nat} (hbn : b.length ≤ n) (hcm : c.length ≤ m)
    (hN : n + m < N) (hl : n + m + 1 ≤ len) :
    ∃ r, rec (List.replicate len 0) b c = .ok r ∧ Canon (normalize r) ∧
      val (normalize r) = val b * val c ∧ (normalize r).length ≤ b.length + c.length := by
  have hbc : b.length + c.length ≤ n + m := Nat.add_le_add hbn hcm
  have hpre : MacPre (List.replicate len 0) b c := by
    refine ⟨digitsOk_replicate_zero _, hb, hc, ?_, ?_⟩
    · rw [List.length_replicate]; exact Nat.le_trans (Nat.succ_le_succ hbc) hl
    · rw [val_replicate_zero, List.length_replicate, Nat.zero_add]
      exact Nat.lt_of_lt_of_le (val_mul_lt hb hc)
        (B_pow_le_pow (Nat.le_sub_one_of_lt (Nat.lt_of_le_of_lt hbc hl)))
  obtain ⟨r, h1, h2, _, h4⟩ := hrec _ b c (Nat.lt_of_le_of_lt hbc hN) hpre
  rw [val_replicate_zero, Nat.zero_add] at h2
  refine ⟨r, h1, normalize_canon h4, by rw [normalize_val, h2], ?_⟩
  exact normalize_length_le h4 (by rw [h2]; exact val_mul_lt hb hc)

theorem halfKara_spec (P : Params) {rec : MacFn} {N : Nat} (hrec : MacSpec rec N)
    (acc x y : List Nat) (hpre : MacPre acc x y) (hN : x.length + y.length ≤ N)
    (hm1 : 1 ≤ y.length / P.halfDen) (hm2 : y.length / P.halfDen < y.length) :
    MacOk (halfKara P rec) acc x y := by
  have hl : x.length + y.length + 1 ≤ acc.length := hpre.2.2.2.1
  unfold MacOk halfKara
  dsimp only
  generalize y.length / P.halfDen = m2 at hm1 hm2 ⊢
  have htl : (y.take m2).length = m2 := List.length_take_of_le (Nat.le_of_lt hm2)
  have hdl : (y.drop m2).length + m2 = y.length := by rw [List.length_drop]; omega
  have h1 : x.length + (y.take m2).length < N := by omega
  have h2 : x.length + (y.take m2).length + 1 ≤ acc.length := by omega
  have h3 : x.length + (y.drop m2).length < N := by omega
  have h4 : m2 + x.length + (y.drop m2).length + 1 ≤ acc.length := by omega
  obtain ⟨ha, hx, hy, -, hv⟩ := hpre
  have hexp : val x * val y = val x * val (y.take m2) + B ^ m2 * (val x * val (y.drop m2)) := by
    rw [val_split_at y m2]; ring
  rw [hexp, ← Nat.add_assoc] at hv
  obtain ⟨a1, e1, v1, l1, d1⟩ := hrec acc x (y.take m2) h1
    ⟨ha, hx, hy.take _, h2, Nat.lt_of_le_of_lt (Nat.le_add_right _ _) hv⟩
  obtain ⟨a2, e2, v2, l2, d2⟩ := suffix_mac hrec m2 a1 x (y.drop m2) d1 hx (hy.drop _)
    (Nat.le_refl _) (Nat.le_refl _) h3 (by rw [l1]; exact h4) (by rw [l1, v1]; exact hv)
  refine ⟨a2, ?_, by rw [v2, v1, hexp, Nat.add_assoc], by rw [l2, l1], d2⟩
  simp only [e1, e2]

/-- lengths of the four parts when both operands are split at `b ≤ x.len() / 2`: the low parts
    have length `b` and are not longer than the high parts -/
theorem karaSplit_lengths {x y : List Nat} {b : Nat} (hb : 2 * b ≤ x.length) (hxy : x.length ≤ y.length) :
    b ≤ x.length ∧ b ≤ y.length ∧ (x.take b).length = b ∧ (y.take b).length = b ∧
    (x.drop b).length + b = x.length ∧ (y.drop b).length + b = y.length ∧
    (x.take b).length ≤ (x.drop b).length ∧ (y.take b).length ≤ (y.drop b).length := by
  have hbx : b ≤ x.length := by omega
  have hby : b ≤ y.length := by omega
  rw [List.length_take_of_le hbx, List.length_take_of_le hby, List.length_drop, List.length_drop]
  omega

/-- the value of the accumulator after the four additions (`p2` at `b` and `2b`, `p0` at `0` and
    `b`) stays below three times the bound on the exact result -/
theorem kara_bound {A X0 X1 Y0 Y1 Pb Q : Nat} (hT : A + (X0 + Pb * X1) * (Y0 + Pb * Y1) < Q)
    (hX0 : X0 < Pb) (hY0 : Y0 < Pb) (hQ : Pb * (Pb * Pb) ≤ Q) :
    A + (Pb * (X1 * Y1) + (Pb * Pb * (X1 * Y1) + (X0 * Y0 + Pb * (X0 * Y0)))) < 3 * Q := by
  have hexp : (X0 + Pb * X1) * (Y0 + Pb * Y1)
      = X0 * Y0 + Pb * (X0 * Y1 + X1 * Y0) + Pb * Pb * (X1 * Y1) := by ring
  rw [hexp] at hT
  have hw : Pb * (X0 * Y0) < Pb * (Pb * Pb) :=
    Nat.mul_lt_mul_of_pos_left (Nat.mul_lt_mul'' hX0 hY0) (by omega)
  have hu : Pb * (X1 * Y1) ≤ Pb * Pb * (X1 * Y1) :=
    Nat.mul_le_mul_right _ (Nat.le_mul_of_pos_left _ (by omega))
  omega

/-- value of the accumulator after the four additions, in terms of the exact result `T` -/
theorem kara_sum {A X0 X1 Y0 Y1 Pb : Nat} :
    A + (Pb * (X1 * Y1) + (Pb * Pb * (X1 * Y1) + (X0 * Y0 + Pb * (X0 * Y0))))
        + Pb * (X0 * Y1 + X1 * Y0)
      = A + (X0 + Pb * X1) * (Y0 + Pb * Y1) + Pb * (X1 * Y1 + X0 * Y0) := by ring

/-- the four additions of the Karatsuba branch; each step peels one term off the bounded total -/
theorem karaAdds_spec (P : Params) (b : Nat) (acc p2 p0 : List Nat) (ha : DigitsOk acc)
    (h2 : DigitsOk p2) (h0 : DigitsOk p0) {k : Nat} (hl2 : p2.length ≤ k) (hl0 : p0.length ≤ k)
    (hl : b * 2 + k ≤ acc.length)
    (hv : val acc + (B ^ b * val p2 + (B ^ (b * 2) * val p2 + (val p0 + B ^ b * val p0)))
      < B ^ acc.length) :
    ∃ a1 a2 a3 a4, onSuffix b acc (fun t => add2g P t p2) = .ok a1 ∧
      onSuffix (b * 2) a1 (fun t => add2g P t p2) = .ok a2 ∧ add2g P a2 p0 = .ok a3 ∧
      onSuffix b a3 (fun t => add2g P t p0) = .ok a4 ∧
      val a4 = val acc + (B ^ b * val p2 + (B ^ (b * 2) * val p2 + (val p0 + B ^ b * val p0))) ∧
      a4.length = acc.length ∧ DigitsOk a4 := by
  have hk2 : b * 2 + p2.length ≤ acc.length := Nat.le_trans (Nat.add_le_add_left hl2 _) hl
  have hk0 : b * 2 + p0.length ≤ acc.length := Nat.le_trans (Nat.add_le_add_left hl0 _) hl
  obtain ⟨a1, e1, v1, l1, d1⟩ := addAt_spec P b acc p2 ha h2 (by omega) (lt_of_add_rest hv)
  rw [← Nat.add_assoc (val acc), ← v1, ← l1] at hv
  rw [← l1] at hk2 hk0
  obtain ⟨a2, e2, v2, l2, d2⟩ := addAt_spec P (b * 2) a1 p2 d1 h2 hk2 (lt_of_add_rest hv)
  rw [← Nat.add_assoc (val a1), ← v2, ← l2] at hv
  rw [← l2] at hk0
  obtain ⟨a3, e3, v3, l3, d3⟩ := add2g_spec P a2 p0 d2 h0 (by omega) (lt_of_add_rest hv)
  rw [← Nat.add_assoc (val a2), ← v3, ← l3] at hv
  rw [← l3] at hk0
  obtain ⟨a4, e4, v4, l4, d4⟩ := addAt_spec P b a3 p0 d3 h0 (by omega) hv
  refine ⟨a1, a2, a3, a4, e1, e2, e3, e4, ?_, by rw [l4, l3, l2, l1], d4⟩
  rw [v4, v3, v2, v1]
  simp only [Nat.add_assoc]

/-- the `match j0_sign * j1_sign` step, given the accumulator `acc4` after the four additions:
    `T` is the exact final value, `D = p2 + p0`, `M = x0*y1 + x1*y0`, and `acc4` holds `T + B^b * (D - M)`;
    the step removes `B^b * (D - M) = B^b * (±j0*j1)`. -/
theorem karaMiddle_spec (P : Params) {rec : MacFn} {N : Nat} (hrec : MacSpec rec N)
    (b len : Nat) (acc4 j0 j1 : List Nat) (s : Sign) (T D M : Nat)
    (ha : DigitsOk acc4) (hj0 : DigitsOk j0) (hj1 : DigitsOk j1) {n m : Nat} (hn : j0.length ≤ n)
    (hm : j1.length ≤ m) (hN : n + m < N) (hlen : n + m + 1 ≤ len) (hl : b + n + m + 1 ≤ acc4.length)
    (hS : val acc4 + B ^ b * M = T + B ^ b * D) (hT : T < B ^ (acc4.length - 1))
    (hs : SignedDiff s (val j0 * val j1) D M) :
    ∃ r, karaMiddle P rec b len acc4 s j0 j1 = .ok r ∧ val r = T ∧ r.length = acc4.length ∧
      DigitsOk r := by
  unfold karaMiddle
  cases s with
  | minus =>
    -- `mac3(&mut acc[b..], j0, j1)`: the middle term is added
    have hs : val j0 * val j1 + D = M := hs
    subst hs
    rw [Nat.mul_add, ← Nat.add_assoc] at hS
    have h := Nat.add_right_cancel hS
    obtain ⟨r, e2, v2, l2, d2⟩ := suffix_mac hrec b acc4 j0 j1 ha hj0 hj1 hn hm hN hl
      (by rw [h]; exact hT)
    exact ⟨r, e2, v2.trans h, l2, d2⟩
  | nosign =>
    have hs : D = M := hs
    subst hs
    exact ⟨acc4, rfl, Nat.add_right_cancel hS, rfl, ha⟩
  | plus =>
    -- `sub2(&mut acc[b..], p1)` with `p1 = j0 * j1` from a fresh temporary
    have hs : val j0 * val j1 + M = D := hs
    subst hs
    rw [Nat.mul_add, ← Nat.add_assoc] at hS
    have h := Nat.add_right_cancel hS
    obtain ⟨p, e1, c1, v1, _⟩ := fresh_mac hrec len j0 j1 hj0 hj1 hn hm hN hlen
    obtain ⟨r, e2, v2, l2, d2⟩ := subAt_spec P b acc4 (normalize p) ha c1.1 (by omega)
      (by rw [v1, h]; exact Nat.le_add_left _ _)
    rw [v1, h] at v2
    refine ⟨r, ?_, Nat.add_right_cancel v2, l2, d2⟩
    simp only [e1, e2]

theorem karatsuba_spec (P : Params) (hP : P.ValidMul) {rec : MacFn} {N : Nat} (hrec : MacSpec rec N)
    (acc x y : List Nat) (hpre : MacPre acc x y) (hN : x.length + y.length ≤ N)
    (hxy : x.length ≤ y.length) (hxs : P.tSchool < x.length) :
    MacOk (karatsuba P rec) acc x y := by
  have hks := hP.karaSlack_pos
  have hb1 : 1 ≤ x.length / P.karaDen :=
    Nat.div_pos (Nat.le_trans hP.karaDen_le hxs) (Nat.lt_of_lt_of_le Nat.zero_lt_two hP.two_le_karaDen)
  have hb2 : 2 * (x.length / P.karaDen) ≤ x.length :=
    Nat.le_trans (Nat.mul_le_mul_right _ hP.two_le_karaDen) (Nat.mul_div_le _ _)
  clear hxs hP
  unfold MacOk karatsuba
  dsimp only
  generalize x.length / P.karaDen = b at hb1 hb2 ⊢
  -- lengths: the high parts are the longer ones, and bound every operand of a recursive call
  have hl : x.length + y.length + 1 ≤ acc.length := hpre.2.2.2.1
  obtain ⟨hbx, hby, hx0l, hy0l, hx1l, hy1l, hx01, hy01⟩ := karaSplit_lengths hb2 hxy
  generalize hlen : (x.drop b).length + (y.drop b).length + P.karaSlack = len
  have hN1 : (x.drop b).length + (y.drop b).length < N := by omega
  have hlen1 : (x.drop b).length + (y.drop b).length + 1 ≤ len := by omega
  have hla : b * 2 + ((x.drop b).length + (y.drop b).length) ≤ acc.length := by omega
  have hla' : b + (x.drop b).length + (y.drop b).length + 1 ≤ acc.length := by omega
  have hQ : B ^ b * (B ^ b * B ^ b) ≤ B ^ (acc.length - 1) := by
    rw [← pow_add, ← pow_add]; exact B_pow_le_pow (by omega)
  have hpow : B ^ (b * 2) = B ^ b * B ^ b := by rw [Nat.mul_comm, two_mul, pow_add]
  have hn : 3 * B ^ (acc.length - 1) ≤ B ^ acc.length := by
    rw [B_pow_split (Nat.le_trans (Nat.le_add_left 1 _) hl), pow_one]
    exact Nat.mul_le_mul_right _ (show 3 ≤ B by decide)
  clear hl hN hxy hks hlen hx1l hy1l hb1 hb2
  obtain ⟨ha, hx, hy, -, hv⟩ := hpre
  obtain ⟨p2, e1, c2, v2, l2⟩ := fresh_mac hrec len (x.drop b) (y.drop b) (hx.drop b) (hy.drop b)
    (Nat.le_refl _) (Nat.le_refl _) hN1 hlen1
  obtain ⟨p0, e2, c0, v0, l0⟩ := fresh_mac hrec len (x.take b) (y.take b) (hx.take b) (hy.take b)
    hx01 hy01 hN1 hlen1
  obtain ⟨s0, j0, e3, c3, h3⟩ := subSign_spec P (x.drop b) (x.take b) (hx.drop b) (hx.take b)
  obtain ⟨s1, j1, e4, c4, h4⟩ := subSign_spec P (y.drop b) (y.take b) (hy.drop b) (hy.take b)
  have hj0l := subSign_length_le c3 h3 (hx.drop b) (hx.take b) hx01
  have hj1l := subSign_length_le c4 h4 (hy.drop b) (hy.take b) hy01
  -- the four additions overshoot the exact result by less than a factor 3 (`kara_bound`), which the
  -- spare top digit of `acc` absorbs
  have hX0 : val (x.take b) < B ^ b := by have := val_lt (hx.take b); rwa [hx0l] at this
  have hY0 : val (y.take b) < B ^ b := by have := val_lt (hy.take b); rwa [hy0l] at this
  rw [val_split_at x b, val_split_at y b] at hv ⊢
  obtain ⟨a1, a2, a3, a4, f1, f2, f3, f4, v4, l4, d4⟩ := karaAdds_spec P b acc (normalize p2)
    (normalize p0) ha c2.1 c0.1 l2 (Nat.le_trans l0 (Nat.add_le_add hx01 hy01)) hla
    (by rw [v2, v0, hpow]; exact Nat.lt_of_lt_of_le (kara_bound hv hX0 hY0 hQ) hn)
  rw [v2, v0, hpow] at v4
  obtain ⟨r, e5, v5, l5, d5⟩ := karaMiddle_spec P hrec b len a4 j0 j1 (s0.mul s1) _ _ _
    d4 c3.1.1 c4.1.1 hj0l hj1l hN1 hlen1 (by rw [l4]; exact hla') (by rw [v4]; exact kara_sum)
    (by rw [l4]; exact hv) (h3.mul h4)
  refine ⟨r, ?_, v5, by rw [l5, l4], d5⟩
  simp only [e1, f1, f2, e2, f3, f4, e3, e4, mx_ok_bind, e5]

end NB.Mul
