/- helper lemmas for the C07 shift routines -/
import NB.Lemmas.Bits
import NB.Model.Shift
namespace NB.C07

theorem B_split {s : Nat} (hs : s ≤ BITS) : B = 2 ^ (BITS - s) * 2 ^ s := NB.B_split hs

/-- the two halves of a digit around a cut `B = 2^q * 2^s`: `<< s` keeps the low `q` bits, `>> q`
    the high `s` bits.  Both loops use it, `shl` with `q = 64 - s` and `shr` with the roles swapped. -/
theorem digit_split {q s e : Nat} (hB : B = 2 ^ q * 2 ^ s) (he : e < B) :
    (e <<< s) % B = 2 ^ s * (e % 2 ^ q) ∧ e >>> q = e / 2 ^ q ∧ e / 2 ^ q < 2 ^ s := by
  refine ⟨?_, Nat.shiftRight_eq_div_pow e q, ?_⟩
  · rw [Nat.shiftLeft_eq, hB, Nat.mul_mod_mul_right, Nat.mul_comm]
  · rw [Nat.div_lt_iff_lt_mul (Nat.pow_pos Nat.two_pos), Nat.mul_comm, ← hB]; exact he

/-- one step of the `biguint_shl2` loop -/
theorem shl_digit {s e carry : Nat} (hs : s < BITS) (he : e < B) (hc : carry < 2 ^ s) :
    (((e <<< s) % B) ||| carry) + B * (e >>> (BITS - s)) = e * 2 ^ s + carry ∧
    (((e <<< s) % B) ||| carry) < B ∧ e >>> (BITS - s) < 2 ^ s := by
  have hB := B_split (Nat.le_of_lt hs)
  obtain ⟨e1, e2, e3⟩ := digit_split hB he
  rw [e1, e2, Nat.lor_comm, or_eq_add_of_lt _ hc, Nat.add_comm carry]
  refine ⟨?_, ?_, e3⟩
  · rw [Nat.add_right_comm, hB, Nat.mul_comm (2 ^ (BITS - s)), Nat.mul_assoc, ← Nat.mul_add,
      Nat.mod_add_div, Nat.mul_comm]
  · rw [hB]
    exact Nat.mul_add_lt_mul_of_lt_of_lt (Nat.mod_lt e (Nat.pow_pos Nat.two_pos)) hc

theorem shl_step {b P S e e' c nc v r rc : Nat} (h1 : e' + b * nc = e * S + c)
    (i1 : r + P * rc = v * S + nc) : e' + b * r + P * b * rc = (e + b * v) * S + c := by
  -- e' + b * (r + P * rc) = e' + b * (v * S + nc) = (e' + b * nc) + b * v * S
  rw [Nat.mul_comm P b, Nat.mul_assoc, Nat.add_assoc, ← Nat.mul_add, i1, Nat.mul_add,
    Nat.add_left_comm, h1, ← Nat.add_assoc, Nat.add_comm (b * _), Nat.add_mul, Nat.mul_assoc]

theorem shlLoop_spec {s : Nat} (hs : s < BITS) :
    ∀ (ds : List Nat) (carry : Nat), DigitsOk ds → carry < 2 ^ s →
    val (shlLoop s carry ds).1 + B ^ ds.length * (shlLoop s carry ds).2 = val ds * 2 ^ s + carry ∧
    (shlLoop s carry ds).1.length = ds.length ∧ DigitsOk (shlLoop s carry ds).1 ∧
    (shlLoop s carry ds).2 < 2 ^ s := by
  intro ds
  induction ds with
  | nil =>
    intro carry _ hc
    simp only [shlLoop, val_nil, List.length_nil, Nat.pow_zero, Nat.one_mul, Nat.zero_mul, hc,
      DigitsOk.nil, and_self]
  | cons e es ih =>
    intro carry hd hc
    obtain ⟨h1, h2, h3⟩ := shl_digit hs hd.head hc
    obtain ⟨i1, i2, i3, i4⟩ := ih (e >>> (BITS - s)) hd.tail h3
    simp only [shlLoop, val_cons, List.length_cons, Nat.pow_succ]
    exact ⟨shl_step h1 i1, by rw [i2], DigitsOk.cons h2 i3, i4⟩

theorem shr_step {S Q b e t v : Nat} (hB : b = S * Q) :
    S * ((e / S + Q * t) + b * v) + e % S = e + b * (S * v + t) := by
  rw [Nat.mul_add, Nat.mul_add, ← Nat.mul_assoc S Q, ← hB, Nat.mul_left_comm S b, Nat.mul_add b,
    Nat.add_right_comm _ _ (e % S), Nat.add_right_comm _ _ (e % S), Nat.div_add_mod, Nat.add_assoc,
    Nat.add_comm (b * t)]

/-- the `shr2` loop computes the floor quotient; the borrow it hands down holds the remainder `t` -/
theorem shrLoop_spec {s : Nat} (hs : s < BITS) :
    ∀ (ds : List Nat), DigitsOk ds →
    (shrLoop s ds).1.length = ds.length ∧ DigitsOk (shrLoop s ds).1 ∧
    ∃ t, t < 2 ^ s ∧ (shrLoop s ds).2 = 2 ^ (BITS - s) * t ∧ 2 ^ s * val (shrLoop s ds).1 + t = val ds := by
  intro ds
  induction ds with
  | nil => exact fun _ => ⟨rfl, DigitsOk.nil, 0, Nat.pow_pos Nat.two_pos, rfl, rfl⟩
  | cons e es ih =>
    intro hd
    obtain ⟨i0, i1, t, ht, i2, i3⟩ := ih hd.tail
    have hB : B = 2 ^ s * 2 ^ (BITS - s) := by rw [B_split (Nat.le_of_lt hs), Nat.mul_comm]
    obtain ⟨e1, e2, e3⟩ := digit_split hB hd.head
    simp only [shrLoop, val_cons]
    rw [i2, e2, or_eq_add_of_lt t e3]
    refine ⟨by rw [List.length_cons, List.length_cons, i0], DigitsOk.cons ?_ i1, e % 2 ^ s,
      Nat.mod_lt _ (Nat.pow_pos Nat.two_pos), e1, ?_⟩
    · rw [Nat.add_comm, hB]
      exact Nat.mul_add_lt_mul_of_lt_of_lt ht e3
    · rw [← i3]; exact shr_step hB

theorem shrLoop_val {s : Nat} (hs : s < BITS) (ds : List Nat) (hd : DigitsOk ds) :
    val (shrLoop s ds).1 = val ds / 2 ^ s := by
  obtain ⟨_, _, t, ht, _, h3⟩ := shrLoop_spec hs ds hd
  rw [← h3, Nat.add_comm, Nat.add_mul_div_left _ _ (Nat.pow_pos Nat.two_pos), Nat.div_eq_of_lt ht,
    Nat.zero_add]

theorem val_push_carry (d : List Nat) (c : Nat) :
    val (if c ≠ 0 then d ++ [c] else d) = val d + B ^ d.length * c := by
  by_cases hc : c = 0
  · rw [if_neg (not_not.2 hc), hc, Nat.mul_zero, Nat.add_zero]
  · rw [if_pos hc, val_append, val_cons, val_nil, Nat.mul_zero, Nat.add_zero]

theorem digitsOk_push_carry {d : List Nat} {c : Nat} (hd : DigitsOk d) (hc : c < B) :
    DigitsOk (if c ≠ 0 then d ++ [c] else d) := by
  split
  · exact hd.append (DigitsOk.cons hc DigitsOk.nil)
  · exact hd

theorem shl2_spec (n : List Nat) (digits s : Nat) (hn : DigitsOk n) (hs : s < BITS) :
    val (biguintShl2 n digits s) = val n * 2 ^ (BITS * digits + s) ∧ Canon (biguintShl2 n digits s) := by
  have hdata : (if digits = 0 then n else List.replicate digits 0 ++ n) = List.replicate digits 0 ++ n := by
    split
    · rw [‹digits = 0›]; rfl
    · rfl
  have hz : DigitsOk (List.replicate digits 0) := digitsOk_replicate_zero _
  have hlen : (List.replicate digits 0).length = digits := List.length_replicate
  rw [Nat.pow_add, ← B_pow, Nat.mul_left_comm, biguintShl2, normalize_val]
  simp only [hdata]
  by_cases h0 : s > 0
  · obtain ⟨l1, l2, l3, l4⟩ := shlLoop_spec hs n 0 hn (Nat.pow_pos Nat.two_pos)
    have hcB : (shlLoop s 0 n).2 < B :=
      Nat.lt_trans l4 (B_eq_bits ▸ Nat.pow_lt_pow_right Nat.one_lt_two hs)
    simp only [if_pos h0, List.drop_left' hlen, List.take_left' hlen]
    refine ⟨?_, normalize_canon (digitsOk_push_carry (hz.append l3) hcB)⟩
    rw [val_push_carry, val_append, val_replicate_zero, Nat.zero_add, List.length_append, hlen, l2,
      Nat.pow_add, Nat.mul_assoc, ← Nat.mul_add, l1, Nat.add_zero]
  · rw [Nat.eq_zero_of_not_pos h0] at *
    simp only [Nat.lt_irrefl, if_false]
    refine ⟨?_, normalize_canon (hz.append hn)⟩
    rw [val_append, val_replicate_zero, hlen, Nat.zero_add, Nat.pow_zero, Nat.mul_one]

theorem shr2_spec (n : List Nat) (digits s : Nat) (hn : DigitsOk n) (hs : s < BITS) :
    val (biguintShr2 n digits s) = val n / 2 ^ (BITS * digits + s) ∧ Canon (biguintShr2 n digits s) := by
  rw [biguintShr2]
  by_cases hge : digits ≥ n.length
  · rw [if_pos hge]
    refine ⟨(Nat.div_eq_of_lt ?_).symm, canon_nil⟩
    calc val n < B ^ n.length := val_lt hn
      _ ≤ B ^ digits := Nat.pow_le_pow_right B_pos hge
      _ = 2 ^ (BITS * digits) := B_pow _
      _ ≤ 2 ^ (BITS * digits + s) := Nat.pow_le_pow_right Nat.two_pos (Nat.le_add_right _ _)
  · have hle := Nat.le_of_not_le hge
    have hlo := val_lt (hn.take digits)
    rw [List.length_take, Nat.min_eq_left hle] at hlo
    have hdiv : val n / 2 ^ (BITS * digits + s) = val (n.drop digits) / 2 ^ s := by
      rw [Nat.pow_add, ← Nat.div_div_eq_div_mul, ← B_pow, val_split_at n digits,
        Nat.add_mul_div_left _ _ (Nat.pow_pos B_pos), Nat.div_eq_of_lt hlo, Nat.zero_add]
    simp only [if_neg hge]
    rw [hdiv, normalize_val]
    by_cases h0 : s > 0
    · rw [if_pos h0, shrLoop_val hs _ (hn.drop _)]
      exact ⟨rfl, normalize_canon (shrLoop_spec hs _ (hn.drop _)).2.1⟩
    · rw [if_neg h0, Nat.eq_zero_of_not_pos h0, Nat.pow_zero, Nat.div_one]
      exact ⟨rfl, normalize_canon (hn.drop _)⟩

end NB.C07
