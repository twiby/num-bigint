/- helper lemmas for C11: bit length, Newton step facts, bisection, the two-phase fixpoint loop -/
import NB.Model.Roots
import Mathlib.Analysis.SpecialFunctions.Pow.NthRootLemmas
import Mathlib.Tactic.Ring
namespace NB.Roots

/-- `xn.bits() > max_bits` is the test `xn ≥ 2^max_bits` -/
theorem bits_gt_iff (y k : Nat) : bits y > k ↔ 2 ^ k ≤ y := by
  unfold bits
  by_cases hy : y = 0
  · rw [if_pos hy, hy]
    exact ⟨fun h => absurd h (Nat.not_lt_zero k), fun h => absurd (Nat.two_pow_pos k) (Nat.not_lt.mpr h)⟩
  · rw [if_neg hy, ← Nat.le_log2 hy]; exact Nat.lt_succ_iff

theorem lt_two_pow_bits (x : Nat) : x < 2 ^ bits x :=
  Nat.not_le.mp fun h => Nat.lt_irrefl _ ((bits_gt_iff x _).mpr h)

theorem bits_pos {x : Nat} (hx : x ≠ 0) : 0 < bits x :=
  (bits_gt_iff x 0).mpr (Nat.pos_of_ne_zero hx)

/-- `max_bits = bits/n + 1` bounds the root: `x < 2^bits ≤ (2^(bits/n + 1))^n` -/
theorem root_lt_maxBits (x : Nat) {n : Nat} (hn : 0 < n) : Nat.nthRoot n x < 2 ^ (bits x / n + 1) := by
  rw [Nat.nthRoot_lt_iff (Nat.ne_of_gt hn), ← pow_mul, Nat.mul_comm]
  exact Nat.lt_of_lt_of_le (lt_two_pow_bits x)
    (Nat.pow_le_pow_right (by decide) (Nat.le_of_lt (Nat.lt_mul_div_succ _ hn)))

theorem root_pos {x n : Nat} (hn : 0 < n) (hx : 1 ≤ x) : 1 ≤ Nat.nthRoot n x := by
  rw [Nat.le_nthRoot_iff (Nat.ne_of_gt hn), Nat.one_pow]; exact hx

theorem root_of_le_one {x n : Nat} (hn : n ≠ 0) (h : x = 0 ∨ x = 1) : Nat.nthRoot n x = x := by
  rcases h with rfl | rfl <;> simp [hn]

/-- the value computed by the closure handed to `fixpoint` -/
def F (x n s : Nat) : Nat := ((n - 1) * s + x / s ^ (n - 1)) / n

/-- Newton step never undershoots the floor root (AM–GM; Mathlib's `lt_pow_go_succ_aux`) -/
theorem F_ge {x n s : Nat} (hn : 1 ≤ n) (hs : 1 ≤ s) : Nat.nthRoot n x ≤ F x n s := by
  obtain ⟨m, rfl⟩ := Nat.exists_eq_add_of_le' hn
  have h := Nat.nthRoot.lt_pow_go_succ_aux (a := x) (b := s) (n := m) (Nat.ne_of_gt hs)
  have h3 := lt_of_pow_lt_pow_left₀ (m + 1) (Nat.zero_le _)
    (lt_of_le_of_lt (Nat.pow_nthRoot_le (.inl (Nat.succ_ne_zero m))) h)
  unfold F
  rw [Nat.add_sub_cancel, Nat.add_comm (m * s)]
  exact Nat.le_of_lt_succ h3

theorem F_lt {x n s : Nat} (hn : 1 ≤ n) (hs : Nat.nthRoot n x < s) : F x n s < s := by
  obtain ⟨m, rfl⟩ := Nat.exists_eq_add_of_le' hn
  have hx : x < s ^ m * s := (Nat.nthRoot_lt_iff (Nat.succ_ne_zero m)).mp hs
  have hq : x / s ^ m < s := Nat.div_lt_of_lt_mul hx
  unfold F
  rw [Nat.add_sub_cancel]
  exact Nat.div_lt_of_lt_mul (by rw [Nat.succ_mul]; exact Nat.add_lt_add_left hq _)

/-- Bernoulli, in the form the step needs: `(s + (m+1)) s^m ≤ (s+1)^(m+1)` -/
theorem bernoulli (s m : Nat) : (s + (m + 1)) * s ^ m ≤ (s + 1) ^ (m + 1) := by
  induction m with
  | zero => simp
  | succ k ih =>
    calc (s + (k + 1 + 1)) * s ^ (k + 1) = (s + (k + 1)) * s ^ k * s + s ^ (k + 1) := by ring
      _ ≤ (s + 1) ^ (k + 1) * s + (s + 1) ^ (k + 1) :=
        Nat.add_le_add (Nat.mul_le_mul_right _ ih) (Nat.pow_le_pow_left (Nat.le_succ s) _)

theorem F_gt {x n s : Nat} (hn : 1 ≤ n) (hs : 1 ≤ s) (hlt : s < Nat.nthRoot n x) : s < F x n s := by
  obtain ⟨m, rfl⟩ := Nat.exists_eq_add_of_le' hn
  have hx : (s + 1) ^ (m + 1) ≤ x := (Nat.le_nthRoot_iff (Nat.succ_ne_zero m)).mp hlt
  have hq : s + (m + 1) ≤ x / s ^ m :=
    (Nat.le_div_iff_mul_le (Nat.pow_pos hs)).mpr (le_trans (bernoulli s m) hx)
  unfold F
  rw [Nat.add_sub_cancel]
  have h : (s + 1) * (m + 1) ≤ m * s + x / s ^ m :=
    le_trans (Nat.le_of_eq (by ring)) (Nat.add_le_add_left hq (m * s))
  exact (Nat.le_div_iff_mul_le (Nat.succ_pos m)).mpr h

theorem mid_bounds {lo hi p : Nat} (h : hi ≤ lo + 2 * p) : hi ≤ (lo + hi) / 2 + p ∧ (lo + hi) / 2 ≤ lo + p := by
  omega

theorem bisect_eq {x n : Nat} (hn : n ≠ 0) : ∀ (fuel lo hi : Nat), lo ≤ Nat.nthRoot n x → Nat.nthRoot n x < hi →
    hi ≤ lo + 2 ^ fuel → bisect x n fuel lo hi = Nat.nthRoot n x := by
  intro fuel
  induction fuel with
  | zero => intro lo hi h1 h2 hw; exact Nat.le_antisymm h1 (Nat.le_of_lt_succ (Nat.lt_of_lt_of_le h2 hw))
  | succ f ih =>
    intro lo hi h1 h2 hw
    rw [bisect]
    by_cases hc : hi ≤ lo + 1
    · rw [if_pos hc]; exact Nat.le_antisymm h1 (Nat.le_of_lt_succ (Nat.lt_of_lt_of_le h2 hc))
    · rw [pow_succ'] at hw
      obtain ⟨hm1, hm2⟩ := mid_bounds hw
      simp only [hc, if_false, ← Nat.le_nthRoot_iff hn]
      by_cases hm : (lo + hi) / 2 ≤ Nat.nthRoot n x
      · rw [if_pos hm]; exact ih _ _ hm h2 hm1
      · rw [if_neg hm]; exact ih _ _ h1 (Nat.not_le.mp hm) hm2

theorem floorRoot_eq (x : Nat) {n : Nat} (hn : 1 ≤ n) : floorRoot x n = Nat.nthRoot n x :=
  bisect_eq (Nat.ne_of_gt hn) _ 0 _ (Nat.zero_le _) (root_lt_maxBits x hn)
    (by rw [Nat.zero_add]; exact Nat.pow_le_pow_right (by decide) (Nat.le_succ _))

/-- what the loop needs from the closure: it evaluates (no panic) to `Fn s` on `s ≥ 1`, never
    undershoots `r`, strictly decreases above `r`, strictly increases below `r` -/
structure NewtonOk (f : Nat → Except Panic Nat) (Fn : Nat → Nat) (r : Nat) : Prop where
  rpos : 1 ≤ r
  eval : ∀ s, 1 ≤ s → f s = .ok (Fn s)
  ge : ∀ s, 1 ≤ s → r ≤ Fn s
  lt : ∀ s, r < s → Fn s < s
  gt : ∀ s, 1 ≤ s → s < r → s < Fn s

/-- first phase: `x < Fn x` forces `x ≤ r`, and the (saturated) next iterate is `≥ r` and larger than
    `x`, so the loop stops at some `x' ≥ r` within `r + 2 - x` passes -/
theorem climb_spec {f : Nat → Except Panic Nat} {Fn : Nat → Nat} {r mb : Nat} (hN : NewtonOk f Fn r)
    (hmb : r < 2 ^ mb) : ∀ (fuel x : Nat), 1 ≤ x → 1 ≤ fuel → r + 2 ≤ fuel + x →
    ∃ x', climb f mb fuel x (Fn x) = .ok (x', Fn x') ∧ r ≤ x' ∧ x' ≤ max x (2 ^ mb) := by
  intro fuel
  induction fuel with
  | zero => intro x _ h1 _; exact absurd h1 (Nat.not_succ_le_zero 0)
  | succ fuel ih =>
    intro x hx _ h2
    rw [climb]
    by_cases hc : x < Fn x
    · rw [if_pos hc]
      have hxr : x ≤ r := Nat.le_of_not_lt fun h => Nat.lt_asymm hc (hN.lt x h)
      obtain ⟨x', hx'def, hx'r, hx'gt, hx'le⟩ :
          ∃ x', (if bits (Fn x) > mb then 1 <<< mb else Fn x) = x' ∧ r ≤ x' ∧ x < x' ∧ x' ≤ 2 ^ mb := by
        by_cases hb : bits (Fn x) > mb
        · exact ⟨2 ^ mb, by rw [if_pos hb, Nat.one_shiftLeft], hmb.le, lt_of_le_of_lt hxr hmb, le_refl _⟩
        · exact ⟨Fn x, if_neg hb, hN.ge x hx, hc, Nat.le_of_lt (Nat.not_le.mp ((bits_gt_iff _ _).not.mp hb))⟩
      have hx' : 1 ≤ x' := le_trans hx hx'gt.le
      simp only [hx'def, hN.eval x' hx']
      have hf : 2 ≤ fuel + 1 := Nat.le_of_add_le_add_left (a := r) (by
        rw [Nat.add_comm r (fuel + 1)]; exact le_trans h2 (Nat.add_le_add_left hxr _))
      obtain ⟨x'', e, hr, hle⟩ := ih x' hx' (Nat.le_of_succ_le_succ hf)
        (le_trans (by rwa [Nat.add_assoc, Nat.add_comm 1 x] at h2) (Nat.add_le_add_left hx'gt fuel))
      rw [Nat.max_eq_right hx'le] at hle
      exact ⟨x'', e, hr, le_trans hle (Nat.le_max_right _ _)⟩
    · rw [if_neg hc]
      exact ⟨x, rfl, Nat.le_of_not_lt fun h => hc (hN.gt x hx h), Nat.le_max_left _ _⟩

/-- second phase: from `x ≥ r` the iterates decrease strictly until they reach `r` -/
theorem descend_spec {f : Nat → Except Panic Nat} {Fn : Nat → Nat} {r : Nat} (hN : NewtonOk f Fn r) :
    ∀ (fuel x : Nat), r ≤ x → x + 1 ≤ fuel + r → descend f fuel x (Fn x) = .ok r := by
  intro fuel
  induction fuel with
  | zero =>
    intro x hx h
    rw [Nat.zero_add] at h
    exact absurd (le_trans h hx) (Nat.not_succ_le_self x)
  | succ fuel ih =>
    intro x hx hf
    rw [descend]
    have hge := hN.ge x (le_trans hN.rpos hx)
    by_cases hc : x > Fn x
    · rw [if_pos hc, hN.eval (Fn x) (le_trans hN.rpos hge)]
      rw [Nat.add_right_comm] at hf
      exact ih (Fn x) hge (le_trans hc (Nat.le_of_succ_le_succ hf))
    · rw [if_neg hc, Nat.le_antisymm (Nat.le_of_not_lt fun h => hc (hN.lt x h)) hx]

theorem fixpoint_ok {f : Nat → Except Panic Nat} {Fn : Nat → Nat} {r mb g fuel : Nat} (hN : NewtonOk f Fn r)
    (hmb : r < 2 ^ mb) (hg : 1 ≤ g) (hfuel : fixFuel g mb ≤ fuel) : fixpoint fuel g mb f = .ok r := by
  unfold fixFuel at hfuel
  unfold fixpoint
  -- `r + 2 ≤ 2^mb + 2 ≤ fuel`, and the first phase ends at some `x' ≤ max g 2^mb < fuel`
  obtain ⟨x', e, hr, hle⟩ := climb_spec hN hmb fuel g hg (le_trans (Nat.le_add_left 1 _) hfuel)
    (le_trans (le_trans (Nat.add_le_add_right hmb.le 2) (Nat.add_le_add_right (Nat.le_add_left _ g) 2))
      (le_trans hfuel (Nat.le_add_right _ _)))
  have hmax : max g (2 ^ mb) ≤ g + 2 ^ mb := Nat.max_le.mpr ⟨Nat.le_add_right _ _, Nat.le_add_left _ _⟩
  simp only [hN.eval g hg, e]
  exact descend_spec hN fuel x' hr
    (le_trans (Nat.succ_le_succ (le_trans hle hmax)) (le_trans (Nat.le_succ _) (le_trans hfuel (Nat.le_add_right _ _))))

theorem stepNth_eval {x n s : Nat} (hn : 1 ≤ n) (hs : 1 ≤ s) : stepNth x n s = .ok (F x n s) := by
  unfold stepNth F
  simp only [Nat.ne_of_gt (Nat.pow_pos hs), Nat.ne_of_gt hn, if_false]

theorem stepSqrt_eq (x : Nat) : stepSqrt x = stepNth x 2 := by
  funext s
  unfold stepSqrt stepNth
  simp [Nat.shiftRight_eq_div_pow]

theorem stepCbrt_eq (x : Nat) : stepCbrt x = stepNth x 3 := by
  funext s
  unfold stepCbrt stepNth
  simp only [Nat.shiftLeft_eq, show (3 : Nat) - 1 = 2 by rfl, show (3 : Nat) ≠ 0 by decide, if_false, pow_two, pow_one]
  rw [Nat.mul_comm s 2]

theorem newtonOk_stepNth {x n : Nat} (hn : 1 ≤ n) (hx : 1 ≤ x) :
    NewtonOk (stepNth x n) (F x n) (Nat.nthRoot n x) where
  rpos := root_pos hn hx
  eval := fun _ hs => stepNth_eval hn hs
  ge := fun _ hs => F_ge hn hs
  lt := fun _ hs => F_lt hn hs
  gt := fun _ hs hlt => F_gt hn hs hlt

theorem fixpoint_root {x n g fuel : Nat} (hn : 1 ≤ n) (hx : 1 ≤ x) (hg : 1 ≤ g)
    (hfuel : fixFuel g (bits x / n + 1) ≤ fuel) :
    fixpoint fuel g (bits x / n + 1) (stepNth x n) = .ok (Nat.nthRoot n x) :=
  fixpoint_ok (newtonOk_stepNth hn hx) (root_lt_maxBits x hn) hg hfuel

/-- the source yields some guess `≥ 1` where `nth_root` evaluates `let guess = …` -/
def NthOk (S : GuessSrc) (x n : Nat) : Prop := ∃ g, 1 ≤ g ∧ S.nth x n (bits x) (bits x / n + 1) = .ok g
def SqrtOk (S : GuessSrc) (x : Nat) : Prop := ∃ g, 1 ≤ g ∧ S.sqrt x (bits x) (bits x / 2 + 1) = .ok g
def CbrtOk (S : GuessSrc) (x : Nat) : Prop := ∃ g, 1 ≤ g ∧ S.cbrt x (bits x) (bits x / 3 + 1) = .ok g

/-- what the three root functions do after their shortcuts: the `to_u64` fast path, else Newton from the
    source's guess `src` -/
theorem newton_ok {x n : Nat} (hn : 1 ≤ n) (h01 : ¬ (x = 0 ∨ x = 1)) {src : Except Panic Nat} :
    (∃ g, 1 ≤ g ∧ src = .ok g) →
    (if x < B then .ok (floorRoot x n) else
      match src with
      | .error e => .error e
      | .ok guess => fixpoint (fixFuel guess (bits x / n + 1)) guess (bits x / n + 1) (stepNth x n) :
      Except Panic Nat) = .ok (Nat.nthRoot n x) := by
  rintro ⟨g, hg, rfl⟩
  by_cases hB : x < B
  · rw [if_pos hB, floorRoot_eq x hn]
  · rw [if_neg hB]
    exact fixpoint_root hn (Nat.pos_of_ne_zero fun h => h01 (.inl h)) hg (le_refl _)

theorem sqrtG_ok {S : GuessSrc} {x : Nat} (hS : SqrtOk S x) : sqrtG S x = .ok (Nat.nthRoot 2 x) := by
  unfold sqrtG
  by_cases h01 : x = 0 ∨ x = 1
  · rw [if_pos h01, root_of_le_one (by decide) h01]
  · rw [if_neg h01, stepSqrt_eq]
    exact newton_ok (n := 2) (by decide) h01 hS

theorem cbrtG_ok {S : GuessSrc} {x : Nat} (hS : CbrtOk S x) : cbrtG S x = .ok (Nat.nthRoot 3 x) := by
  unfold cbrtG
  by_cases h01 : x = 0 ∨ x = 1
  · rw [if_pos h01, root_of_le_one (by decide) h01]
  · rw [if_neg h01, stepCbrt_eq]
    exact newton_ok (n := 3) (by decide) h01 hS

theorem nthRootG_ok {S : GuessSrc} {x n : Nat} (hn : 1 ≤ n) (h2 : SqrtOk S x) (h3 : CbrtOk S x) (h4 : NthOk S x n) :
    nthRootG S x n = .ok (Nat.nthRoot n x) := by
  unfold nthRootG
  rw [if_neg (Nat.ne_of_gt hn)]
  by_cases h01 : x = 0 ∨ x = 1
  · rw [if_pos h01, root_of_le_one (Nat.ne_of_gt hn) h01]
  rw [if_neg h01]
  by_cases hn1 : n = 1
  · rw [if_pos hn1, hn1, Nat.nthRoot_one_left]; rfl
  rw [if_neg hn1]
  by_cases hn2 : n = 2
  · rw [if_pos hn2, hn2]; exact sqrtG_ok h2
  rw [if_neg hn2]
  by_cases hn3 : n = 3
  · rw [if_pos hn3, hn3]; exact cbrtG_ok h3
  rw [if_neg hn3]
  by_cases hb : bits x ≤ n
  · -- `1 ≤ x < 2^bits ≤ 2^n`
    rw [if_pos hb, Nat.nthRoot_eq_of_le_of_lt (a := 1)
      (by rw [Nat.one_pow]; exact Nat.pos_of_ne_zero fun h => h01 (.inl h))
      (Nat.lt_of_lt_of_le (lt_two_pow_bits x) (Nat.pow_le_pow_right (by decide) hb))]
  · rw [if_neg hb]
    exact newton_ok hn h01 h4

theorem nostd_ok (x n : Nat) : SqrtOk nostdSrc x ∧ CbrtOk nostdSrc x ∧ NthOk nostdSrc x n := by
  refine ⟨⟨_, ?_, rfl⟩, ⟨_, ?_, rfl⟩, ⟨_, ?_, rfl⟩⟩ <;> rw [Nat.one_shiftLeft] <;> exact Nat.pow_pos (by decide)

/-- TRUSTED assumption, declared here next to the lemmas that use it.  What is assumed of the float arm (trusted: IEEE `ln/exp/sqrt/cbrt`, `to_f64`, `from_f64`):
    a finite evaluation yields a guess `≥ 1`, and `to_f64` is non-finite only from `2^1023` on. -/
structure F64.Valid (Fl : F64) : Prop where
  nth_pos : ∀ x n g, Fl.nth x n = some g → 1 ≤ g
  nth_none : ∀ x n, Fl.nth x n = none → 2 ^ (f64MaxExp - 1) ≤ x
  sqrt_pos : ∀ x g, Fl.sqrt x = some g → 1 ≤ g
  sqrt_none : ∀ x, Fl.sqrt x = none → 2 ^ (f64MaxExp - 1) ≤ x
  cbrt_pos : ∀ x g, Fl.cbrt x = some g → 1 ≤ g
  cbrt_none : ∀ x, Fl.cbrt x = none → 2 ^ (f64MaxExp - 1) ≤ x

theorem shift_bounds {x s k : Nat} (h1 : s < bits x) (h2 : bits x ≤ k + s) : 1 ≤ x >>> s ∧ x >>> s < 2 ^ k := by
  rw [Nat.shiftRight_eq_div_pow]
  refine ⟨(Nat.le_div_iff_mul_le (Nat.two_pow_pos s)).mpr ?_, (Nat.div_lt_iff_lt_mul (Nat.two_pow_pos s)).mpr ?_⟩
  · rw [Nat.one_mul]; exact (bits_gt_iff x s).mp h1
  · rw [← pow_add]; exact lt_of_lt_of_le (lt_two_pow_bits x) (Nat.pow_le_pow_right (by decide) h2)

theorem divCeil_mul_ge (e : Nat) {n : Nat} (hn : 1 ≤ n) : e ≤ divCeil e n * n := by
  unfold divCeil
  by_cases hp : e % n > 0
  · rw [if_pos hp]; exact Nat.le_of_lt ((Nat.div_lt_iff_lt_mul hn).mp (Nat.lt_succ_self _))
  · rw [if_neg hp, Nat.div_mul_cancel (Nat.dvd_of_mod_eq_zero (Nat.eq_zero_of_not_pos hp))]

/-- a value too large for `f64` has more than 1023 bits, so `bits - 1023` does not underflow -/
theorem extraBits_of_ge {x : Nat} (h : 2 ^ (f64MaxExp - 1) ≤ x) :
    ∃ e, extraBits (bits x) = .ok e ∧ e + (f64MaxExp - 1) = bits x := by
  have hb := (bits_gt_iff x _).mpr h
  unfold extraBits
  exact ⟨_, if_neg (Nat.lt_asymm hb), Nat.sub_add_cancel hb.le⟩

theorem shiftLeft_pos {r k : Nat} (h : 1 ≤ r) : 1 ≤ r <<< k := by
  rw [Nat.shiftLeft_eq]; exact Nat.mul_pos h (Nat.pow_pos (by decide))

theorem half_scale (e : Nat) : e ≤ (e + 1) / 2 * 2 ∧ (e + 1) / 2 * 2 ≤ e + 2 :=
  ⟨Nat.le_of_lt_succ (Nat.lt_of_succ_lt_succ (Nat.lt_div_mul_add (a := e + 1) Nat.two_pos)),
    le_trans (Nat.div_mul_le_self _ _) (Nat.le_succ _)⟩

theorem third_scale (e : Nat) : e ≤ (e + 2) / 3 * 3 ∧ (e + 2) / 3 * 3 ≤ e + 2 :=
  ⟨Nat.le_of_lt_succ (Nat.lt_of_succ_lt_succ (Nat.lt_of_succ_lt_succ
    (Nat.lt_div_mul_add (a := e + 2) (by decide : 0 < 3)))), Nat.div_mul_le_self _ _⟩

/-- with `bits x = e + 1023`, shifting right by a little more than `e` brings `x` into the range of f64 -/
theorem scaled_fits {x e s : Nat} (he : e + (f64MaxExp - 1) = bits x) (hs : e ≤ s ∧ s ≤ e + 2) :
    1 ≤ x >>> s ∧ x >>> s < 2 ^ (f64MaxExp - 1) := by
  rw [show f64MaxExp - 1 = 1023 from rfl] at he ⊢
  exact shift_bounds (by omega) (by omega)

/-- one level of the std source yields a guess `≥ 1`: the float arm by assumption; the scaled arm
    because the down-scaled value is `≥ 1`, fits f64, and its root (computed by the same code, one
    level down: `H`) is the floor root `≥ 1`; the fallback arm is `2^max_bits`. -/
theorem std_step {Fl : F64} (hF : Fl.Valid) (d x n : Nat) (hn : 1 ≤ n)
    (H : 2 ^ (f64MaxExp - 1) ≤ x → ∀ y, y < 2 ^ (f64MaxExp - 1) →
      SqrtOk (stdSrc Fl d) y ∧ CbrtOk (stdSrc Fl d) y ∧ NthOk (stdSrc Fl d) y n) :
    SqrtOk (stdSrc Fl (d + 1)) x ∧ CbrtOk (stdSrc Fl (d + 1)) x ∧ NthOk (stdSrc Fl (d + 1)) x n := by
  refine ⟨?_, ?_, ?_⟩
  · unfold SqrtOk
    rw [stdSrc]
    simp only
    cases h : Fl.sqrt x with
    | some g => exact ⟨g, hF.sqrt_pos x g h, rfl⟩
    | none =>
      have hx := hF.sqrt_none x h
      obtain ⟨e, he, hb⟩ := extraBits_of_ge hx
      simp only [he]
      obtain ⟨hy1, hy2⟩ := scaled_fits hb (half_scale e)
      rw [sqrtG_ok (H hx _ hy2).1]
      exact ⟨_, shiftLeft_pos (root_pos (by decide) hy1), rfl⟩
  · unfold CbrtOk
    rw [stdSrc]
    simp only
    cases h : Fl.cbrt x with
    | some g => exact ⟨g, hF.cbrt_pos x g h, rfl⟩
    | none =>
      have hx := hF.cbrt_none x h
      obtain ⟨e, he, hb⟩ := extraBits_of_ge hx
      simp only [he]
      obtain ⟨hy1, hy2⟩ := scaled_fits hb (third_scale e)
      rw [cbrtG_ok (H hx _ hy2).2.1]
      exact ⟨_, shiftLeft_pos (root_pos (by decide) hy1), rfl⟩
  · unfold NthOk
    rw [stdSrc]
    simp only
    cases h : Fl.nth x n with
    | some g => exact ⟨g, hF.nth_pos x n g h, rfl⟩
    | none =>
      have hx := hF.nth_none x n h
      obtain ⟨e, he, hb⟩ := extraBits_of_ge hx
      simp only [he]
      have hge := divCeil_mul_ge e hn
      generalize divCeil e n = rs at hge
      by_cases hc : rs * n < bits x ∧ bits x - rs * n > n
      · obtain ⟨hy1, hy2⟩ := shift_bounds (k := f64MaxExp - 1) hc.1
          (by rw [← hb, Nat.add_comm]; exact Nat.add_le_add_left hge _)
        obtain ⟨o2, o3, o4⟩ := H hx _ hy2
        rw [if_pos hc, nthRootG_ok hn o2 o3 o4]
        exact ⟨_, shiftLeft_pos (root_pos hn hy1), rfl⟩
      · rw [if_neg hc]
        exact ⟨_, shiftLeft_pos (le_refl 1), rfl⟩

/-- values that fit f64 never recurse: depth 1 is enough -/
theorem std_ok_small {Fl : F64} (hF : Fl.Valid) (d x n : Nat) (hn : 1 ≤ n) (hx : x < 2 ^ (f64MaxExp - 1)) :
    SqrtOk (stdSrc Fl (d + 1)) x ∧ CbrtOk (stdSrc Fl (d + 1)) x ∧ NthOk (stdSrc Fl (d + 1)) x n :=
  std_step hF d x n hn fun h => absurd hx (Nat.not_lt.mpr h)

theorem std_ok {Fl : F64} (hF : Fl.Valid) (d x n : Nat) (hn : 1 ≤ n) :
    SqrtOk (stdSrc Fl (d + 2)) x ∧ CbrtOk (stdSrc Fl (d + 2)) x ∧ NthOk (stdSrc Fl (d + 2)) x n :=
  std_step hF (d + 1) x n hn fun _ y hy => std_ok_small hF d y n hn hy

theorem sqrt_bounds (x : Nat) :
    Nat.nthRoot 2 x * Nat.nthRoot 2 x ≤ x ∧ x < (Nat.nthRoot 2 x + 1) * (Nat.nthRoot 2 x + 1) := by
  have h1 := Nat.pow_nthRoot_le (n := 2) (a := x) (.inl (by decide))
  have h2 := Nat.lt_pow_nthRoot_add_one (n := 2) (by decide) x
  rw [pow_two] at h1 h2
  exact ⟨h1, h2⟩

/-- a float evaluation that answers `1` under a condition: used to exhibit an `F64` satisfying `F64.Valid` -/
theorem some_one_pos {c : Prop} [Decidable c] {g : Nat} (h : (if c then some 1 else none) = some g) : 1 ≤ g := by
  split at h
  · cases h; exact Nat.le_refl 1
  · cases h

theorem some_one_none {c : Prop} [Decidable c] (h : (if c then some 1 else none : Option Nat) = none) : ¬ c := by
  split at h
  · cases h
  · assumption

end NB.Roots
