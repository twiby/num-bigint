/- BigInt::set_bit / set_negative_bit -/
import NB.Lemmas.SignedOps
namespace NB.C07

/-- Magnitude of the negative number `-A` after `set_bit(k, v)`.  Bit `k` of the two's complement of `-A` is the
    complement of bit `k` of `A - 1`; setting a bit that is clear there takes `2^k` off the magnitude (in the source:
    `bit > trailing_zeros` → `set_bit(!value)` on the magnitude, or the xor-mask branch below `trailing_zeros`),
    clearing a bit that is set adds `2^k` (`set_bit(true)` on the magnitude, or the negate/clear/negate loop at
    `trailing_zeros`); otherwise nothing changes. -/
def negSetTarget (A k : Nat) (v : Bool) : Nat :=
  if v then (if (A - 1).testBit k then A - 2 ^ k else A)
  else (if (A - 1).testBit k then A else A + 2 ^ k)

theorem negSetTarget_int (A k : Nat) (v : Bool) (hA : 0 < A) :
    -(negSetTarget A k v : Int) =
      if v then Int.lor (-(A : Int)) ((2 ^ k : Nat) : Int) else Int.ldiff (-(A : Int)) ((2 ^ k : Nat) : Int) := by
  obtain ⟨n, rfl⟩ := Nat.exists_eq_succ_of_ne_zero (Nat.pos_iff_ne_zero.1 hA)
  have e : negSetTarget (n + 1) k v = (if v then Nat.ldiff n (2 ^ k) else n ||| 2 ^ k) + 1 := by
    unfold negSetTarget
    rw [Nat.add_sub_cancel, ldiff_two_pow_eq, or_two_pow_eq]
    cases v
    · by_cases hb : n.testBit k = true
      · simp only [Bool.false_eq_true, if_false, hb, if_true]
      · simp only [Bool.false_eq_true, if_false, hb, Nat.add_right_comm]
    · by_cases hb : n.testBit k = true
      · simp only [if_true, hb, Nat.sub_add_comm (Nat.ge_two_pow_of_testBit hb)]
      · simp only [if_true, hb, Bool.false_eq_true, if_false]
  -- `-(n + 1)` is `Int.negSucc n`, on which `lor`/`ldiff` with `2 ^ k` are `ldiff`/`|||` on `n` by definition
  rw [e, neg_succ_cast, neg_succ_cast]
  cases v <;> rfl

/-- where the lowest set bit sits in the digit list -/
theorem tz_structure (ds : List Nat) (t : Nat) (hok : DigitsOk ds) (h : trailingZerosU ds = some t) :
    ∃ digit rest q, ds = List.replicate (t / BITS) 0 ++ digit :: rest ∧ digit = 2 ^ (t % BITS) * (2 * q + 1) := by
  induction ds generalizing t with
  | nil => cases h
  | cons d ds ih =>
    rw [trailingZerosU_cons] at h
    by_cases hd : d = 0
    · rw [if_neg (not_not.2 hd)] at h
      cases h' : trailingZerosU ds with
      | none => rw [h'] at h; cases h
      | some t' =>
        rw [h'] at h
        obtain rfl : t' + BITS = t := Option.some.inj h
        obtain ⟨digit, rest, q, e1, e2⟩ := ih t' hok.tail h'
        refine ⟨digit, rest, q, ?_, ?_⟩
        · rw [Nat.add_div_right _ (by decide), List.replicate_succ, List.cons_append, ← e1, hd]
        · rw [Nat.add_mod_right]; exact e2
    · rw [if_pos hd] at h
      obtain rfl : tzDigit d = t := Option.some.inj h
      obtain ⟨hlt, q, hq⟩ := tzDigit_spec hd hok.head
      refine ⟨d, ds, q, ?_, ?_⟩
      · rw [Nat.div_eq_of_lt hlt]; rfl
      · rw [Nat.mod_eq_of_lt hlt]; exact hq

theorem negCarry_sub_one {x : Nat} (h0 : 0 < x) (hx : x ≤ B) : negCarry (B - x) 1 = (x % B, x / B) := by
  rw [negCarry, dnot, MAXD, Nat.sub_right_comm, Nat.sub_sub_self hx, Nat.add_sub_of_le h0]

/-- the digit-level core of "clear the lowest set bit of a negative number" -/
theorem clear_digit {digit j q : Nat} (hd : digit < B) (hj : j < BITS) (hq : digit = 2 ^ j * (2 * q + 1)) :
    negCarry digit 1 = (B - digit, 0) ∧
    negCarry ((B - digit) &&& dnot (1 <<< j)) 1 = ((digit + 2 ^ j) % B, (digit + 2 ^ j) / B) ∧
    (digit + 2 ^ j) / B ≤ 1 := by
  have hpos : 0 < digit := hq ▸ Nat.mul_pos (Nat.pow_pos (by decide)) (Nat.succ_pos _)
  have hB : B - digit < B := Nat.sub_lt (Nat.lt_trans hpos hd) hpos
  have h1 := negCarry_sub_one (Nat.sub_pos_of_lt hd) (Nat.sub_le B digit)
  rw [Nat.sub_sub_self (Nat.le_of_lt hd), Nat.mod_eq_of_lt hB, Nat.div_eq_of_lt hB] at h1
  -- `B - digit` is the complement of `digit - 1`, whose bit `j` is clear
  have hbit : (B - digit).testBit j = true := by
    rw [← Nat.sub_add_cancel hpos, B_eq_bits,
      Nat.testBit_two_pow_sub_succ (B_eq_bits ▸ Nat.lt_of_le_of_lt (Nat.sub_le _ _) hd), hq,
      testBit_pred_odd_mul, if_neg (Nat.lt_irrefl j), if_pos rfl, decide_eq_true hj]
    rfl
  have hle : digit + 2 ^ j ≤ B := Nat.add_le_of_le_sub' (Nat.le_of_lt hd) (Nat.ge_two_pow_of_testBit hbit)
  have h2 : negCarry ((B - digit) &&& dnot (1 <<< j)) 1 = ((digit + 2 ^ j) % B, (digit + 2 ^ j) / B) := by
    rw [and_dnot_mask hB hj, ldiff_two_pow_eq, if_pos hbit, Nat.sub_sub,
      negCarry_sub_one (Nat.add_pos_left hpos _) hle]
  exact ⟨h1, h2, Nat.div_le_of_le_mul ((Nat.mul_one B).symm ▸ hle)⟩

theorem clearLoop_zero (ds : List Nat) : clearLoop 0 0 ds = (ds, 0, 0) := by
  cases ds with
  | nil => rfl
  | cons d ds => rw [clearLoop, if_pos ⟨rfl, rfl⟩]

/-- with no carry coming in and one going out the digit passes through `negate_carry` twice:
    `!d`, then `!!d + 1` -/
theorem clearLoop_one {d : Nat} (hd : d < B) (ds : List Nat) :
    clearLoop 0 1 (d :: ds) =
      ((d + 1) % B :: (clearLoop 0 ((d + 1) / B) ds).1, (clearLoop 0 ((d + 1) / B) ds).2) := by
  have e1 : negCarry d 0 = (dnot d, 0) := by
    rw [negCarry, Nat.zero_add, Nat.mod_eq_of_lt dnot_lt, Nat.div_eq_of_lt dnot_lt]
  have e2 : negCarry (dnot d) 1 = ((d + 1) % B, (d + 1) / B) := by
    rw [dnot, MAXD, Nat.sub_sub, Nat.add_comm 1 d, negCarry_sub_one (Nat.succ_pos d) hd]
  rw [clearLoop, if_neg (fun h => Nat.one_ne_zero h.2)]
  simp only [e1, e2]

/-- a digit `x` split as `x % B + B * (x / B)` in front of a tail that absorbed the carry `x / B` -/
theorem val_carry_cons {x vo P c vr : Nat} (hv : vo + P * c = vr + x / B) :
    x % B + B * vo + B * P * c = x + B * vr := by
  rw [Nat.mul_assoc, Nat.add_assoc, ← Nat.mul_add, hv, Nat.mul_add, Nat.add_left_comm, Nat.mod_add_div,
    Nat.add_comm]

theorem clearLoop_spec (ds : List Nat) (cout : Nat) (hd : DigitsOk ds) (hc : cout ≤ 1) :
    ∃ out c, clearLoop 0 cout ds = (out, 0, c) ∧ c ≤ 1 ∧ out.length = ds.length ∧ DigitsOk out ∧
      val out + B ^ ds.length * c = val ds + cout := by
  induction ds generalizing cout with
  | nil =>
    exact ⟨[], cout, rfl, hc, rfl, DigitsOk.nil, by rw [List.length_nil, pow_zero, Nat.one_mul]⟩
  | cons d ds ih =>
    by_cases h0 : cout = 0
    · exact ⟨d :: ds, 0, by rw [h0, clearLoop_zero], Nat.zero_le 1, rfl, hd, by rw [h0, Nat.mul_zero]⟩
    · obtain rfl : cout = 1 := Nat.le_antisymm hc (Nat.pos_of_ne_zero h0)
      obtain ⟨out, c, e, hc', hlen, hok, hv⟩ := ih ((d + 1) / B) hd.tail
        (Nat.div_le_of_le_mul (by rw [Nat.mul_one]; exact hd.head))
      refine ⟨(d + 1) % B :: out, c, by rw [clearLoop_one hd.head, e], hc', congrArg (· + 1) hlen,
        DigitsOk.cons (Nat.mod_lt _ B_pos) hok, ?_⟩
      rw [val_cons, val_cons, List.length_cons, Nat.pow_succ, Nat.mul_comm _ B, val_carry_cons hv,
        Nat.add_right_comm]

/-- the clearing case at the lowest set bit `j` of `digit`: the two's complement digit `B - digit` has bit `j`
    set, clearing it and negating back adds `2 ^ j` to the magnitude, and the carry runs on through `rest` -/
theorem clear_at_tz (pre rest : List Nat) {digit j q : Nat} (hpre : DigitsOk pre) (hrest : DigitsOk rest)
    (hd : digit < B) (hj : j < BITS) (hq : digit = 2 ^ j * (2 * q + 1)) (e : Panic) :
    let tin := negCarry digit 1
    let o := negCarry (tin.1 &&& dnot (1 <<< j)) 1
    let r := clearLoop tin.2 o.2 rest
    let d := pre ++ o.1 :: r.1
    ∃ out, (if r.2.2 ≠ 0 then (if r.2.1 ≠ 0 then .error e else .ok (d ++ [1])) else .ok d :
        Except Panic (List Nat)) = .ok out ∧
      DigitsOk out ∧ val out = val (pre ++ digit :: rest) + B ^ pre.length * 2 ^ j := by
  obtain ⟨h1, h2, h3⟩ := clear_digit hd hj hq
  obtain ⟨out, c, hr, hc, hlen, hok, hv⟩ := clearLoop_spec rest _ hrest h3
  have hd' : DigitsOk (pre ++ (digit + 2 ^ j) % B :: out) := hpre.append (DigitsOk.cons (Nat.mod_lt _ B_pos) hok)
  have hval : val (pre ++ (digit + 2 ^ j) % B :: out) + B ^ (pre.length + (rest.length + 1)) * c =
      val (pre ++ digit :: rest) + B ^ pre.length * 2 ^ j := by
    -- both sides are `val pre + B ^ pre.length * _`; the brackets agree by `val_carry_cons`
    rw [val_append, val_append, val_cons, val_cons, Nat.pow_add, Nat.pow_succ, Nat.mul_comm _ B, Nat.add_assoc,
      Nat.add_assoc, Nat.mul_assoc, ← Nat.mul_add, ← Nat.mul_add, val_carry_cons hv,
      Nat.add_right_comm]
  simp only [h1, h2, hr]
  rw [← hval]
  rcases Nat.le_one_iff_eq_zero_or_eq_one.1 hc with rfl | rfl
  · rw [if_neg (fun h => h rfl), Nat.mul_zero]
    exact ⟨_, rfl, hd', rfl⟩
  · -- the carry leaves the top digit: one more digit `1`
    rw [if_pos Nat.one_ne_zero, if_neg (fun h => h rfl), Nat.mul_one]
    refine ⟨_, rfl, hd'.append (by decide), ?_⟩
    rw [val_append, List.length_append, List.length_cons, hlen, val_cons, val_nil, Nat.mul_zero, Nat.add_zero,
      Nat.mul_one]

theorem mul_sub_mod {N c p : Nat} (hc : 0 < c) (hp : 0 < p) (hpN : p ≤ N) : (N * c - p) % N = N - p := by
  obtain ⟨c', rfl⟩ := Nat.exists_eq_succ_of_ne_zero (Nat.pos_iff_ne_zero.1 hc)
  rw [Nat.mul_succ, Nat.add_sub_assoc hpN, Nat.add_comm, Nat.add_mul_mod_self_left,
    Nat.mod_eq_of_lt (Nat.sub_lt (Nat.lt_of_lt_of_le hp hpN) hp)]

theorem maskLo_eq {k' : Nat} (hk : k' < BITS) : (MAXD <<< k') % B = B - 2 ^ k' := by
  have hlt : 2 ^ k' < B := by rw [B_eq_bits]; exact Nat.pow_lt_pow_right (by decide) hk
  rw [Nat.shiftLeft_eq, MAXD, Nat.sub_one_mul]
  exact mul_sub_mod (Nat.pow_pos (by decide)) (Nat.pow_pos (by decide)) (Nat.le_of_lt hlt)

theorem maskHi_eq {j : Nat} (hj : j < BITS) : MAXD >>> (BITS - 1 - j) = 2 ^ (j + 1) - 1 := by
  apply Nat.eq_of_testBit_eq; intro i
  rw [Nat.testBit_shiftRight, MAXD, B_eq_bits, Nat.testBit_two_pow_sub_one, Nat.testBit_two_pow_sub_one]
  exact decide_eq_decide.2 (by omega)

/-- `mask_lo & mask_hi` when both indices fall in the same digit -/
theorem maskLoHi_eq {k' j : Nat} (hj : j < BITS) (hk : k' ≤ j) :
    (B - 2 ^ k') &&& (2 ^ (j + 1) - 1) = 2 ^ (j + 1) - 2 ^ k' := by
  have hB : B = 2 ^ (j + 1) * 2 ^ (BITS - 1 - j) := by
    rw [B_eq_bits, ← Nat.pow_add, Nat.sub_sub, Nat.add_comm 1 j, Nat.add_sub_cancel' hj]
  rw [Nat.and_two_pow_sub_one_eq_mod, hB]
  exact mul_sub_mod (Nat.pow_pos (by decide)) (Nat.pow_pos (by decide))
    (Nat.pow_le_pow_right (by decide) (Nat.le_succ_of_le hk))

/-- flipping bits `k'..j` of a digit whose lowest set bit is `j` subtracts `2^k'` -/
theorem flip_digit {digit j q k' : Nat} (hq : digit = 2 ^ j * (2 * q + 1)) (hk : k' ≤ j) :
    digit ^^^ (2 ^ (j + 1) - 2 ^ k') = digit - 2 ^ k' := by
  have hle : (2 : Nat) ^ k' ≤ 2 ^ j := Nat.pow_le_pow_right (by decide) hk
  have hp : (0 : Nat) < 2 ^ j := Nat.pow_pos (by decide)
  -- the mask is `2 ^ j - 2 ^ k'` below bit `j` and `1` from there on
  have e : (2 : Nat) ^ (j + 1) - 2 ^ k' = (2 ^ j - 2 ^ k') + 2 ^ j * 1 := by
    rw [Nat.pow_succ, Nat.mul_two, Nat.mul_one, Nat.sub_add_comm hle]
  have h1 : (2 * q + 1) ^^^ 1 = 2 * q := by
    have h := digitOp_xor.block (k := 1) (d := 1) (e := 1) q 0 (by decide) (by decide)
    rwa [Nat.xor_self, Nat.xor_zero, Nat.zero_add, Nat.mul_zero, Nat.add_zero, Nat.pow_one, Nat.add_comm] at h
  have h := digitOp_xor.block (k := j) (d := 0) (e := 2 ^ j - 2 ^ k') (2 * q + 1) 1 hp
    (Nat.sub_lt hp (Nat.pow_pos (by decide)))
  rw [Nat.zero_add, Nat.zero_xor, ← e, h1, ← hq] at h
  rw [h, hq, Nat.mul_succ, Nat.add_sub_assoc hle, Nat.add_comm]

theorem set_append_at {l1 : List Nat} (x : Nat) (l2 : List Nat) (a : Nat) {n : Nat} (h : l1.length = n) :
    (l1 ++ x :: l2).set n a = l1 ++ a :: l2 := by
  subst h; simp

theorem getD_append_at {l1 : List Nat} (x : Nat) (l2 : List Nat) {n : Nat} (h : l1.length = n) :
    (l1 ++ x :: l2).getD n 0 = x := by
  rw [List.getD_append_right _ _ _ _ (Nat.le_of_eq h), h, Nat.sub_self]; rfl

theorem take_append_at {l1 : List Nat} (x : Nat) (l2 : List Nat) {n : Nat} (h : l1.length = n) :
    (l1 ++ x :: l2).take (n + 1) = l1 ++ [x] := by
  rw [List.append_cons, List.take_left' (by rw [List.length_append, h]; rfl)]

theorem digitsOk_replicate {k d : Nat} (hd : d < B) : DigitsOk (List.replicate k d) := by
  intro x hx; rw [List.eq_of_mem_replicate hx]; exact hd

theorem val_replicate_maxd (n : Nat) : val (List.replicate n MAXD) + 1 = B ^ n := by
  induction n with
  | zero => rfl
  | succ n ih =>
    rw [List.replicate_succ, val_cons, Nat.add_assoc, Nat.pow_succ, ← ih, Nat.mul_comm _ B, Nat.mul_add_one,
      MAXD, Nat.add_left_comm, Nat.sub_add_cancel B_pos]

/-- borrowing `p` at digit `lo` from the power `B ^ (lo + (m + 1))` -/
theorem val_borrow (lo m : Nat) {p : Nat} (hp : p ≤ B) :
    val (List.replicate lo 0 ++ (B - p) :: List.replicate m MAXD) + B ^ lo * p = B ^ (lo + (m + 1)) := by
  rw [val_append, val_replicate_zero, List.length_replicate, val_cons, Nat.zero_add, ← Nat.mul_add,
    Nat.add_right_comm, Nat.sub_add_cancel hp, Nat.add_comm B, ← Nat.mul_add_one, val_replicate_maxd,
    Nat.pow_add, Nat.pow_succ, Nat.mul_comm B]

/-- "set a bit below the lowest set bit", both in the same digit: one xor with `mask_lo & mask_hi` -/
theorem set_below_same (rest : List Nat) {digit j q k' : Nat} (lo : Nat) (hrest : DigitsOk rest)
    (hd : digit < B) (hj : j < BITS) (hq : digit = 2 ^ j * (2 * q + 1)) (hk : k' ≤ j) :
    let data := List.replicate lo 0 ++ digit :: rest
    let out := data.set lo (data.getD lo 0 ^^^ ((MAXD <<< k') % B &&& MAXD >>> (BITS - 1 - j)))
    DigitsOk out ∧ val out + B ^ lo * 2 ^ k' = val data := by
  have hle : 2 ^ k' ≤ digit :=
    hq ▸ Nat.le_trans (Nat.pow_le_pow_right (by decide) hk) (Nat.le_mul_of_pos_right _ (Nat.succ_pos _))
  dsimp only
  rw [getD_append_at _ _ List.length_replicate, set_append_at _ _ _ List.length_replicate,
    maskLo_eq (Nat.lt_of_le_of_lt hk hj), maskHi_eq hj, maskLoHi_eq hj hk, flip_digit hq hk]
  refine ⟨(digitsOk_replicate_zero _).append (DigitsOk.cons (Nat.lt_of_le_of_lt (Nat.sub_le _ _) hd) hrest), ?_⟩
  rw [val_append, val_append, val_cons, val_cons, List.length_replicate, Nat.add_assoc, ← Nat.mul_add,
    Nat.add_right_comm, Nat.sub_add_cancel hle]

/-- "set a bit below the lowest set bit" in an earlier digit: that digit becomes `mask_lo`, the zero digits
    in between become all ones, and the lowest nonzero digit loses one by the xor with `mask_hi` -/
theorem set_below_borrow (rest : List Nat) {digit j q k' : Nat} (lo m : Nat) (hrest : DigitsOk rest)
    (hd : digit < B) (hj : j < BITS) (hq : digit = 2 ^ j * (2 * q + 1)) (hk : k' < BITS) :
    let i := lo + (m + 1)
    let data := List.replicate i 0 ++ digit :: rest
    let d1 := data.set lo ((MAXD <<< k') % B)
    let d2 := d1.take (lo + 1) ++ List.replicate (i - (lo + 1)) MAXD ++ d1.drop i
    let out := d2.set i (d2.getD i 0 ^^^ MAXD >>> (BITS - 1 - j))
    DigitsOk out ∧ val out + B ^ lo * 2 ^ k' = val data := by
  have hp : (0 : Nat) < 2 ^ k' := Nat.pow_pos (by decide)
  have hd1 : 1 ≤ digit := hq ▸ Nat.mul_pos (Nat.pow_pos (by decide)) (Nat.succ_pos _)
  have hl : ∀ x c, (List.replicate lo 0 ++ x :: List.replicate m c).length = lo + (m + 1) := fun x c => by
    rw [List.length_append, List.length_cons, List.length_replicate, List.length_replicate]
  have hflip := flip_digit (k' := 0) hq (Nat.zero_le _)
  rw [pow_zero] at hflip
  dsimp only
  generalize hout : List.set _ (lo + (m + 1)) _ = out
  -- `d1`: the zero digit at `lo` becomes `mask_lo`
  rw [← List.replicate_append_replicate, List.replicate_succ, List.append_assoc (List.replicate lo 0),
    List.cons_append, set_append_at _ _ _ List.length_replicate, maskLo_eq hk] at hout
  -- `d2`: its first `lo + 1` digits, `m` digits `MAX`, its digits from `i` on
  rw [take_append_at _ _ List.length_replicate, Nat.add_sub_add_left, Nat.add_sub_cancel, ← List.cons_append,
    ← List.append_assoc (List.replicate lo 0), List.drop_left' (hl _ _), List.append_assoc (List.replicate lo 0),
    List.singleton_append] at hout
  -- digit `i` is xored with `mask_hi`
  rw [getD_append_at _ _ (hl _ _), set_append_at _ _ _ (hl _ _), maskHi_eq hj, hflip] at hout
  rw [← hout]
  refine ⟨((digitsOk_replicate_zero _).append (DigitsOk.cons (Nat.sub_lt B_pos hp)
    (digitsOk_replicate (Nat.sub_lt B_pos Nat.one_pos)))).append
    (DigitsOk.cons (Nat.lt_of_le_of_lt (Nat.sub_le _ _) hd) hrest), ?_⟩
  -- by `val_borrow` both sides are `B ^ i * (digit + B * val rest)`
  rw [val_append, hl, val_cons, Nat.add_right_comm,
    val_borrow lo m (B_eq_bits ▸ Nat.pow_le_pow_right (by decide) (Nat.le_of_lt hk) : 2 ^ k' ≤ B),
    Nat.add_comm, ← Nat.mul_add_one, Nat.add_right_comm, Nat.sub_add_cancel hd1,
    val_append, val_replicate_zero, List.length_replicate, Nat.zero_add, val_cons]

theorem setNegativeBit_spec (data : List Nat) (k : Nat) (v : Bool) (h : Canon data) (hne : data ≠ []) :
    ∃ out, setNegativeBit data k v = .ok out ∧ DigitsOk out ∧ val out = negSetTarget (val data) k v := by
  unfold setNegativeBit negSetTarget
  by_cases hge : k ≥ BITS * data.length
  · -- beyond the top digit: the two's complement bit is 1
    have hlt : val data < 2 ^ k :=
      Nat.lt_of_lt_of_le (val_lt h.1) (B_pow _ ▸ Nat.pow_le_pow_right (by decide) hge)
    rw [if_pos hge, Nat.testBit_lt_two_pow (Nat.lt_of_le_of_lt (Nat.sub_le _ _) hlt)]
    cases v with
    | true => exact ⟨data, rfl, h.1, rfl⟩
    | false =>
      obtain ⟨s1, s2⟩ := setBitU_true_val_canon data k h
      exact ⟨setBitU data k true, rfl, s2.1, by rw [s1, Nat.or_two_pow_eq_add_of_lt hlt]; rfl⟩
  · obtain ⟨t, q, ht, hq⟩ := (trailingZerosU_spec data h.1).2 (Nat.ne_of_gt (canon_val_pos h hne))
    have hbit := testBit_pred_odd_mul t q k
    rw [← hq] at hbit
    obtain ⟨digit, rest, q', e1, hq'⟩ := tz_structure data t h.1 ht
    have hdok : DigitsOk (digit :: rest) := (e1 ▸ h.1 : DigitsOk (_ ++ digit :: rest)).right
    have hj : t % BITS < BITS := Nat.mod_lt _ (by decide)
    rw [if_neg hge, ht]
    dsimp only
    rcases Nat.lt_trichotomy k t with hlt | rfl | hgt
    · -- below the lowest set bit
      rw [if_pos hlt] at hbit
      rw [hbit, if_neg (Nat.lt_asymm hlt), if_neg (fun h => Nat.ne_of_lt hlt h.1)]
      cases v with
      | false =>
        rw [if_neg (fun h => Bool.noConfusion h.2)]
        exact ⟨data, rfl, h.1, rfl⟩
      | true =>
        have hlen : ¬ t / BITS ≥ data.length := by
          rw [e1, List.length_append, List.length_replicate]
          exact Nat.not_le.2 (Nat.lt_add_of_pos_right (Nat.succ_pos _))
        rw [if_pos ⟨hlt, rfl⟩, if_neg hlen, ← two_pow_digits k]
        by_cases hsi : k / BITS = t / BITS
        · have hk := hlt
          rw [← Nat.div_add_mod k BITS, ← Nat.div_add_mod t BITS, hsi] at hk
          obtain ⟨o1, o2⟩ := set_below_same rest (t / BITS) hdok.tail hdok.head hj hq'
            (Nat.le_of_lt (Nat.lt_of_add_lt_add_left hk))
          rw [if_pos hsi, hsi, e1]
          exact ⟨_, rfl, o1, Nat.eq_sub_of_add_eq o2⟩
        · obtain ⟨m, (hm : t / BITS = k / BITS + (m + 1))⟩ :=
            Nat.exists_eq_add_of_lt (Nat.lt_of_le_of_ne (Nat.div_le_div_right (Nat.le_of_lt hlt)) hsi)
          obtain ⟨o1, o2⟩ := set_below_borrow rest (k / BITS) m hdok.tail hdok.head hj hq'
            (Nat.mod_lt k (by decide))
          rw [if_neg hsi, e1, hm]
          exact ⟨_, rfl, o1, Nat.eq_sub_of_add_eq o2⟩
    · -- at the lowest set bit
      rw [if_neg (Nat.lt_irrefl k), if_pos rfl] at hbit
      rw [hbit, if_neg (Nat.lt_irrefl k)]
      cases v with
      | true =>
        rw [if_neg (fun h => Bool.noConfusion h.2), if_neg (fun h => Nat.lt_irrefl k h.1)]
        exact ⟨data, rfl, h.1, rfl⟩
      | false =>
        obtain ⟨out, ho, hok, hv⟩ := clear_at_tz _ rest (digitsOk_replicate_zero _) hdok.tail hdok.head hj hq'
          (.internal "set_negative_bit carry_in")
        rw [List.length_replicate, ← e1, two_pow_digits] at hv
        refine ⟨out, ?_, hok, hv⟩
        rw [if_pos ⟨rfl, rfl⟩]
        rw [e1, List.drop_left' List.length_replicate, List.take_left' List.length_replicate]
        exact ho
    · -- above the lowest set bit: the two's complement bit is the complement of the magnitude's
      rw [if_neg (Nat.lt_asymm hgt), if_neg (Nat.ne_of_gt hgt)] at hbit
      rw [hbit, if_pos hgt]
      cases v with
      | true =>
        obtain ⟨s1, s2⟩ := setBitU_false_val_canon data k h
        exact ⟨setBitU data k false, rfl, s2.1, by rw [s1, ldiff_two_pow_eq]; rfl⟩
      | false =>
        obtain ⟨s1, s2⟩ := setBitU_true_val_canon data k h
        exact ⟨setBitU data k true, rfl, s2.1, by rw [s1, or_two_pow_eq]; rfl⟩

end NB.C07
