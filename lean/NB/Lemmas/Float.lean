/- helper lemmas for C08, float side: bit length, or-with-one, round-to-nearest-even on Nat,
   the double-rounding (round-to-odd) lemma, the digit walk of `high_bits_to_u64`,
   encoding / scaling of IEEE bit patterns, the fields of a pattern and its truncated magnitude,
   widening `f32 → f64` -/
import NB.Lemmas.Convert
import NB.Model.Float
namespace NB.Conv

/-- `t | 1` as arithmetic -/
def orOne (t : Nat) : Nat := if t % 2 = 0 then t + 1 else t

theorem or_one_eq (t : Nat) : t ||| 1 = orOne t := by
  have hd : (t ||| 1) / 2 = t / 2 := by rw [Nat.or_div_two]; exact Nat.or_zero _
  have hm : (t ||| 1) % 2 = 1 := Nat.or_mod_two_eq_one.mpr (Or.inr rfl)
  unfold orOne
  split <;> omega

theorem orOne_odd (t : Nat) : orOne t % 2 = 1 := by unfold orOne; split <;> omega
theorem orOne_idem (t : Nat) : orOne (orOne t) = orOne t :=
  if_neg (by rw [orOne_odd]; decide)
theorem orOne_ge (t : Nat) : t ≤ orOne t := by unfold orOne; split <;> omega
theorem orOne_le (t : Nat) : orOne t ≤ t + 1 := by unfold orOne; split <;> omega

theorem bitLen_zero : bitLen 0 = 0 := by simp [bitLen]

theorem bitLen_pos {n : Nat} (h : n ≠ 0) : 0 < bitLen n := by simp [bitLen, h]

theorem bitLen_bounds {n : Nat} (h : n ≠ 0) : 2 ^ (bitLen n - 1) ≤ n ∧ n < 2 ^ bitLen n := by
  simp only [bitLen, h, if_false, Nat.add_sub_cancel]
  exact ⟨Nat.log2_self_le h, Nat.lt_log2_self⟩

theorem bitLen_lt (n : Nat) : n < 2 ^ bitLen n := by
  by_cases h : n = 0
  · subst h; simp [bitLen]
  · exact (bitLen_bounds h).2

theorem bitLen_unique {n k : Nat} (hlo : 2 ^ (k - 1) ≤ n) (hhi : n < 2 ^ k) : bitLen n = k := by
  have hn : n ≠ 0 := by
    have : 0 < 2 ^ (k - 1) := Nat.two_pow_pos _
    omega
  simp only [bitLen, hn, if_false]
  have h1 : Nat.log2 n < k := (Nat.log2_lt hn).mpr hhi
  have h2 : ¬ Nat.log2 n < k - 1 := fun c => by
    have := (Nat.log2_lt hn).mp c; omega
  omega

theorem bitLen_le_iff {n k : Nat} : bitLen n ≤ k ↔ n < 2 ^ k := by
  by_cases h : n = 0
  · subst h; simp [bitLen]
  · simp only [bitLen, h, if_false]
    rw [← Nat.log2_lt h]; omega

/-- a non-zero high part `h` above `n` low bits: the length is `n` plus that of `h` -/
theorem bitLen_add_mul {lo n h : Nat} (hlo : lo < 2 ^ n) (hh : h ≠ 0) :
    bitLen (lo + 2 ^ n * h) = n + bitLen h := by
  obtain ⟨l, u⟩ := bitLen_bounds hh
  have hp := bitLen_pos hh
  apply bitLen_unique
  · rw [show n + bitLen h - 1 = n + (bitLen h - 1) by omega, Nat.pow_add]
    exact Nat.le_trans (Nat.mul_le_mul_left _ l) (Nat.le_add_left _ _)
  · rw [Nat.pow_add]
    calc lo + 2 ^ n * h < 2 ^ n + 2 ^ n * h := Nat.add_lt_add_right hlo _
      _ = 2 ^ n * (h + 1) := by rw [Nat.mul_succ, Nat.add_comm]
      _ ≤ 2 ^ n * 2 ^ bitLen h := Nat.mul_le_mul_left _ u

theorem bitLen_mul_pow {w : Nat} (hw : w ≠ 0) (s : Nat) : bitLen (w * 2 ^ s) = bitLen w + s := by
  have := bitLen_add_mul (lo := 0) (n := s) (Nat.two_pow_pos _) hw
  rwa [Nat.zero_add, Nat.mul_comm, Nat.add_comm] at this

/-- the round-up decision of `rneNat`: remainder above half, or exactly half with odd quotient -/
def roundsUp (q r half : Nat) : Prop := half < r ∨ (r = half ∧ q % 2 = 1)
instance (q r half : Nat) : Decidable (roundsUp q r half) := by unfold roundsUp; infer_instance

theorem rneNat_small {p v : Nat} (h : bitLen v ≤ p) : rneNat p v = v := by
  unfold rneNat; simp only [h, if_true]

theorem rneNat_big {p v : Nat} (h : p < bitLen v) :
    rneNat p v =
      (if roundsUp (v / 2 ^ (bitLen v - p)) (v % 2 ^ (bitLen v - p)) (2 ^ (bitLen v - p - 1))
        then v / 2 ^ (bitLen v - p) + 1 else v / 2 ^ (bitLen v - p)) * 2 ^ (bitLen v - p) := by
  unfold rneNat
  have : ¬ bitLen v ≤ p := by omega
  simp only [this, if_false]
  rfl

/-- Double-rounding core.  Keep `u` (the bits between the target precision and the truncation
    point, `u < K = 2h`) and replace the discarded non-zero tail `low` by a sticky LSB: the
    round-to-nearest-even decision is unchanged, PROVIDED the half-way point `h` of the kept bits is
    even, i.e. at least two extra bits are kept.
    (False without `h % 2 = 0`: for `h = 1, u = 0, P = 2, low = 1` and
    odd `q`, `roundsUp q 1 2` is false and `roundsUp q 2 2` is true.) -/
theorem roundsUp_sticky {q u low P h : Nat} (hlow : low < P) (hl0 : low ≠ 0) (hh : h % 2 = 0) :
    roundsUp q (u * P + low) (h * P) ↔ roundsUp q (orOne u * P) (h * P) := by
  have hP : 0 < P := by omega
  have hodd := orOne_odd u
  have hge := orOne_ge u
  have hle := orOne_le u
  -- both sides are equivalent to `h ≤ u`: the remainders lie strictly between multiples of `P`, and
  -- `orOne u` is odd, so never equal to the even `h`
  unfold roundsUp
  rcases Nat.lt_or_ge u h with c | c
  · have h1 := Nat.mul_le_mul_right P (Nat.succ_le_of_lt c)
    have h2 : orOne u * P < h * P := Nat.mul_lt_mul_of_pos_right (by omega) hP
    rw [Nat.succ_mul] at h1
    omega
  · have h1 := Nat.mul_le_mul_right P c
    have h2 : h * P < orOne u * P := Nat.mul_lt_mul_of_pos_right (by omega) hP
    omega

theorem roundsUp_scale {q r half P : Nat} (hP : 0 < P) :
    roundsUp q (r * P) (half * P) ↔ roundsUp q r half := by
  unfold roundsUp
  rw [Nat.mul_lt_mul_right hP, Nat.mul_left_inj (Nat.ne_of_gt hP)]

theorem rneNat_scale {p m : Nat} (hm : m ≠ 0) (s : Nat) : rneNat p (m * 2 ^ s) = rneNat p m * 2 ^ s := by
  have hbl := bitLen_mul_pow hm s
  by_cases hsm : bitLen m ≤ p
  · rw [rneNat_small hsm]
    by_cases h2 : bitLen m + s ≤ p
    · exact rneNat_small (by omega)
    · -- the shift `S' = n + s - p` is at most `s`: nothing is cut off
      have e : (2 : Nat) ^ s = 2 ^ (s - (bitLen m + s - p)) * 2 ^ (bitLen m + s - p) :=
        pow2_split (by omega)
      have hh := Nat.two_pow_pos (bitLen m + s - p - 1)
      rw [rneNat_big (by omega), hbl, e, ← Nat.mul_assoc, Nat.mul_div_cancel _ (Nat.two_pow_pos _),
        Nat.mul_mod_left, if_neg (by unfold roundsUp; omega)]
  · have hpos : 0 < (2 : Nat) ^ s := Nat.two_pow_pos _
    rw [rneNat_big (by omega), rneNat_big (by omega), hbl,
      show (2 : Nat) ^ (bitLen m + s - p) = 2 ^ (bitLen m - p) * 2 ^ s from pow2_split (by omega),
      show (2 : Nat) ^ (bitLen m + s - p - 1) = 2 ^ (bitLen m - p - 1) * 2 ^ s from
        pow2_split (by omega),
      Nat.mul_div_mul_right _ _ hpos, Nat.mul_mod_mul_right]
    simp only [roundsUp_scale hpos, Nat.mul_assoc]

/-- a natural number representable with a `p`-bit significand: `m · 2^e`, `m < 2^p` -/
def Repr (p w : Nat) : Prop := ∃ m e, w = m * 2 ^ e ∧ m < 2 ^ p

/-- |a − b| on `Nat` -/
def absDiff (a b : Nat) : Nat := (a - b) + (b - a)

/-- shape of `rneNat` above the precision: one of the two neighbouring multiples of `2^S` -/
theorem rneNat_cases {p v : Nat} (h : p < bitLen v) :
    (rneNat p v = v / 2 ^ (bitLen v - p) * 2 ^ (bitLen v - p) ∧
      2 * (v % 2 ^ (bitLen v - p)) ≤ 2 ^ (bitLen v - p) ∧
      (2 * (v % 2 ^ (bitLen v - p)) = 2 ^ (bitLen v - p) → v / 2 ^ (bitLen v - p) % 2 = 0)) ∨
    (rneNat p v = (v / 2 ^ (bitLen v - p) + 1) * 2 ^ (bitLen v - p) ∧
      2 ^ (bitLen v - p) ≤ 2 * (v % 2 ^ (bitLen v - p)) ∧
      (2 * (v % 2 ^ (bitLen v - p)) = 2 ^ (bitLen v - p) → v / 2 ^ (bitLen v - p) % 2 = 1)) := by
  have e2 : (2 : Nat) ^ (bitLen v - p) = 2 * 2 ^ (bitLen v - p - 1) := pow2_succ (by omega)
  rw [rneNat_big h]
  generalize v / 2 ^ (bitLen v - p) = q
  generalize v % 2 ^ (bitLen v - p) = r
  rw [e2]
  generalize 2 ^ (bitLen v - p - 1) = half
  by_cases c : roundsUp q r half
  · rw [if_pos c]; unfold roundsUp at c
    exact .inr ⟨rfl, by omega, by omega⟩
  · rw [if_neg c]; unfold roundsUp at c
    exact .inl ⟨rfl, by omega, by omega⟩

theorem no_repr_between {p w q S : Nat} (hp : 1 ≤ p) (hq : 2 ^ (p - 1) ≤ q) (hw : Repr p w) :
    ¬ (q * 2 ^ S < w ∧ w < (q + 1) * 2 ^ S) := by
  rintro ⟨h1, h2⟩
  obtain ⟨m, e, rfl, hm⟩ := hw
  by_cases he : S ≤ e
  · -- w is a multiple of 2^S
    have e1 : (2 : Nat) ^ e = 2 ^ (e - S) * 2 ^ S := pow2_split (by omega)
    rw [e1, ← Nat.mul_assoc] at h1 h2
    have a := Nat.lt_of_mul_lt_mul_right h1
    have b := Nat.lt_of_mul_lt_mul_right h2
    omega
  · -- w < 2^(p+e) ≤ 2^(p-1+S) ≤ q·2^S
    have e1 : (2 : Nat) ^ S = 2 ^ (S - e) * 2 ^ e := pow2_split (by omega)
    have hge : 2 * 2 ^ (p - 1) = 2 ^ p := (pow2_succ (by omega)).symm
    have h2S : 2 ≤ 2 ^ (S - e) := by
      have : (2 : Nat) ^ 1 ≤ 2 ^ (S - e) := Nat.pow_le_pow_right (by decide) (by omega)
      omega
    have : 2 ^ p * 2 ^ e ≤ q * 2 ^ S := by
      rw [e1, ← Nat.mul_assoc]
      apply Nat.mul_le_mul_right
      calc 2 ^ p = 2 ^ (p - 1) * 2 := by omega
        _ ≤ q * 2 ^ (S - e) := Nat.mul_le_mul hq h2S
    have : m * 2 ^ e < 2 ^ p * 2 ^ e := Nat.mul_lt_mul_of_pos_right hm (Nat.two_pow_pos _)
    omega

theorem orOne_div_mod {t K : Nat} (hK : K % 2 = 0) (hK0 : 0 < K) :
    orOne t / K = t / K ∧ orOne t % K = orOne (t % K) := by
  have hu := Nat.mod_lt t hK0
  have hpar : t % K % 2 = t % 2 := Nat.mod_mod_of_dvd t (Nat.dvd_of_mod_eq_zero hK)
  have hlt : orOne (t % K) < K := by unfold orOne; split <;> omega
  have ht : orOne t = K * (t / K) + orOne (t % K) := by
    have := Nat.div_add_mod t K
    unfold orOne; rw [hpar]; split <;> omega
  rw [ht]
  exact ⟨by rw [Nat.mul_add_div hK0, Nat.div_eq_of_lt hlt, Nat.add_zero],
    by rw [Nat.mul_add_mod, Nat.mod_eq_of_lt hlt]⟩

/-- the round-to-odd summary of `v` at `s` dropped bits: `⌊v / 2^s⌋`, with the LSB forced to 1 when
    any dropped bit is set -/
def stickyShift (v s : Nat) : Nat := if v % 2 ^ s = 0 then v / 2 ^ s else orOne (v / 2 ^ s)

theorem div_pow_bitLen {v k s : Nat} (hk : 0 < k) (hn : bitLen v = k + s) :
    2 ^ (k - 1) ≤ v / 2 ^ s ∧ v / 2 ^ s < 2 ^ k := by
  have hq : v / 2 ^ s ≠ 0 := by
    rw [Ne, Nat.div_eq_zero_iff_lt (Nat.two_pow_pos _), ← bitLen_le_iff]; omega
  have := bitLen_add_mul (Nat.mod_lt v (Nat.two_pow_pos s)) hq
  rw [Nat.mod_add_div, hn] at this
  have hb := bitLen_bounds hq
  rwa [show bitLen (v / 2 ^ s) = k by omega] at hb

/-- forcing the LSB of the `k`-bit quotient cannot carry out, `2^k` being even -/
theorem stickyShift_bitLen {v k s : Nat} (hk : 0 < k) (hn : bitLen v = k + s) :
    bitLen (stickyShift v s) = k := by
  obtain ⟨lo, hi⟩ := div_pow_bitLen hk hn
  apply bitLen_unique
  all_goals
    unfold stickyShift
    split
    · assumption
    · have h1 := orOne_ge (v / 2 ^ s)
      have h2 := orOne_le (v / 2 ^ s)
      have h3 := orOne_odd (v / 2 ^ s)
      have h4 : (2 : Nat) ^ k = 2 * 2 ^ (k - 1) := pow2_succ (by omega)
      omega

/-- Double-rounding lemma.  Let `v` have `k + s` bits and let
    `m = ⌊v / 2^s⌋ | [v mod 2^s ≠ 0]` be its `k`-bit round-to-odd summary.  If at least two more bits
    than the target precision are kept (`p + 2 ≤ k`), rounding `m·2^s` to `p` bits (nearest, ties to
    even) gives exactly the correctly rounded `v`. -/
theorem round_to_odd_rne {p v k s : Nat} (hp : p + 2 ≤ k) (hn : bitLen v = k + s) :
    rneNat p (stickyShift v s * 2 ^ s) = rneNat p v := by
  have hk : 0 < k := by omega
  have hP : 0 < (2 : Nat) ^ s := Nat.two_pow_pos _
  -- `2^S = K·P`, `half = h·P` with `P = 2^s`, `K = 2^(k-p) = 2·h`, and `h` even
  have eS : (2 : Nat) ^ (k + s - p) = 2 ^ (k - p) * 2 ^ s := pow2_split (by omega)
  have eH : (2 : Nat) ^ (k + s - p - 1) = 2 ^ (k - p - 1) * 2 ^ s := pow2_split (by omega)
  have hheven : (2 : Nat) ^ (k - p - 1) % 2 = 0 := by
    rw [pow2_succ (y := k - p - 2) (by omega)]; exact Nat.mul_mod_right _ _
  have hKeven : (2 : Nat) ^ (k - p) % 2 = 0 := by
    rw [pow2_succ (y := k - p - 1) (by omega)]; exact Nat.mul_mod_right _ _
  by_cases hlow : v % 2 ^ s = 0
  · unfold stickyShift
    rw [if_pos hlow, Nat.div_mul_cancel (Nat.dvd_of_mod_eq_zero hlow)]
  · have hst : stickyShift v s = orOne (v / 2 ^ s) := if_neg hlow
    have hm0 : stickyShift v s ≠ 0 := by
      have := orOne_odd (v / 2 ^ s); rw [hst]; omega
    have hbl : bitLen (stickyShift v s * 2 ^ s) = k + s := by
      rw [bitLen_mul_pow hm0, stickyShift_bitLen hk hn]
    obtain ⟨od, om⟩ := orOne_div_mod (t := v / 2 ^ s) hKeven (Nat.two_pow_pos _)
    -- same quotient; remainders `orOne u · P` and `u · P + low`
    rw [rneNat_big (by omega), rneNat_big (by omega), hbl, hn, eS, eH,
      Nat.mul_div_mul_right _ _ hP, Nat.mul_mod_mul_right, hst, od, om,
      Nat.mul_comm (2 ^ (k - p)) (2 ^ s), ← Nat.div_div_eq_div_mul, Nat.mod_mul,
      Nat.mul_comm (2 ^ s) (v / 2 ^ s % 2 ^ (k - p)), Nat.add_comm (v % 2 ^ s)]
    simp only [roundsUp_sticky (Nat.mod_lt _ hP) hlow hheven]

theorem hbStep_top {top k j : Nat} (hk : 1 ≤ k) (hk64 : k ≤ 64) :
    hbStep top (64 * j + k) 0 0 = .ok (64 * j, top, k) := by
  unfold hbStep
  have hne : ¬ (64 * j + k = 0) := by omega
  have e : (64 * j + k - 1) % digitBits + 1 = k := by unfold digitBits; omega
  have hm : min 64 k = k := by omega
  have hk0 : ¬ k = 0 := by omega
  rw [if_neg hne]
  simp only [e, Nat.sub_zero, hm, Nat.sub_self, ne_eq, not_true_eq_false, if_false,
    hk0, not_false_eq_true, if_true, Nat.zero_shiftLeft, Nat.zero_mod, ite_self, Nat.shiftRight_zero,
    Nat.zero_or, Nat.zero_add]
  congr 2
  omega

/-- a digit below the top one: `k` bits are in `ret`; take the `64 - k` high bits of `d`, the `k` low
    bits go into the sticky bit (`k = 64` from the third digit on: all of `d` is sticky) -/
theorem hbStep_lower {top d k j : Nat} (hk : 1 ≤ k) (hk64 : k ≤ 64) (htop : k < 64 → top < 2 ^ k)
    (hd : d < 2 ^ 64) :
    hbStep d (64 * (j + 1)) top k = .ok (64 * j, stickyShift (top * 2 ^ 64 + d) k, 64) := by
  unfold hbStep
  have hne : ¬ (64 * (j + 1) = 0) := by omega
  have e : (64 * (j + 1) - 1) % digitBits + 1 = 64 := by unfold digitBits; omega
  have e2 : 64 * (j + 1) - 64 = 64 * j := by omega
  have hm : min (64 - k) 64 = 64 - k := by omega
  have e3 : 64 - (64 - k) = k := by omega
  have e4 : k + (64 - k) = 64 := by omega
  have hk0 : ¬ (k = 0) := by omega
  rw [if_neg hne]
  simp only [e, hm, e2, e3, e4, ne_eq, hk0, not_false_eq_true, if_true]
  have hpk : 0 < (2 : Nat) ^ k := Nat.two_pow_pos _
  have e64 : (2 : Nat) ^ 64 = 2 ^ k * 2 ^ (64 - k) := pow2_split (by omega)
  have hdiv : (top * 2 ^ 64 + d) / 2 ^ k = top * 2 ^ (64 - k) + d / 2 ^ k := by
    rw [e64, ← Nat.mul_assoc, Nat.mul_comm top, Nat.mul_assoc, Nat.mul_add_div hpk]
  have hmod : (top * 2 ^ 64 + d) % 2 ^ k = d % 2 ^ k := by
    rw [e64, ← Nat.mul_assoc, Nat.mul_comm top, Nat.mul_assoc, Nat.mul_add_mod]
  -- the sticky test on the `k` low bits of `d`
  have hend : ∀ X : Nat, (X ||| if (d <<< (64 - k)) % 2 ^ 64 ≠ 0 then 1 else 0) =
      if d % 2 ^ k = 0 then X else orOne X := by
    intro X
    have hmask0 : (d <<< (64 - k)) % 2 ^ 64 = 0 ↔ d % 2 ^ k = 0 := by
      rw [Nat.shiftLeft_eq, e64, Nat.mul_mod_mul_right, Nat.mul_eq_zero,
        or_iff_left (Nat.ne_of_gt (Nat.two_pow_pos _))]
    by_cases c : d % 2 ^ k = 0
    · rw [if_pos c, if_neg (not_not.mpr (hmask0.mpr c)), Nat.or_zero]
    · rw [if_neg c, if_pos (mt hmask0.mp c), or_one_eq]
  unfold stickyShift
  rw [hmod, hdiv]
  by_cases hk' : k = 64
  · subst hk'
    simp only [Nat.sub_self, not_true_eq_false, if_false, Nat.pow_zero, Nat.mul_one] at *
    rw [Nat.div_eq_of_lt hd, Nat.add_zero, hend]
  · have hw0 : ¬ (64 - k = 0) := by omega
    have hw64 : ¬ (64 - k = 64) := by omega
    simp only [hw0, hw64, not_false_eq_true, if_true]
    have hsh : (top <<< (64 - k)) % 2 ^ 64 = top * 2 ^ (64 - k) := by
      rw [Nat.shiftLeft_eq]; apply Nat.mod_eq_of_lt
      rw [e64]; exact Nat.mul_lt_mul_of_pos_right (htop (by omega)) (Nat.two_pow_pos _)
    have hdk : d / 2 ^ k < 2 ^ (64 - k) := by
      rw [Nat.div_lt_iff_lt_mul hpk, Nat.mul_comm, ← e64]; exact hd
    rw [hsh, Nat.shiftRight_eq_div_pow, ← Nat.shiftLeft_eq, ← Nat.shiftLeft_add_eq_or_of_lt hdk,
      Nat.shiftLeft_eq, hend]

theorem hbLoop_cons {d bits ret rb : Nat} {s : Nat × Nat × Nat} (ds : List Nat)
    (h : hbStep d bits ret rb = .ok s) :
    hbLoop (d :: ds) bits ret rb = hbLoop ds s.1 s.2.1 s.2.2 := by
  conv_lhs => unfold hbLoop
  rw [h]; rfl

theorem stickyShift_digit (ret : Nat) {d : Nat} (hd : d < 2 ^ 64) :
    stickyShift (ret * 2 ^ 64 + d) 64 = if d = 0 then ret else orOne ret := by
  unfold stickyShift
  rw [Nat.mul_comm ret, Nat.mul_add_mod, Nat.mod_eq_of_lt hd, Nat.mul_add_div (Nat.two_pow_pos _),
    Nat.div_eq_of_lt hd, Nat.add_zero]

/-- digits three and below only feed the sticky bit -/
theorem hbLoop_tail (ds : List Nat) (hd : DigitsOk ds) (ret : Nat) :
    hbLoop ds (64 * ds.length) ret 64 = .ok (if val ds = 0 then ret else orOne ret) := by
  induction ds generalizing ret with
  | nil => simp [hbLoop, val]
  | cons d ds ih =>
    have hd64 := digit_lt hd
    rw [List.length_cons, hbLoop_cons ds (hbStep_lower (by decide) (by decide)
      (fun c => absurd c (by decide)) hd64), ih hd.tail]
    dsimp only
    rw [stickyShift_digit ret hd64]
    by_cases c1 : d = 0 <;> by_cases c2 : val ds = 0 <;>
      simp only [val_cons_eq_zero, c1, c2, if_true, if_false, and_self, and_false, false_and,
        orOne_idem]

theorem val_snoc_bitLen {init : List Nat} {last : Nat} (hi : DigitsOk init) (hl0 : last ≠ 0) :
    bitLen (val (init ++ [last])) = 64 * init.length + bitLen last := by
  have hv : val (init ++ [last]) = val init + B ^ init.length * last := by
    rw [val_append]; simp [val]
  have hlt := val_lt hi
  rw [hv]
  rw [B_pow] at hlt ⊢
  exact bitLen_add_mul hlt hl0

/-- `BigUint::bits()` is the bit length of the value -/
theorem bitsOf_canon {x : List Nat} (h : Canon x) : bitsOf x = bitLen (val x) := by
  rcases List.eq_nil_or_concat x with rfl | ⟨init, last, rfl⟩
  · simp [bitsOf, val, bitLen]
  · rw [List.concat_eq_append] at h ⊢
    have hl0 : last ≠ 0 := by
      intro e; apply h.2; simp [e]
    have := bitLen_le_iff.mpr (digit_lt_of_mem h.1 (show last ∈ init ++ [last] by simp))
    have hp := bitLen_pos hl0
    rw [val_snoc_bitLen h.1.left hl0]
    unfold bitsOf
    simp only [List.getLast?_append, List.getLast?_singleton, Option.some_or, List.length_append,
      List.length_singleton, digitBits]
    omega

theorem highBits_of_len {x : List Nat} (hl : 2 ≤ x.length) :
    highBitsToU64 x = hbLoop x.reverse (bitsOf x) 0 0 := by
  match x, hl with
  | _ :: _ :: _, _ => rfl

theorem highBits_small {x : List Nat} (hl : x.length ≤ 1) : highBitsToU64 x = .ok (val x) := by
  match x, hl with
  | [], _ => rfl
  | [d], _ => simp [highBitsToU64, val]

/-- dropping `n` further bits below a part `lo < 2^n`: the summary of the high part with `lo ≠ 0`
    or-ed in -/
theorem stickyShift_add {lo H n : Nat} (k : Nat) (hlt : lo < 2 ^ n) :
    stickyShift (lo + 2 ^ n * H) (n + k) =
      if lo = 0 then stickyShift H k else orOne (stickyShift H k) := by
  have hPn : 0 < 2 ^ n := Nat.two_pow_pos _
  have hq : (lo + 2 ^ n * H) / 2 ^ n = H := by
    rw [Nat.add_mul_div_left _ _ hPn, Nat.div_eq_of_lt hlt, Nat.zero_add]
  unfold stickyShift
  rw [Nat.pow_add, ← Nat.div_div_eq_div_mul, Nat.mod_mul, hq, Nat.add_mul_mod_self_left,
    Nat.mod_eq_of_lt hlt]
  by_cases c2 : lo = 0
  · rw [if_pos c2, c2, Nat.zero_add]
    by_cases c1 : H % 2 ^ k = 0
    · rw [if_pos c1, if_pos (by rw [c1]; rfl)]
    · rw [if_neg c1, if_neg (Nat.mul_ne_zero (Nat.ne_of_gt hPn) c1)]
  · rw [if_neg c2, if_neg (by omega)]
    split
    · rfl
    · exact (orOne_idem _).symm

/-- for at least two digits, `high_bits_to_u64` returns the top 64 bits of the
    value with all lower bits or-ed into the LSB (round-to-odd) -/
theorem highBits_two_le {x : List Nat} (h : Canon x) (hl : 2 ≤ x.length) :
    highBitsToU64 x = .ok (stickyShift (val x) (bitLen (val x) - 64)) := by
  rw [highBits_of_len hl, bitsOf_canon h]
  rcases List.eq_nil_or_concat x with rfl | ⟨init, top, rfl⟩
  · simp at hl
  rw [List.concat_eq_append] at h hl ⊢
  rcases List.eq_nil_or_concat init with rfl | ⟨lows, d2, rfl⟩
  · simp at hl
  rw [List.concat_eq_append] at h hl ⊢
  have htop0 : top ≠ 0 := by intro e; apply h.2; simp [e]
  have htop : top < 2 ^ 64 := digit_lt_of_mem h.1 (by simp)
  have hd2 : d2 < 2 ^ 64 := digit_lt_of_mem h.1 (by simp)
  have hlows : DigitsOk lows := h.1.left.left
  have hk64 := bitLen_le_iff.mpr htop
  have hk1 := bitLen_pos htop0
  have hrd : DigitsOk lows.reverse := fun d hd => hlows d (List.mem_reverse.mp hd)
  have hz : val lows.reverse = 0 ↔ val lows = 0 := by
    rw [val_eq_zero_iff, val_eq_zero_iff]; simp
  have hv : val (lows ++ [d2] ++ [top]) = val lows + 2 ^ (64 * lows.length) * (top * 2 ^ 64 + d2) := by
    rw [List.append_assoc, val_append, B_pow]; simp [val, B_eq]; ring
  have hlt : val lows < 2 ^ (64 * lows.length) := by have := val_lt hlows; rwa [B_pow] at this
  have hbl : bitLen (val (lows ++ [d2] ++ [top])) - 64 = 64 * lows.length + bitLen top := by
    rw [val_snoc_bitLen h.1.left htop0, List.length_append, List.length_singleton]; omega
  rw [hbl, hv, stickyShift_add _ hlt,
    show (lows ++ [d2] ++ [top]).reverse = top :: d2 :: lows.reverse by simp,
    show bitLen (val lows + 2 ^ (64 * lows.length) * (top * 2 ^ 64 + d2)) =
      64 * (lows.length + 1) + bitLen top by
        rw [← hv, val_snoc_bitLen h.1.left htop0, List.length_append, List.length_singleton],
    hbLoop_cons _ (hbStep_top hk1 hk64), hbLoop_cons _ (hbStep_lower hk1 hk64 (fun _ => bitLen_lt top) hd2),
    ← List.length_reverse, hbLoop_tail _ hrd]
  by_cases c : val lows = 0
  · rw [if_pos c, if_pos (hz.mpr c)]
  · rw [if_neg c, if_neg (mt hz.mp c)]

theorem stickyShift_zero (v : Nat) : stickyShift v 0 = v := by
  unfold stickyShift; rw [Nat.pow_zero, Nat.mod_one, if_pos rfl, Nat.div_one]

/-- for every canonical `x`: at most one digit means nothing is dropped -/
theorem highBits_all {x : List Nat} (h : Canon x) :
    highBitsToU64 x = .ok (stickyShift (val x) (bitLen (val x) - 64)) := by
  by_cases hl : x.length ≤ 1
  · have hb : bitLen (val x) ≤ 64 :=
      bitLen_le_iff.mpr (by rw [← B_eq]; exact (canon_len_le_one h).mp hl)
    rw [highBits_small hl, Nat.sub_eq_zero_of_le hb, stickyShift_zero]
  · exact highBits_two_le h (by omega)

/-- the formats the theorems cover: at least two guard bits inside the 64-bit summary, and an
    exponent range that holds every rounded 64-bit integer (`f32`, `f64` qualify) -/
def FFmt.Valid (f : FFmt) : Prop := 2 ≤ f.p ∧ f.p + 2 ≤ 64 ∧ 8 ≤ f.ebits
instance (f : FFmt) : Decidable f.Valid := by unfold FFmt.Valid; infer_instance

theorem rneNat_zero (p : Nat) : rneNat p 0 = 0 := rneNat_small (by simp [bitLen])

theorem rneNat_bounds {p v : Nat} (hp : 1 ≤ p) (hv : v ≠ 0) :
    2 ^ (bitLen v - 1) ≤ rneNat p v ∧ rneNat p v ≤ 2 ^ bitLen v := by
  by_cases hs : bitLen v ≤ p
  · rw [rneNat_small hs]
    exact ⟨(bitLen_bounds hv).1, Nat.le_of_lt (bitLen_bounds hv).2⟩
  · obtain ⟨lo, hi⟩ := div_pow_bitLen hp (show bitLen v = p + (bitLen v - p) by omega)
    rw [rneNat_big (by omega), show (2 : Nat) ^ (bitLen v - 1) = 2 ^ (p - 1) * 2 ^ (bitLen v - p) from
      pow2_split (by omega), show (2 : Nat) ^ bitLen v = 2 ^ p * 2 ^ (bitLen v - p) from
      pow2_split (by omega)]
    constructor <;> apply Nat.mul_le_mul_right <;> split <;> omega

theorem rneNat_ne_zero {p v : Nat} (hp : 1 ≤ p) (hv : v ≠ 0) : rneNat p v ≠ 0 := by
  have := (rneNat_bounds hp hv).1
  have : 0 < (2 : Nat) ^ (bitLen v - 1) := Nat.two_pow_pos _
  omega

theorem rneNat_bitLen {p v : Nat} (hp : 1 ≤ p) (hv : v ≠ 0) :
    bitLen v ≤ bitLen (rneNat p v) ∧ bitLen (rneNat p v) ≤ bitLen v + 1 := by
  obtain ⟨lo, hi⟩ := rneNat_bounds hp hv
  constructor
  · by_contra c
    have : bitLen (rneNat p v) ≤ bitLen v - 1 := by omega
    have := bitLen_le_iff.mp this
    omega
  · apply bitLen_le_iff.mpr
    have : (2 : Nat) ^ (bitLen v + 1) = 2 * 2 ^ bitLen v := by rw [Nat.pow_succ]; omega
    have : 0 < (2 : Nat) ^ bitLen v := Nat.two_pow_pos _
    omega

theorem sig_bounds {w p : Nat} (hp : 1 ≤ p) (hw : w ≠ 0) :
    2 ^ (p - 1) ≤ w * 2 ^ p / 2 ^ bitLen w ∧ w * 2 ^ p / 2 ^ bitLen w < 2 ^ p :=
  div_pow_bitLen hp (by rw [bitLen_mul_pow hw, Nat.add_comm])

theorem fmt_consts (f : FFmt) (he : 1 ≤ f.ebits) (hp : 1 ≤ f.p) :
    f.bias = f.maxExp - 1 ∧ f.expAll = 2 * f.maxExp - 1 ∧ 0 < f.maxExp ∧ 2 ^ f.p = 2 * 2 ^ f.fbits ∧
    f.signBit = 2 * f.maxExp * 2 ^ f.fbits := by
  unfold FFmt.bias FFmt.expAll FFmt.maxExp FFmt.fbits FFmt.signBit
  have e1 : (2 : Nat) ^ f.ebits = 2 * 2 ^ (f.ebits - 1) := pow2_succ (by omega)
  have e2 : (2 : Nat) ^ f.p = 2 * 2 ^ (f.p - 1) := pow2_succ (by omega)
  refine ⟨rfl, by rw [e1], Nat.two_pow_pos _, e2, ?_⟩
  rw [Nat.pow_add, e1]; rfl

theorem encode_zero (f : FFmt) : encode f 0 = 0 := by unfold encode; simp

theorem encode_fields {f : FFmt} (hp : 1 ≤ f.p) {w : Nat} (hw : w ≠ 0) (hn : bitLen w ≤ f.maxExp) :
    encode f w = (bitLen w - 1 + f.bias) * 2 ^ f.fbits + (w * 2 ^ f.p / 2 ^ bitLen w - 2 ^ f.fbits) ∧
    w * 2 ^ f.p / 2 ^ bitLen w - 2 ^ f.fbits < 2 ^ f.fbits := by
  constructor
  · unfold encode; rw [if_neg hw]; dsimp only; rw [if_neg (by omega)]
  · obtain ⟨lo, hi⟩ := sig_bounds hp hw
    have e2 : (2 : Nat) ^ f.p = 2 * 2 ^ (f.p - 1) := pow2_succ (by omega)
    unfold FFmt.fbits
    omega

theorem encode_inf {f : FFmt} {w : Nat} (hn : f.maxExp < bitLen w) : encode f w = f.infBits := by
  have hw : w ≠ 0 := by intro e; subst e; simp [bitLen] at hn
  unfold encode; rw [if_neg hw]; dsimp only; rw [if_pos hn]

theorem encode_div_mod {f : FFmt} (hp : 1 ≤ f.p) {w : Nat} (hw : w ≠ 0) (hn : bitLen w ≤ f.maxExp) :
    encode f w / 2 ^ f.fbits = bitLen w - 1 + f.bias ∧
    encode f w % 2 ^ f.fbits = w * 2 ^ f.p / 2 ^ bitLen w - 2 ^ f.fbits := by
  obtain ⟨henc, hfr⟩ := encode_fields hp hw hn
  have hF : 0 < (2 : Nat) ^ f.fbits := Nat.two_pow_pos _
  rw [henc, Nat.mul_comm]
  exact ⟨by rw [Nat.mul_add_div hF, Nat.div_eq_of_lt hfr, Nat.add_zero],
    by rw [Nat.mul_add_mod, Nat.mod_eq_of_lt hfr]⟩

theorem two_le_maxExp {f : FFmt} (he : 2 ≤ f.ebits) : 2 ≤ f.maxExp :=
  calc 2 = 2 ^ 1 := rfl
    _ ≤ 2 ^ (f.ebits - 1) := Nat.pow_le_pow_right (by decide) (by omega)

/-- the exponent field `n − 1 + bias` of an `n`-bit number, `n ≤ MAX_EXP`, is a normal one -/
theorem expField_bounds {n M b a : Nat} (hb : b = M - 1) (ha : a = 2 * M - 1) (hM : 2 ≤ M)
    (hn1 : 1 ≤ n) (hn : n ≤ M) : n - 1 + b ≠ 0 ∧ n - 1 + b < 2 * M ∧ n - 1 + b ≠ a := by
  omega

/-- adding the exponent field of `2^e`: the field of an `n + e`-bit number, saturating exactly when
    that length exceeds `MAX_EXP` -/
theorem expField_add {n M b a : Nat} (hb : b = M - 1) (ha : a = 2 * M - 1) (hM : 2 ≤ M)
    (hn1 : 1 ≤ n) (e : Nat) :
    n - 1 + b + (e + b) - b = n + e - 1 + b ∧ (n + e - 1 + b ≥ a ↔ n + e > M) ∧
    (¬ e ≥ M → e + b ≠ a) := by
  omega

/-- scaling: the modelled `(w as float) * 2.0.powi(e)` is the encoding of `w·2^e`
    (exact, or `+∞` as soon as `w·2^e ≥ 2^MAX_EXP`) -/
theorem fmul_encode {f : FFmt} (hp : 1 ≤ f.p) (he : 2 ≤ f.ebits) {w e : Nat} (hw : w ≠ 0)
    (hn : bitLen w ≤ f.maxExp) :
    fmulPow2 f (encode f w) (powi2 f e) = encode f (w * 2 ^ e) := by
  obtain ⟨hbias, hall, _, _, _⟩ := fmt_consts f (by omega) hp
  have hM2 := two_le_maxExp he
  have hnpos := bitLen_pos hw
  obtain ⟨hea0, _, _⟩ := expField_bounds hbias hall hM2 hnpos hn
  obtain ⟨hsum, hsat, hbe⟩ := expField_add hbias hall hM2 hnpos e
  obtain ⟨hea, hma⟩ := encode_div_mod hp hw hn
  have hF : 0 < (2 : Nat) ^ f.fbits := Nat.two_pow_pos _
  have ha0 : encode f w ≠ 0 := fun c => hea0 (by rw [← hea, c, Nat.zero_div])
  have hw2 : w * 2 ^ e ≠ 0 := Nat.mul_ne_zero hw (Nat.pos_iff_ne_zero.mp (Nat.two_pow_pos _))
  unfold fmulPow2
  dsimp only
  rw [hea, hma]
  by_cases hemax : e ≥ f.maxExp
  · -- `2^e` is already `+∞`
    have hinf : f.maxExp < bitLen (w * 2 ^ e) := by
      rw [bitLen_mul_pow hw]
      exact Nat.lt_of_lt_of_le (Nat.lt_add_of_pos_left hnpos) (Nat.add_le_add_left hemax _)
    rw [show powi2 f e = f.infBits from if_pos hemax,
      show f.infBits / 2 ^ f.fbits = f.expAll from Nat.mul_div_cancel _ hF, if_pos rfl, if_neg ha0,
      encode_inf hinf]
  · rw [show powi2 f e = (e + f.bias) * 2 ^ f.fbits from if_neg hemax, Nat.mul_div_cancel _ hF,
      if_neg (hbe hemax), if_neg ha0, hsum]
    unfold encode
    rw [if_neg hw2, bitLen_mul_pow hw]
    dsimp only
    by_cases hov : bitLen w + e > f.maxExp
    · rw [if_pos (hsat.mpr hov), if_pos hov]
    · rw [if_neg (mt hsat.mp hov), if_neg hov, Nat.pow_add, Nat.mul_assoc, Nat.mul_comm (2 ^ e),
        ← Nat.mul_assoc, Nat.mul_div_mul_right _ _ (Nat.two_pow_pos _)]

theorem encode_lt_signBit {f : FFmt} (hp : 1 ≤ f.p) (he : 1 ≤ f.ebits) (w : Nat) : encode f w < f.signBit := by
  obtain ⟨hbias, hall, hM, _, hsb⟩ := fmt_consts f he hp
  have hF : 0 < (2 : Nat) ^ f.fbits := Nat.two_pow_pos _
  by_cases hw : w = 0
  · rw [hw, encode_zero]; exact Nat.two_pow_pos _
  · -- compare exponent fields: at most `expAll < 2·MAX_EXP`
    rw [hsb, ← Nat.div_lt_iff_lt_mul hF]
    by_cases hn : bitLen w ≤ f.maxExp
    · have := bitLen_pos hw
      rw [(encode_div_mod hp hw hn).1]; omega
    · rw [encode_inf (by omega), FFmt.infBits, Nat.mul_div_cancel _ hF, hall]; omega

theorem valid_maxExp {f : FFmt} (hf : f.Valid) : 128 ≤ f.maxExp := by
  unfold FFmt.maxExp
  have : (2 : Nat) ^ 7 ≤ 2 ^ (f.ebits - 1) := Nat.pow_le_pow_right (by decide) (by have := hf.2.2; omega)
  omega

theorem fmul_zero {f : FFmt} (hp : 1 ≤ f.p) (he : 2 ≤ f.ebits) : fmulPow2 f 0 (powi2 f 0) = 0 := by
  obtain ⟨hbias, hall, hM, _, _⟩ := fmt_consts f (by omega) hp
  have hF : 0 < (2 : Nat) ^ f.fbits := Nat.two_pow_pos _
  have hb : powi2 f 0 = (0 + f.bias) * 2 ^ f.fbits := by unfold powi2; rw [if_neg (by omega)]
  unfold fmulPow2
  dsimp only
  rw [hb, Nat.mul_div_cancel _ hF, if_neg (by omega), if_pos rfl]

/-- the correctly rounded IEEE pattern of a natural number: nearest representable value, ties to
    even, `+∞` exactly when the rounded value reaches `2^MAX_EXP` -/
def ieeeRne (f : FFmt) (v : Nat) : Nat := encode f (rneNat f.p v)

theorem f64_fbits : f64.fbits = 52 := rfl
theorem f64_bias : f64.bias = 1023 := by decide
theorem f64_expAll : f64.expAll = 2047 := by decide
theorem f64_signBit : f64.signBit = 2 ^ 63 := rfl
theorem f64_ebits : f64.ebits = 11 := rfl

/-- `⌊|x|⌋` of the finite float with bit pattern `b`: `|x| = sig · 2^(ex − bias − fbits)` with
    `sig = frac` (sub-normal, `ex = 1`) or `frac + 2^fbits` (normal, `ex` = exponent field) -/
def floatTruncAbs (f : FFmt) (b : Nat) : Nat :=
  let e := fExp f b
  let m := fFrac f b
  let sig := if e = 0 then m else m + 2 ^ f.fbits
  let ex := if e = 0 then 1 else e
  let off := f.bias + f.fbits
  if ex ≥ off then sig * 2 ^ (ex - off) else sig / 2 ^ (off - ex)

/-- specification of `BigUint::from_f64/from_f32` on a bit pattern: `None` for NaN/±∞ and for
    values `≤ −1`; otherwise the magnitude truncated toward zero (so `−0.0` and `(−1, 0)` give 0) -/
def fromFloatSpecU (f : FFmt) (b : Nat) : Option (List Nat) :=
  if fExp f b = f.expAll then none
  else if fSign f b = 1 ∧ floatTruncAbs f b ≠ 0 then none
  else some (ofNat (floatTruncAbs f b))

theorem fFrac64 (b : Nat) : fFrac f64 b = b % 2 ^ 52 := rfl

theorem shift_eq_div (s a b : Nat) :
    (if a ≥ b then s * 2 ^ (a - b) else s / 2 ^ (b - a)) = s * 2 ^ a / 2 ^ b := by
  split
  · next h =>
    rw [pow2_split (Nat.sub_add_cancel h), ← Nat.mul_assoc, Nat.mul_div_cancel _ (Nat.two_pow_pos _)]
  · next h =>
    rw [pow2_split (Nat.sub_add_cancel (Nat.le_of_not_le h)),
      Nat.mul_div_mul_right _ _ (Nat.two_pow_pos _)]

theorem truncAbs_div (f : FFmt) (b : Nat) : floatTruncAbs f b =
    (if fExp f b = 0 then fFrac f b else fFrac f b + 2 ^ f.fbits) *
      2 ^ (if fExp f b = 0 then 1 else fExp f b) / 2 ^ (f.bias + f.fbits) :=
  shift_eq_div _ _ _

theorem truncAbs_congr {f : FFmt} {b c : Nat} (he : fExp f b = fExp f c) (hm : fFrac f b = fFrac f c) :
    floatTruncAbs f b = floatTruncAbs f c := by
  rw [truncAbs_div, truncAbs_div, he, hm]

theorem fFrac_lt (f : FFmt) (b : Nat) : fFrac f b < 2 ^ f.fbits := Nat.mod_lt _ (Nat.two_pow_pos _)
theorem fSign_lt (f : FFmt) (b : Nat) : fSign f b < 2 := Nat.mod_lt _ (by decide)

theorem truncAbs_small {f : FFmt} (hb : 1 ≤ f.bias) {b : Nat} (he : fExp f b < f.bias) :
    floatTruncAbs f b = 0 := by
  rw [truncAbs_div]
  apply Nat.div_eq_of_lt
  have hm := fFrac_lt f b
  rw [Nat.pow_add]
  by_cases h0 : fExp f b = 0
  · rw [if_pos h0, if_pos h0, Nat.mul_comm]
    exact Nat.mul_lt_mul_of_le_of_lt (Nat.pow_le_pow_right (by decide) hb) hm (Nat.two_pow_pos _)
  · rw [if_neg h0, if_neg h0, Nat.mul_comm]
    calc 2 ^ fExp f b * (fFrac f b + 2 ^ f.fbits)
        < 2 ^ fExp f b * (2 * 2 ^ f.fbits) :=
          Nat.mul_lt_mul_of_pos_left (by omega) (Nat.two_pow_pos _)
      _ = 2 ^ (fExp f b + 1) * 2 ^ f.fbits := by rw [← Nat.mul_assoc, ← Nat.pow_succ]
      _ ≤ 2 ^ f.bias * 2 ^ f.fbits :=
          Nat.mul_le_mul_right _ (Nat.pow_le_pow_right (by decide) he)

theorem truncAbs_normal {f : FFmt} {b : Nat} (he : fExp f b ≠ 0) : floatTruncAbs f b =
    (fFrac f b + 2 ^ f.fbits) * 2 ^ fExp f b / 2 ^ (f.bias + f.fbits) := by
  rw [truncAbs_div, if_neg he, if_neg he]

theorem truncAbs_pos {f : FFmt} (hb : 1 ≤ f.bias) {b : Nat} (he : f.bias ≤ fExp f b) :
    floatTruncAbs f b ≠ 0 := by
  rw [truncAbs_normal (by omega)]
  apply Nat.pos_iff_ne_zero.mp
  apply Nat.div_pos _ (Nat.two_pow_pos _)
  rw [Nat.add_comm, Nat.pow_add]
  exact Nat.mul_le_mul (Nat.le_add_left _ _) (Nat.pow_le_pow_right (by decide) he)

theorem signBit_eq (f : FFmt) : f.signBit = 2 ^ f.ebits * 2 ^ f.fbits := Nat.pow_add _ _ _

theorem pack_fields (f : FFmt) {sg E fr : Nat} (hsg : sg < 2) (hE : E < 2 ^ f.ebits)
    (hfr : fr < 2 ^ f.fbits) :
    fSign f (sg * f.signBit + (E * 2 ^ f.fbits + fr)) = sg ∧
    fExp f (sg * f.signBit + (E * 2 ^ f.fbits + fr)) = E ∧
    fFrac f (sg * f.signBit + (E * 2 ^ f.fbits + fr)) = fr ∧
    sg * f.signBit + (E * 2 ^ f.fbits + fr) < 2 * f.signBit := by
  have hF : 0 < (2 : Nat) ^ f.fbits := Nat.two_pow_pos _
  have hbody : E * 2 ^ f.fbits + fr < f.signBit := by
    rw [signBit_eq]
    calc E * 2 ^ f.fbits + fr < E * 2 ^ f.fbits + 2 ^ f.fbits := Nat.add_lt_add_left hfr _
      _ = (E + 1) * 2 ^ f.fbits := (Nat.succ_mul _ _).symm
      _ ≤ 2 ^ f.ebits * 2 ^ f.fbits := Nat.mul_le_mul_right _ hE
  have hs : sg * f.signBit ≤ 1 * f.signBit := Nat.mul_le_mul_right _ (by omega)
  refine ⟨?_, ?_, ?_, by omega⟩
  · unfold fSign
    rw [Nat.mul_comm sg, Nat.mul_add_div (Nat.lt_of_le_of_lt (Nat.zero_le _) hbody),
      Nat.div_eq_of_lt hbody, Nat.add_zero, Nat.mod_eq_of_lt hsg]
  · unfold fExp
    rw [signBit_eq, ← Nat.mul_assoc, ← Nat.add_assoc, ← Nat.add_mul, Nat.mul_comm _ (2 ^ f.fbits),
      Nat.mul_add_div hF, Nat.div_eq_of_lt hfr, Nat.add_zero, Nat.mul_add_mod_self_right,
      Nat.mod_eq_of_lt hE]
  · unfold fFrac
    rw [signBit_eq, ← Nat.mul_assoc, ← Nat.add_assoc, ← Nat.add_mul, Nat.mul_comm _ (2 ^ f.fbits),
      Nat.mul_add_mod, Nat.mod_eq_of_lt hfr]

theorem fIsZero_of_exp {f : FFmt} {b : Nat} (he : fExp f b ≠ 0) : fIsZero f b = false := by
  unfold fIsZero
  rw [beq_eq_false_iff_ne]
  intro h
  apply he
  unfold fExp
  rw [← Nat.mod_mul_right_div_self, Nat.mul_comm, ← signBit_eq, h, Nat.zero_div]

theorem clear_low_div {b k j : Nat} (hk : k ≤ j) : b / 2 ^ k * 2 ^ k / 2 ^ j = b / 2 ^ j := by
  rw [pow2_split (Nat.sub_add_cancel hk), Nat.mul_div_mul_right _ _ (Nat.two_pow_pos _),
    Nat.div_div_eq_div_mul, Nat.mul_comm]

theorem clear_low_mod {b k j : Nat} (hk : k ≤ j) :
    b / 2 ^ k * 2 ^ k % 2 ^ j = b % 2 ^ j / 2 ^ k * 2 ^ k := by
  rw [pow2_split (Nat.sub_add_cancel hk), Nat.mul_mod_mul_right, Nat.mul_comm (2 ^ (j - k)),
    Nat.mod_mul_right_div_self]

theorem clear_low_add {m k j : Nat} (hk : k ≤ j) :
    (m / 2 ^ k * 2 ^ k + 2 ^ j) / 2 ^ k = (m + 2 ^ j) / 2 ^ k := by
  have hP : 0 < (2 : Nat) ^ k := Nat.two_pow_pos _
  rw [pow2_split (Nat.sub_add_cancel hk), ← Nat.add_mul, Nat.mul_div_cancel _ hP,
    Nat.add_mul_div_right _ _ hP]

/-- `trunc` keeps the sign and `⌊|x|⌋`, and yields `±0` exactly below the bias -/
theorem truncBits_spec {f : FFmt} (hb : 1 ≤ f.bias) (b : Nat) :
    fSign f (truncBits f b) = fSign f b ∧
    floatTruncAbs f (truncBits f b) = floatTruncAbs f b ∧
    fIsZero f (truncBits f b) = decide (fExp f b < f.bias) := by
  unfold truncBits
  dsimp only
  by_cases hs : fExp f b < f.bias
  · rw [if_pos hs, decide_eq_true hs]
    have hz : fSign f b * f.signBit = fSign f b * f.signBit + (0 * 2 ^ f.fbits + 0) := by simp
    obtain ⟨h1, h2, h3, _⟩ := pack_fields f (fSign_lt f b)
      (Nat.two_pow_pos _ : 0 < 2 ^ f.ebits) (Nat.two_pow_pos _ : 0 < 2 ^ f.fbits)
    rw [← hz] at h1 h2 h3
    refine ⟨h1, ?_, ?_⟩
    · rw [truncAbs_small hb hs, truncAbs_small hb (by rw [h2]; omega)]
    · unfold fIsZero; rw [Nat.mul_mod_left]; rfl
  · rw [if_neg hs, decide_eq_false hs]
    have he0 : fExp f b ≠ 0 := by omega
    by_cases hi : fExp f b - f.bias ≥ f.fbits
    · rw [if_pos hi]; exact ⟨rfl, rfl, fIsZero_of_exp he0⟩
    · rw [if_neg hi]
      -- the `k = bias + fbits − e` fraction bits below the binary point are cleared
      have hoff : f.bias + f.fbits = f.fbits - (fExp f b - f.bias) + fExp f b := by omega
      have hkF : f.fbits - (fExp f b - f.bias) ≤ f.fbits := Nat.sub_le _ _
      generalize f.fbits - (fExp f b - f.bias) = k at hoff hkF ⊢
      have hE : fExp f (b / 2 ^ k * 2 ^ k) = fExp f b := by unfold fExp; rw [clear_low_div hkF]
      have hM : fFrac f (b / 2 ^ k * 2 ^ k) = fFrac f b / 2 ^ k * 2 ^ k := clear_low_mod hkF
      have hP : 0 < (2 : Nat) ^ fExp f b := Nat.two_pow_pos _
      refine ⟨?_, ?_, fIsZero_of_exp (by rw [hE]; exact he0)⟩
      · unfold fSign FFmt.signBit; rw [clear_low_div (Nat.le_trans hkF (Nat.le_add_left _ _))]
      · rw [truncAbs_normal (by rw [hE]; exact he0), truncAbs_normal he0, hE, hM, hoff, Nat.pow_add,
          Nat.mul_div_mul_right _ _ hP, Nat.mul_div_mul_right _ _ hP, clear_low_add hkF]

/-- the tail of `from_f64`: `mantissa · 2^(expo − 1075)` truncated -/
theorem fromDecoded_spec (mant expo : Nat) (neg : Bool) :
    U.fromDecoded mant expo neg =
      if neg then none else some (ofNat (mant * 2 ^ expo / 2 ^ (f64.bias + f64.fbits))) := by
  unfold U.fromDecoded
  cases neg
  · simp only [Bool.false_eq_true, if_false, fromU64_eq_ofNat, ofNat_val]
    rw [← shift_eq_div]
    rcases Nat.lt_trichotomy expo (f64.bias + f64.fbits) with c | c | c
    · rw [Nat.compare_eq_lt.mpr c, if_neg (by omega)]
    · rw [Nat.compare_eq_eq.mpr c, if_pos (by omega), c, Nat.sub_self, Nat.pow_zero, Nat.mul_one]
    · rw [Nat.compare_eq_gt.mpr c, if_pos (by omega)]
  · rfl

/-- `integer_decode` followed by the shift is the truncated magnitude, `None` under a set sign bit -/
theorem fromDecoded_decode (n : Nat) :
    U.fromDecoded (integerDecode f64 n).1 (integerDecode f64 n).2.1 (integerDecode f64 n).2.2 =
      if fSign f64 n = 1 then none else some (ofNat (floatTruncAbs f64 n)) := by
  rw [fromDecoded_spec, truncAbs_div]
  show (if (fSign f64 n != 0) = true then none else some (ofNat
    ((if fExp f64 n = 0 then fFrac f64 n * 2 else fFrac f64 n + 2 ^ f64.fbits) * 2 ^ fExp f64 n / _))) = _
  have hm : (if fExp f64 n = 0 then fFrac f64 n * 2 else fFrac f64 n + 2 ^ f64.fbits) * 2 ^ fExp f64 n =
      (if fExp f64 n = 0 then fFrac f64 n else fFrac f64 n + 2 ^ f64.fbits) *
        2 ^ (if fExp f64 n = 0 then 1 else fExp f64 n) := by
    by_cases h0 : fExp f64 n = 0
    · rw [if_pos h0, if_pos h0, if_pos h0, h0, Nat.pow_zero, Nat.mul_one, Nat.pow_one]
    · rw [if_neg h0, if_neg h0, if_neg h0]
  rw [hm]
  have hs := fSign_lt f64 n
  by_cases h1 : fSign f64 n = 1
  · rw [if_pos h1, h1]; rfl
  · rw [if_neg h1, show fSign f64 n = 0 by omega]; rfl

theorem fields_add_signBit (f : FFmt) (b : Nat) :
    fExp f (b + f.signBit) = fExp f b ∧ fFrac f (b + f.signBit) = fFrac f b ∧
    fSign f (b + f.signBit) = (fSign f b + 1) % 2 := by
  have hS : 0 < f.signBit := Nat.two_pow_pos _
  refine ⟨?_, ?_, ?_⟩
  · unfold fExp
    rw [signBit_eq, Nat.add_mul_div_right _ _ (Nat.two_pow_pos _), Nat.add_mod_right]
  · unfold fFrac; rw [signBit_eq, Nat.add_mul_mod_self_right]
  · unfold fSign; rw [Nat.add_div_right _ hS, Nat.add_mod]

theorem fNeg_fields (f : FFmt) (b : Nat) :
    fExp f (fNeg f b) = fExp f b ∧ fFrac f (fNeg f b) = fFrac f b ∧
    fSign f (fNeg f b) = 1 - fSign f b := by
  have hlt := fSign_lt f b
  unfold fNeg
  by_cases hs : fSign f b = 1
  · have hge : f.signBit ≤ b := by
      apply Nat.le_of_not_lt; intro c
      rw [fSign, Nat.div_eq_of_lt c] at hs; exact absurd hs (by decide)
    obtain ⟨h1, h2, h3⟩ := fields_add_signBit f (b - f.signBit)
    rw [Nat.sub_add_cancel hge] at h1 h2 h3
    have := fSign_lt f (b - f.signBit)
    rw [if_pos hs]
    exact ⟨h1.symm, h2.symm, by omega⟩
  · obtain ⟨h1, h2, h3⟩ := fields_add_signBit f b
    rw [if_neg hs]
    exact ⟨h1, h2, by omega⟩

/-- specification of `BigInt::from_f64/from_f32`: `None` for NaN/±∞, otherwise the value truncated
    toward zero -/
def fromFloatSpecI (f : FFmt) (b : Nat) : Option BigInt :=
  if fExp f b = f.expAll then none
  else some (BigInt.ofInt (if fSign f b = 1 then -(floatTruncAbs f b : Int) else (floatTruncAbs f b : Int)))

theorem f32_expAll : f32.expAll = 255 := by decide

theorem truncAbs32_eq (b : Nat) : floatTruncAbs f32 b =
    (if 150 ≤ (if b / 2 ^ 23 % 256 = 0 then 1 else b / 2 ^ 23 % 256) then
      (if b / 2 ^ 23 % 256 = 0 then b % 2 ^ 23 else b % 2 ^ 23 + 2 ^ 23) *
        2 ^ ((if b / 2 ^ 23 % 256 = 0 then 1 else b / 2 ^ 23 % 256) - 150)
    else (if b / 2 ^ 23 % 256 = 0 then b % 2 ^ 23 else b % 2 ^ 23 + 2 ^ 23) /
        2 ^ (150 - (if b / 2 ^ 23 % 256 = 0 then 1 else b / 2 ^ 23 % 256))) := rfl

theorem subnormal_frac {m : Nat} (hm0 : m ≠ 0) (hm : m < 2 ^ 23) :
    bitLen m ≤ 23 ∧ m * 2 ^ (f64.fbits + 1 - bitLen m) - 2 ^ f64.fbits < 2 ^ f64.fbits := by
  show _ ∧ m * 2 ^ (52 + 1 - bitLen m) - 2 ^ 52 < 2 ^ 52
  have h2 : bitLen m ≤ 23 := bitLen_le_iff.mpr hm
  obtain ⟨_, hi⟩ := bitLen_bounds hm0
  have e : (2 : Nat) ^ 53 = 2 ^ bitLen m * 2 ^ (52 + 1 - bitLen m) := pow2_split (by omega)
  have := Nat.mul_lt_mul_of_pos_right hi (Nat.pow_pos (n := 52 + 1 - bitLen m) (by decide : 0 < 2))
  rw [← e] at this
  exact ⟨h2, by omega⟩

theorem scale_div (x a c d : Nat) : x * 2 ^ (a + d) / 2 ^ (c + d) = x * 2 ^ a / 2 ^ c := by
  rw [Nat.pow_add, Nat.pow_add, ← Nat.mul_assoc, Nat.mul_div_mul_right _ _ (Nat.two_pow_pos _)]

/-- `f64::from(x: f32)` keeps the class (finite or not), the sign and `⌊|x|⌋` -/
theorem f32ToF64_fields (b : Nat) :
    (fExp f64 (f32ToF64 b) = f64.expAll ↔ fExp f32 b = f32.expAll) ∧
    fSign f64 (f32ToF64 b) = fSign f32 b ∧
    (fExp f32 b ≠ f32.expAll → floatTruncAbs f64 (f32ToF64 b) = floatTruncAbs f32 b) := by
  have hs := fSign_lt f32 b
  have hm : fFrac f32 b < 2 ^ 23 := fFrac_lt f32 b
  have he : fExp f32 b < 256 := Nat.mod_lt _ (by decide)
  have hT := truncAbs_div f32 b
  unfold f32ToF64
  dsimp only
  generalize fSign f32 b = s at hs ⊢
  generalize fFrac f32 b = m at hm hT ⊢
  generalize fExp f32 b = e at he hT ⊢
  rw [f32_expAll, f64_expAll]
  by_cases h255 : e = 255
  · have hx : (if m = 0 then 0 else m * 2 ^ (f64.fbits - f32.fbits) ||| 2 ^ (f64.fbits - 1)) <
        2 ^ f64.fbits := by
      split
      · exact Nat.two_pow_pos _
      · exact Nat.or_lt_two_pow (show m * 2 ^ 29 < 2 ^ 52 by omega) (by decide)
    obtain ⟨h1, h2, _, _⟩ := pack_fields f64 hs (show 2047 < 2 ^ f64.ebits by decide) hx
    rw [if_pos h255, show f64.infBits = 2047 * 2 ^ f64.fbits by rw [FFmt.infBits, f64_expAll]]
    exact ⟨⟨fun _ => h255, fun _ => h2⟩, h1, fun c => absurd h255 c⟩
  · rw [if_neg h255]
    have hsmall32 : e = 0 → floatTruncAbs f32 b = 0 := by
      intro h0; rw [hT, if_pos h0, if_pos h0, show f32.bias + f32.fbits = 150 from rfl]
      exact Nat.div_eq_of_lt (show m * 2 ^ 1 < 2 ^ 150 by
        have : (2 : Nat) ^ 24 ≤ 2 ^ 150 := Nat.pow_le_pow_right (by decide) (by decide)
        omega)
    by_cases h0 : e = 0
    · rw [if_pos h0]
      by_cases hm0 : m = 0
      · rw [if_pos hm0]
        obtain ⟨h1, h2, _, _⟩ := pack_fields f64 hs (E := 0) (fr := 0) (Nat.two_pow_pos _)
          (Nat.two_pow_pos _)
        rw [Nat.zero_mul, Nat.zero_add] at h1 h2
        rw [h1, h2, hsmall32 h0, truncAbs_small (by decide) (by rw [h2]; decide)]
        exact ⟨⟨fun c => absurd c (by omega), fun c => absurd c h255⟩, rfl, fun _ => rfl⟩
      · rw [if_neg hm0]
        obtain ⟨hn, hfr⟩ := subnormal_frac hm0 hm
        have hE : bitLen m - 1 + (f64.bias + 1) - (f32.bias + f32.fbits) < f64.bias :=
          show bitLen m - 1 + (1023 + 1) - 150 < 1023 by omega
        obtain ⟨h1, h2, _, _⟩ := pack_fields f64 hs
          (Nat.lt_trans hE (show f64.bias < 2 ^ f64.ebits by decide)) hfr
        refine ⟨⟨fun c => ?_, fun c => absurd c h255⟩, h1, fun _ => ?_⟩
        · rw [h2] at c; rw [c] at hE; exact absurd hE (by decide)
        · rw [hsmall32 h0, truncAbs_small (by decide) (by rw [h2]; exact hE)]
    · rw [if_neg h0]
      have hfr : m * 2 ^ (f64.fbits - f32.fbits) < 2 ^ f64.fbits := show m * 2 ^ 29 < 2 ^ 52 by omega
      have hE : e + (f64.bias - f32.bias) < 2 ^ f64.ebits := show e + 896 < 2048 by omega
      obtain ⟨h1, h2, h3, _⟩ := pack_fields f64 hs hE hfr
      refine ⟨⟨fun c => ?_, fun c => absurd c h255⟩, h1, fun _ => ?_⟩
      · rw [h2] at c; exact absurd (show e + 896 = 2047 from c) (by omega)
      · -- `(m + 2^23)·2^29 · 2^(e + 896) / 2^1075 = (m + 2^23)·2^e / 2^150`
        have hE0 : e + (f64.bias - f32.bias) ≠ 0 :=
          Nat.ne_of_gt (Nat.lt_of_lt_of_le (by decide) (Nat.le_add_left _ _))
        rw [truncAbs_normal (by rw [h2]; exact hE0), h2, h3, hT, if_neg h0, if_neg h0,
          show f64.bias + f64.fbits = 150 + 925 from rfl, show f32.bias + f32.fbits = 150 from rfl]
        show (m * 2 ^ 29 + 2 ^ 52) * 2 ^ (e + 896) / 2 ^ (150 + 925) = (m + 2 ^ 23) * 2 ^ e / 2 ^ 150
        rw [show m * 2 ^ 29 + 2 ^ 52 = (m + 2 ^ 23) * 2 ^ 29 by omega, Nat.mul_assoc, ← Nat.pow_add,
          show 29 + (e + 896) = e + 925 by omega]
        exact scale_div _ e 150 925

end NB.Conv
