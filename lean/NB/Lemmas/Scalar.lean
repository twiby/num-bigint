/- helper lemmas for C10: scalar types and casts, `VInt` normal forms, digit counts, trailing zeros, the pow loops -/
import NB.Model.Scalar
import NB.Lemmas.Base
import NB.Lemmas.Canon
import Mathlib.Tactic.Ring
namespace NB

/-!
Everything about the twelve types that the proofs need is in the few facts of `namespace STy` below
(a width `modulus = 2 * half`, a signedness, how `unsignedOf` and `promo` act on the two).  `promo_idem` apart,
nothing after them splits over the types: the cast lemmas hold for a type variable. -/

namespace SD

/-- the bound of an unsigned leaf scalar type as used by `dAddAssign_spec` & co. -/
abbrev bound (t : STy) : Nat := if t = .u128 then B * B else B

end SD

namespace STy

theorem modulus_eq (t : STy) : t.modulus = 2 * t.half := by cases t <;> rfl

theorem half_pos (t : STy) : 0 < t.half := by cases t <;> decide

theorem unsignedOf_signed (t : STy) : t.unsignedOf.signed = false := by cases t <;> rfl

theorem unsignedOf_modulus (t : STy) : t.unsignedOf.modulus = t.modulus := by cases t <;> rfl

theorem half_le_promo (t : STy) : t.half ≤ t.promo.half := by cases t <;> decide

/-- an unsigned scalar fits one digit, `u128` two -/
theorem modulus_le_bound (t : STy) (ht : t.signed = false) :
    t.modulus ≤ (SD.bound t : Int) := by
  cases t <;> first | decide | cases ht

theorem inRange_signed {t : STy} (ht : t.signed = true) (v : Int) :
    t.InRange v ↔ -t.half ≤ v ∧ v < t.half := by
  simp only [InRange, lo, hi, ht, if_true]; omega

theorem inRange_unsigned {t : STy} (ht : t.signed = false) (v : Int) :
    t.InRange v ↔ 0 ≤ v ∧ v < t.modulus := by
  simp only [InRange, lo, hi, ht, Bool.false_eq_true, if_false]; omega

theorem lo_nonpos (t : STy) : t.lo ≤ 0 := by
  have := t.half_pos
  unfold lo; split <;> omega

theorem hi_nonneg (t : STy) : 0 ≤ t.hi := by
  have := t.modulus_eq; have := t.half_pos
  unfold hi; split <;> omega

/-- `|MIN| = MAX + 1` is the largest magnitude of a type -/
theorem natAbs_le_of_inRange {t : STy} {v : Int} (h : t.InRange v) : (v.natAbs : Int) ≤ t.hi + 1 := by
  have := t.modulus_eq
  cases ht : t.signed <;>
    simp only [InRange, lo, hi, ht, Bool.false_eq_true, if_false, if_true] at h ⊢ <;> omega

theorem promo_signed (t : STy) : t.promo.signed = t.signed := by cases t <;> rfl

end STy

theorem promo_idem (t : STy) : t.promo.promo = t.promo := by cases t <;> rfl

theorem castTo_unsigned {t : STy} (ht : t.signed = false) (v : Int) : castTo t v = v % t.modulus := by
  simp only [castTo, ht, Bool.false_eq_true, if_false]

/-- a cast changes its argument by a multiple of the width `t.modulus` of the type -/
theorem castTo_emod (t : STy) (v : Int) : castTo t v % t.modulus = v % t.modulus := by
  unfold castTo
  split
  · rw [Int.emod_sub_emod, Int.add_sub_cancel]
  · exact Int.emod_emod _ _

theorem castTo_id (t : STy) (v : Int) (h : t.InRange v) : castTo t v = v := by
  have hm := t.modulus_eq
  unfold castTo
  cases ht : t.signed
  · rw [STy.inRange_unsigned ht] at h
    simp only [Bool.false_eq_true, if_false]; exact Int.emod_eq_of_lt h.1 h.2
  · rw [STy.inRange_signed ht] at h
    simp only [if_true]
    rw [Int.emod_eq_of_lt (by omega) (by omega)]; omega

/-- `(x as iN) as uN = x as uN`: the two types have the same width -/
theorem castTo_unsignedOf_castTo (t : STy) (x : Int) :
    castTo t.unsignedOf (castTo t x) = castTo t.unsignedOf x := by
  rw [castTo_unsigned t.unsignedOf_signed, castTo_unsigned t.unsignedOf_signed, STy.unsignedOf_modulus,
    castTo_emod]

theorem inRange_promo (t : STy) (v : Int) (h : t.InRange v) : t.promo.InRange v := by
  have h1 := t.half_le_promo
  have h2 := t.modulus_eq
  have h3 := t.promo.modulus_eq
  cases ht : t.signed <;>
    simp only [STy.InRange, STy.lo, STy.hi, STy.promo_signed, ht, Bool.false_eq_true, if_false, if_true] at h ⊢ <;>
    omega

theorem inRange_unsigned_nonneg (t : STy) (v : Int) (ht : t.signed = false) (h : t.InRange v) : 0 ≤ v :=
  ((STy.inRange_unsigned ht v).1 h).1

theorem toNat_lt_bound (t : STy) (ht : t.signed = false) (v : Int) (h : t.InRange v) :
    v.toNat < SD.bound t := by
  have := t.modulus_le_bound ht
  rw [STy.inRange_unsigned ht] at h
  omega

def Sign.toInt : Sign → Int
  | .minus => -1 | .nosign => 0 | .plus => 1

namespace VInt

theorem ofInt_val (i : Int) : (ofInt i).val = i := by
  unfold ofInt
  by_cases h1 : i < 0
  · simp only [h1, if_true, val]; omega
  · by_cases h2 : i = 0
    · subst h2; simp [val]
    · simp only [h1, h2, if_false, val]; omega

theorem ofInt_canon (i : Int) : (ofInt i).Canon := by
  unfold ofInt Canon
  by_cases h1 : i < 0
  · simp only [h1, if_true]; simp; omega
  · by_cases h2 : i = 0
    · subst h2; simp
    · simp only [h1, h2, if_false]; simp; omega

theorem canon_eq_ofInt {x : VInt} (hc : x.Canon) : x = ofInt x.val := by
  obtain ⟨s, m⟩ := x
  cases s <;> simp [Canon] at hc <;> simp [val, ofInt, hc]

theorem zero_eq : zero = ofInt 0 := by simp [zero, ofInt]

theorem fromNat_eq (n : Nat) : fromNat n = ofInt (n : Int) := by
  unfold fromNat ofInt zero
  by_cases h : n = 0
  · simp [h]
  · have : ¬ ((n : Int) < 0) := by omega
    simp [h, this]

theorem neg_ofInt (i : Int) : (ofInt i).neg = ofInt (-i) := by
  unfold ofInt neg
  rcases Int.lt_trichotomy i 0 with h | h | h
  · rw [if_pos h, if_neg (by omega), if_neg (by omega), Int.natAbs_neg]; rfl
  · subst h; rfl
  · rw [if_neg (by omega), if_neg (by omega), if_pos (by omega), Int.natAbs_neg]; rfl

theorem fromBiguint_plus (m : Nat) : fromBiguint .plus m = ofInt (m : Int) := by
  unfold fromBiguint
  rw [← fromNat_eq]; unfold fromNat
  simp

theorem fromBiguint_minus (m : Nat) : fromBiguint .minus m = ofInt (-(m : Int)) := by
  unfold fromBiguint ofInt zero
  by_cases h : m = 0 <;> simp [h]

theorem fromBiguint_nosign (m : Nat) : fromBiguint .nosign m = ofInt 0 := by
  simp [fromBiguint, zero, ofInt]

/-- `from_biguint(sign, m)` denotes `sign * m` -/
theorem fromBiguint_eq (a : VInt) (ha : a.Canon) (m : Nat) (c : Int)
    (h : a.val * c = match a.sign with | .minus => -(m : Int) | .nosign => 0 | .plus => (m : Int)) :
    fromBiguint a.sign m = ofInt (a.val * c) := by
  obtain ⟨s, k⟩ := a
  cases s <;> dsimp only at h ⊢
  · rw [fromBiguint_minus, h]
  · rw [fromBiguint_nosign, h]
  · rw [fromBiguint_plus, h]

theorem val_eq_toInt (a : VInt) : a.val = a.sign.toInt * a.mag := by
  obtain ⟨s, m⟩ := a
  cases s <;> simp [val, Sign.toInt]

theorem fromBiguint_toInt (s : Sign) (n : Nat) : fromBiguint s n = ofInt (s.toInt * n) := by
  cases s
  · rw [fromBiguint_minus]; simp [Sign.toInt]
  · rw [fromBiguint_nosign]; simp [Sign.toInt]
  · rw [fromBiguint_plus]; simp [Sign.toInt]

theorem neg_toInt (s : Sign) : s.neg.toInt = - s.toInt := by cases s <;> simp [Sign.neg, Sign.toInt]

theorem neg_val (a : VInt) : a.neg.val = - a.val := by
  rw [val_eq_toInt, val_eq_toInt]; simp [neg, neg_toInt]

theorem neg_canon {a : VInt} (h : a.Canon) : a.neg.Canon := by
  unfold Canon neg at *
  simp only
  rw [← h]
  cases a.sign <;> simp [Sign.neg]

/-- a record whose sign is NoSign exactly for magnitude 0 is what `from_biguint` builds -/
theorem mk_eq_fromBiguint (sg : Sign) (n : Nat) (h : sg = .nosign ↔ n = 0) :
    (⟨sg, n⟩ : VInt) = fromBiguint sg n := by
  unfold fromBiguint zero
  by_cases h1 : sg = .nosign
  · have := h.1 h1; subst this; subst h1; simp
  · have : n ≠ 0 := fun e => h1 (h.2 e)
    simp [h1, this]

/-- the `if self.data.is_zero() { self.sign = NoSign }` idiom of the assign impls -/
theorem assign_eq_fromBiguint (sg : Sign) (n : Nat) (h : sg = .nosign → n = 0) :
    (if n = 0 then (⟨.nosign, n⟩ : VInt) else ⟨sg, n⟩) = fromBiguint sg n := by
  unfold fromBiguint zero
  by_cases h0 : n = 0
  · subst h0; simp
  · have : sg ≠ .nosign := fun e => h0 (h e)
    simp [h0, this]

theorem val_eq_zero_iff {a : VInt} (ha : a.Canon) : a.val = 0 ↔ a.mag = 0 := by
  obtain ⟨s, m⟩ := a
  cases s
  · simp [val]
  · simpa [val, Canon] using ha
  · simp [val]

end VInt

/-- `nd` is the length in base `B`: at most `n` digits iff below `B ^ n` -/
theorem nd_le_iff (a n : Nat) : nd a ≤ n ↔ a < B ^ n := by
  unfold nd
  have hv := ofNat_val a
  have hc := ofNat_canon a
  constructor
  · intro h
    rw [← hv]; exact lt_of_lt_of_le (val_lt hc.1) (Nat.pow_le_pow_right B_pos h)
  · intro h
    by_contra hn
    have hne : ofNat a ≠ [] := by intro e; rw [e] at hn; exact hn (Nat.zero_le n)
    have := canon_val_ge hc hne
    rw [hv] at this
    exact absurd h (Nat.not_lt.2 (le_trans (Nat.pow_le_pow_right B_pos (by omega)) this))

theorem nd_zero_iff (a : Nat) : nd a = 0 ↔ a = 0 := by
  rw [← Nat.le_zero, nd_le_iff, Nat.pow_zero, Nat.lt_one_iff]

theorem nd_one (a : Nat) (h : nd a = 1) : 0 < a ∧ a < B := by
  refine ⟨Nat.pos_of_ne_zero fun e => ?_, by simpa using (nd_le_iff a 1).1 h.le⟩
  rw [(nd_zero_iff a).2 e] at h; cases h

theorem nd_ge_two (a : Nat) (h : 2 ≤ nd a) : B ≤ a := by
  have := mt (nd_le_iff a 1).2 (by omega)
  simpa using this

theorem nd_ge_three (a : Nat) (h : 3 ≤ nd a) : B * B ≤ a := by
  have := mt (nd_le_iff a 2).2 (by omega)
  rwa [Nat.pow_two, Nat.not_lt] at this

theorem tz_spec : ∀ (m : Nat), 0 < m → ∀ k, (tz m < k ↔ ¬ (2 ^ k ∣ m)) := by
  intro m
  induction m using Nat.strong_induction_on with
  | _ m ih =>
    intro hm k
    rw [tz, dif_neg (Nat.ne_of_gt hm)]
    cases k with
    | zero => simp
    | succ k =>
      split
      · rename_i ho
        simp only [Nat.zero_lt_succ, true_iff]
        intro hd
        have : 2 ∣ m := Dvd.dvd.trans (Dvd.intro_left (2 ^ k) rfl) hd
        rw [Nat.mod_eq_zero_of_dvd this] at ho
        exact absurd ho (by decide)
      · rename_i ho
        have hm' : 2 * (m / 2) = m := Nat.mul_div_cancel' (Nat.dvd_of_mod_eq_zero (Nat.mod_two_ne_one.1 ho))
        have hpos : 0 < m / 2 := Nat.pos_of_ne_zero fun h0 => by rw [h0] at hm'; omega
        rw [Nat.succ_lt_succ_iff, ih (m / 2) (Nat.div_lt_self hm (by decide)) hpos k]
        conv_rhs => rw [← hm', pow_succ, Nat.mul_comm, Nat.mul_dvd_mul_iff_left (by decide)]

theorem powStrip_spec : ∀ (e b : Nat), e ≠ 0 →
    (powStrip b e).1 ^ (powStrip b e).2 = b ^ e ∧ (powStrip b e).2 % 2 = 1 := by
  intro e
  induction e using Nat.strong_induction_on with
  | _ e ih =>
    intro b he
    rw [powStrip]
    split
    · rename_i h
      have h2e : 2 * (e / 2) = e := Nat.mul_div_cancel' (Nat.dvd_of_mod_eq_zero h.2)
      obtain ⟨h1, h2⟩ := ih (e / 2) (Nat.div_lt_self (Nat.pos_of_ne_zero he) (by decide)) (b * b)
        (fun h0 => he (by rw [← h2e, h0]))
      refine ⟨?_, h2⟩
      rw [h1, ← pow_two, ← pow_mul, h2e]
    · rename_i h
      exact ⟨rfl, Nat.mod_two_ne_zero.1 fun h0 => h ⟨he, h0⟩⟩

theorem powAcc_spec : ∀ (e b acc : Nat), powAcc b e acc = acc * b ^ (2 * (e / 2)) := by
  intro e
  induction e using Nat.strong_induction_on with
  | _ e ih =>
    intro b acc
    rw [powAcc]
    split
    · rename_i h
      rw [ih (e / 2) (Nat.div_lt_self (Nat.lt_trans Nat.zero_lt_one h) (by decide)), ← pow_two, ← pow_mul]
      have hd := Nat.div_add_mod (e / 2) 2
      generalize e / 2 / 2 = q at hd ⊢
      split
      · rename_i ho
        rw [ho] at hd
        rw [Nat.mul_assoc, ← pow_add, ← hd, Nat.mul_add, Nat.add_comm]
      · rename_i ho
        rw [Nat.mod_two_ne_one.1 ho, Nat.add_zero] at hd
        rw [hd]
    · rename_i h
      rw [Nat.div_eq_of_lt (Nat.lt_succ_of_le (Nat.not_lt.1 h)), Nat.mul_zero, Nat.pow_zero, Nat.mul_one]

theorem powPrim_spec (x e : Nat) : powPrim x e = x ^ e := by
  unfold powPrim
  by_cases he : e = 0
  · simp [he]
  · simp only [he, if_false]
    obtain ⟨h1, h2⟩ := powStrip_spec e x he
    generalize powStrip x e = r at *
    by_cases hr : r.2 = 1
    · simp only [hr, if_true]; rw [← h1, hr]; simp
    · simp only [hr, if_false]
      rw [powAcc_spec, ← h1]
      have : r.2 = 2 * (r.2 / 2) + 1 := by omega
      conv_rhs => rw [this]
      rw [pow_succ]; ring

theorem cmpNat_cases (m u : Nat) :
    (m < u ∧ cmpNat m u = .lt) ∨ (m = u ∧ cmpNat m u = .eq) ∨ (u < m ∧ cmpNat m u = .gt) := by
  unfold cmpNat
  rcases Nat.lt_trichotomy m u with h | h | h
  · exact .inl ⟨h, if_pos h⟩
  · exact .inr (.inl ⟨h, by rw [if_neg (by omega), if_pos h]⟩)
  · exact .inr (.inr ⟨h, by rw [if_neg (by omega), if_neg (by omega)]⟩)

theorem tmod_of_natAbs_le {s : Int} {a : Nat} (h : s.natAbs ≤ a) :
    Int.tmod s a = if s.natAbs = a then 0 else s := by
  split
  · rename_i e; rw [← e]; exact Int.tmod_eq_zero_of_dvd (Int.natAbs_dvd.2 (dvd_refl s))
  · have hlt : s.natAbs < a := by omega
    obtain ⟨n, rfl | rfl⟩ := s.eq_nat_or_neg <;> simp only [Int.natAbs_neg, Int.natAbs_natCast] at hlt
    · rw [← Int.ofNat_tmod, Nat.mod_eq_of_lt hlt]
    · rw [Int.neg_tmod, ← Int.ofNat_tmod, Nat.mod_eq_of_lt hlt]

theorem tdiv_sign (s : Sign) (m u : Nat) : Int.tdiv (s.toInt * m) u = s.toInt * ↑(m / u) := by
  cases s <;> simp only [Sign.toInt]
  · rw [neg_one_mul, neg_one_mul, Int.neg_tdiv, Int.ofNat_tdiv]
  · simp
  · rw [one_mul, one_mul, Int.ofNat_tdiv]

theorem tmod_sign (s : Sign) (m u : Nat) : Int.tmod (s.toInt * m) u = s.toInt * ↑(m % u) := by
  cases s <;> simp only [Sign.toInt]
  · rw [neg_one_mul, neg_one_mul, Int.neg_tmod, Int.ofNat_tmod]
  · simp
  · rw [one_mul, one_mul, Int.ofNat_tmod]

theorem tdiv_sign_right (s : Sign) (u m : Nat) : Int.tdiv u (s.toInt * m) = s.toInt * ↑(u / m) := by
  cases s <;> simp only [Sign.toInt]
  · rw [neg_one_mul, neg_one_mul, Int.tdiv_neg, Int.ofNat_tdiv]
  · simp
  · rw [one_mul, one_mul, Int.ofNat_tdiv]

theorem tmod_sign_right (s : Sign) (u m : Nat) (h : s ≠ .nosign) : Int.tmod u (s.toInt * m) = ↑(u % m) := by
  cases s <;> simp only [Sign.toInt]
  · rw [neg_one_mul, Int.tmod_neg, Int.ofNat_tmod]
  · exact absurd rfl h
  · rw [one_mul, Int.ofNat_tmod]

theorem neg_mk (a : VInt) : (⟨a.sign.neg, a.mag⟩ : VInt) = a.neg := rfl

/-- `from_biguint(sign, ·)` after an operation that fails or returns a magnitude -/
theorem map_fromBiguint_ite {c : Prop} [Decidable c] (e : Panic) (sg : Sign) (n : Nat) :
    (if c then Except.error e else .ok n).map (VInt.fromBiguint sg)
      = if c then .error e else .ok (VInt.ofInt (sg.toInt * n)) := by
  split
  · rfl
  · exact congrArg _ (VInt.fromBiguint_toInt sg n)

/-- the `is_zero → NoSign` tail of the assign impls is `from_biguint` when a zero magnitude stays zero -/
theorem map_assign_eq {a : VInt} (ha : a.Canon) {c : Prop} [Decidable c] (e : Panic) {n : Nat}
    (hn : a.mag = 0 → n = 0) :
    (if c then Except.error e else .ok n).map (fun m => if m = 0 then (⟨.nosign, m⟩ : VInt) else ⟨a.sign, m⟩)
      = (if c then Except.error e else .ok n).map (VInt.fromBiguint a.sign) := by
  split
  · rfl
  · exact congrArg _ (VInt.assign_eq_fromBiguint _ _ (fun hs => hn (ha.1 hs)))

theorem sign_mul_toInt (s t : Sign) : (s.mul t).toInt = s.toInt * t.toInt := by
  cases s <;> cases t <;> rfl

theorem vint_mul_spec (a b : VInt) : VInt.mul a b = VInt.ofInt (a.val * b.val) := by
  unfold VInt.mul
  rw [VInt.fromBiguint_toInt, sign_mul_toInt, VInt.val_eq_toInt, VInt.val_eq_toInt]
  congr 1; push_cast; ring

theorem foldl_ofInt {f : VInt → VInt → VInt} {g : Int → Int → Int}
    (h : ∀ i x, f (VInt.ofInt i) x = VInt.ofInt (g i x.val)) (xs : List VInt) (i : Int) :
    xs.foldl f (VInt.ofInt i) = VInt.ofInt ((xs.map VInt.val).foldl g i) := by
  induction xs generalizing i with
  | nil => rfl
  | cons x xs ih => rw [List.foldl_cons, h, ih]; rfl

theorem val_padTo (n : Nat) (a : List Nat) : val (padToN n a) = val a := by
  unfold padToN; rw [val_append, val_replicate_zero]; simp

theorem digitsOk_padTo (n : Nat) {a : List Nat} (h : DigitsOk a) : DigitsOk (padToN n a) :=
  h.append (digitsOk_replicate_zero _)

theorem length_padTo (n : Nat) (a : List Nat) : (padToN n a).length = max n a.length := by
  unfold padToN; rw [List.length_append, List.length_replicate]; omega

/-- the digit slice `&[lo, hi]` of a double-digit scalar -/
theorem two_digits_ok {s : Nat} (hs : s < B * B) : DigitsOk [s % B, s / B] :=
  DigitsOk.cons (Nat.mod_lt _ B_pos) (DigitsOk.cons (Nat.div_lt_of_lt_mul hs) DigitsOk.nil)

theorem two_digits_val (s : Nat) : val [s % B, s / B] = s := by
  simp only [val, Nat.mul_zero, Nat.add_zero]; exact Nat.mod_add_div s B

theorem one_digit_ok {s : Nat} (hs : s < B) : DigitsOk [s] := DigitsOk.cons hs DigitsOk.nil

theorem tdiv_sign_both (s t : Sign) (m n : Nat) :
    Int.tdiv (s.toInt * m) (t.toInt * n) = (s.mul t).toInt * ↑(m / n) := by
  rw [sign_mul_toInt]
  cases t
  · rw [show Sign.toInt .minus = -1 from rfl, neg_one_mul, Int.tdiv_neg, tdiv_sign]; ring
  · simp [Sign.toInt]
  · rw [show Sign.toInt .plus = 1 from rfl, one_mul, tdiv_sign]; ring

theorem tmod_sign_both (s t : Sign) (m n : Nat) (ht : t ≠ .nosign) :
    Int.tmod (s.toInt * m) (t.toInt * n) = s.toInt * ↑(m % n) := by
  cases t
  · rw [show Sign.toInt .minus = -1 from rfl, neg_one_mul, Int.tmod_neg, tmod_sign]
  · exact absurd rfl ht
  · rw [show Sign.toInt .plus = 1 from rfl, one_mul, tmod_sign]

end NB
