/- The digit chains of addition and subtraction.  `adcZip`/`sbbZip` and `adcProp`/`sbbProp` (NB.Model.AddSub) are the
   same recursion over different digit operations.  Over the integers both operations satisfy
   `out + s·B·carry' = a + s·(b + carry)` with `s = 1` for `adc` and `s = -1` for `sbb`, so exactness of the chains
   is proved once, for every such operation (`zipC_spec`, `propC_spec`, `zipC_propC_spec`); `__add2` and `sub2`
   are instances. -/
import NB.Lemmas.Base
import NB.Model.AddSub
namespace NB

theorem adc_spec {c a b : Nat} (ha : a < B) (hb : b < B) (hc : c ≤ 1) :
    (adc c a b).1 + B * (adc c a b).2 = a + b + c ∧ (adc c a b).1 < B ∧ (adc c a b).2 ≤ 1 := by
  unfold adc
  refine ⟨Nat.mod_add_div _ _, Nat.mod_lt _ B_pos, ?_⟩
  have : a + b + c < 2 * B := by omega
  have := (Nat.div_lt_iff_lt_mul B_pos).mpr this
  omega

theorem sbb_spec {c a b : Nat} (ha : a < B) (hb : b < B) (hc : c ≤ 1) :
    (sbb c a b).1 + b + c = a + B * (sbb c a b).2 ∧ (sbb c a b).1 < B ∧ (sbb c a b).2 ≤ 1 := by
  unfold sbb
  split
  · dsimp only; omega
  · dsimp only; omega

/-- `adcZip` / `sbbZip` (NB.Model.AddSub) with the digit operation as a parameter -/
def zipC (op : Nat → Nat → Nat → Nat × Nat) (c : Nat) : List Nat → List Nat → List Nat × Nat
  | a :: as, b :: bs =>
    let o := op c a b
    let r := zipC op o.2 as bs
    (o.1 :: r.1, r.2)
  | _, _ => ([], c)

/-- `adcProp` / `sbbProp` with the digit operation as a parameter -/
def propC (op : Nat → Nat → Nat → Nat × Nat) (c : Nat) : List Nat → List Nat × Nat
  | [] => ([], c)
  | a :: as =>
    if c = 0 then (a :: as, 0)
    else
      let o := op c a 0
      let r := propC op o.2 as
      (o.1 :: r.1, r.2)

theorem adcZip_eq_zipC : adcZip = zipC adc := by
  funext c a b
  induction a generalizing b c with
  | nil => rfl
  | cons x xs ih =>
    cases b with
    | nil => rfl
    | cons y ys => simp only [adcZip, zipC, ih]

theorem sbbZip_eq_zipC : sbbZip = zipC sbb := by
  funext c a b
  induction a generalizing b c with
  | nil => rfl
  | cons x xs ih =>
    cases b with
    | nil => rfl
    | cons y ys => simp only [sbbZip, zipC, ih]

theorem adcProp_eq_propC : adcProp = propC adc := by
  funext c a
  induction a generalizing c with
  | nil => rfl
  | cons x xs ih => simp only [adcProp, propC, ih]

theorem sbbProp_eq_propC : sbbProp = propC sbb := by
  funext c a
  induction a generalizing c with
  | nil => rfl
  | cons x xs ih => simp only [sbbProp, propC, ih]

/-- `op` is an exact digit operation with carry, of sign `s` -/
def CarryOp (s : Int) (op : Nat → Nat → Nat → Nat × Nat) : Prop :=
  ∀ c a b, a < B → b < B → c ≤ 1 →
    ((op c a b).1 : Int) + s * (B * (op c a b).2) = a + s * (b + c) ∧ (op c a b).1 < B ∧ (op c a b).2 ≤ 1

theorem adc_carryOp : CarryOp 1 adc := fun c a b ha hb hc => by
  obtain ⟨h1, h2⟩ := adc_spec ha hb hc
  exact ⟨by omega, h2⟩

theorem sbb_carryOp : CarryOp (-1) sbb := fun c a b ha hb hc => by
  obtain ⟨h1, h2⟩ := sbb_spec ha hb hc
  exact ⟨by omega, h2⟩

/-- two chain equations compose: a part of weight `P` with carry-out `k`, then a part with carry-in `k` -/
theorem chain_glue {s P Q o k r k' X XS Y E c : Int}
    (h1 : o + s * (P * k) = X + s * (Y + c)) (i1 : r + s * (Q * k') = XS + s * (E + k)) :
    o + P * r + s * (P * Q * k') = X + P * XS + s * (Y + P * E + c) := by
  rw [eq_sub_of_add_eq h1, eq_sub_of_add_eq i1]
  ring

/-- `chain_glue` when the second part has no second operand (carry propagation) -/
theorem chain_glue_prop {s P Q o k r k' X XS D : Int}
    (h1 : o + s * (P * k) = X + s * D) (i1 : r + s * (Q * k') = XS + s * k) :
    o + P * r + s * (P * Q * k') = X + P * XS + s * D := by
  rw [eq_sub_of_add_eq h1, eq_sub_of_add_eq i1]
  ring

section chain
variable {s : Int} {op : Nat → Nat → Nat → Nat × Nat} (hop : CarryOp s op)
include hop

theorem zipC_spec : ∀ (a b : List Nat) (c : Nat), a.length = b.length → DigitsOk a → DigitsOk b → c ≤ 1 →
    (val (zipC op c a b).1 : Int) + s * (B ^ a.length * (zipC op c a b).2) = val a + s * (val b + c) ∧
    (zipC op c a b).1.length = a.length ∧ DigitsOk (zipC op c a b).1 ∧ (zipC op c a b).2 ≤ 1
  | [], [], c, _, _, _, hc => ⟨by simp [zipC, val], rfl, DigitsOk.nil, hc⟩
  | x :: xs, y :: ys, c, hl, ha, hb, hc => by
    obtain ⟨h1, h2, h3⟩ := hop c x y ha.head hb.head hc
    obtain ⟨i1, i2, i3, i4⟩ := zipC_spec xs ys (op c x y).2 (Nat.succ.inj hl) ha.tail hb.tail h3
    refine ⟨?_, congrArg (· + 1) i2, DigitsOk.cons h2 i3, i4⟩
    simp only [zipC, val, List.length_cons, pow_succ']
    push_cast
    exact chain_glue h1 i1

theorem propC_spec : ∀ (a : List Nat) (c : Nat), DigitsOk a → c ≤ 1 →
    (val (propC op c a).1 : Int) + s * (B ^ a.length * (propC op c a).2) = val a + s * c ∧
    (propC op c a).1.length = a.length ∧ DigitsOk (propC op c a).1 ∧ (propC op c a).2 ≤ 1
  | [], c, _, hc => ⟨by simp [propC, val], rfl, DigitsOk.nil, hc⟩
  | x :: xs, c, ha, hc => by
    unfold propC
    by_cases h0 : c = 0
    · subst h0; simp; exact ha
    · rw [if_neg h0]
      obtain ⟨h1, h2, h3⟩ := hop c x 0 ha.head B_pos hc
      obtain ⟨i1, i2, i3, i4⟩ := propC_spec xs (op c x 0).2 ha.tail h3
      refine ⟨?_, congrArg (· + 1) i2, DigitsOk.cons h2 i3, i4⟩
      rw [Nat.cast_zero, zero_add] at h1
      simp only [val, List.length_cons, pow_succ']
      push_cast
      exact chain_glue_prop h1 i1

/-- the chain over a common low part `lo`, `bl`, then propagation into the high part `hi` of the first
    operand: the shape of `__add2` and `sub2` -/
theorem zipC_propC_spec (lo hi bl : List Nat) (c : Nat) (hl : lo.length = bl.length)
    (hlo : DigitsOk lo) (hhi : DigitsOk hi) (hbl : DigitsOk bl) (hc : c ≤ 1) :
    (val ((zipC op c lo bl).1 ++ (propC op (zipC op c lo bl).2 hi).1) : Int)
        + s * (B ^ (lo ++ hi).length * (propC op (zipC op c lo bl).2 hi).2) = val (lo ++ hi) + s * (val bl + c) ∧
    ((zipC op c lo bl).1 ++ (propC op (zipC op c lo bl).2 hi).1).length = (lo ++ hi).length ∧
    DigitsOk ((zipC op c lo bl).1 ++ (propC op (zipC op c lo bl).2 hi).1) ∧
    (propC op (zipC op c lo bl).2 hi).2 ≤ 1 := by
  obtain ⟨z1, z2, z3, z4⟩ := zipC_spec hop lo bl c hl hlo hbl hc
  obtain ⟨p1, p2, p3, p4⟩ := propC_spec hop hi (zipC op c lo bl).2 hhi z4
  refine ⟨?_, by rw [List.length_append, List.length_append, z2, p2], z3.append p3, p4⟩
  rw [val_append, val_append, z2, List.length_append, pow_add]
  push_cast
  exact chain_glue_prop z1 p1

end chain

theorem zipC_length (op) : ∀ (a b : List Nat) (c : Nat), (zipC op c a b).1.length = min a.length b.length
  | [], _, _ => (Nat.zero_min _).symm
  | _ :: _, [], _ => rfl
  | x :: xs, y :: ys, c => by
    rw [zipC, List.length_cons, zipC_length op xs ys, List.length_cons, List.length_cons, Nat.add_min_add_right]

theorem zipC_append (op) (x1 y1 x2 y2 : List Nat) (c : Nat) (h : x1.length = y1.length) :
    zipC op c (x1 ++ x2) (y1 ++ y2) =
      ((zipC op c x1 y1).1 ++ (zipC op (zipC op c x1 y1).2 x2 y2).1, (zipC op (zipC op c x1 y1).2 x2 y2).2) := by
  induction x1 generalizing y1 c with
  | nil => rw [List.length_eq_zero_iff.mp h.symm]; rfl
  | cons a as ih =>
    cases y1 with
    | nil => simp at h
    | cons b bs =>
      simp only [List.cons_append, zipC]
      rw [ih bs (op c a b).2 (Nat.succ.inj h)]

/-- a chain over equally long slices may be cut at any position `n` -/
theorem zipC_cut (op) (a b : List Nat) (c n : Nat) (h : a.length = b.length) :
    zipC op c a b =
      ((zipC op c (a.take n) (b.take n)).1 ++ (zipC op (zipC op c (a.take n) (b.take n)).2 (a.drop n) (b.drop n)).1,
       (zipC op (zipC op c (a.take n) (b.take n)).2 (a.drop n) (b.drop n)).2) := by
  have := zipC_append op (a.take n) (b.take n) (a.drop n) (b.drop n) c (by rw [List.length_take, List.length_take, h])
  rwa [List.take_append_drop, List.take_append_drop] at this

/- `adcZip_spec`, `adcZip_append`, `adcProp_spec` and, further down, `sbbZip_spec`, `sbbZip_append`, `sbbProp_spec`
   characterise the model's own chains in natural numbers; the proofs of `__add2` and `sub2` go through
   the generic lemmas directly. -/

/-- the chained adc over two equal-length slices is exact addition with carry -/
theorem adcZip_spec : ∀ (a b : List Nat) (c : Nat), a.length = b.length → DigitsOk a → DigitsOk b → c ≤ 1 →
    val (adcZip c a b).1 + B ^ a.length * (adcZip c a b).2 = val a + val b + c ∧
    (adcZip c a b).1.length = a.length ∧ DigitsOk (adcZip c a b).1 ∧ (adcZip c a b).2 ≤ 1 := by
  intro a b c hl ha hb hc
  rw [adcZip_eq_zipC]
  obtain ⟨h, hr⟩ := zipC_spec adc_carryOp a b c hl ha hb hc
  exact ⟨by rw [← Nat.cast_pow] at h; omega, hr⟩

theorem adcZip_append (x1 y1 x2 y2 : List Nat) (c : Nat) (h : x1.length = y1.length) :
    adcZip c (x1 ++ x2) (y1 ++ y2) =
      ((adcZip c x1 y1).1 ++ (adcZip (adcZip c x1 y1).2 x2 y2).1, (adcZip (adcZip c x1 y1).2 x2 y2).2) := by
  rw [adcZip_eq_zipC]
  exact zipC_append adc x1 y1 x2 y2 c h

theorem adcProp_spec : ∀ (a : List Nat) (c : Nat), DigitsOk a → c ≤ 1 →
    val (adcProp c a).1 + B ^ a.length * (adcProp c a).2 = val a + c ∧
    (adcProp c a).1.length = a.length ∧ DigitsOk (adcProp c a).1 ∧ (adcProp c a).2 ≤ 1 := by
  intro a c ha hc
  rw [adcProp_eq_propC]
  obtain ⟨h, hr⟩ := propC_spec adc_carryOp a c ha hc
  exact ⟨by rw [← Nat.cast_pow] at h; omega, hr⟩

theorem add2c_eq (P : Params) (a b : List Nat) (hl : b.length ≤ a.length) :
    add2c P a b =
      ((adcZip 0 (a.take b.length) b).1 ++ (adcProp (adcZip 0 (a.take b.length) b).2 (a.drop b.length)).1,
       (adcProp (adcZip 0 (a.take b.length) b).2 (a.drop b.length)).2) := by
  unfold add2c
  dsimp only
  rw [adcZip_eq_zipC, zipC_cut adc (a.take b.length) b 0 (P.addBlk.done b.length) (List.length_take_of_le hl)]

/-- `__add2` is exact: digits plus carry-out equal the sum, length and digit range preserved.
    Holds for every block description because the block part and the scalar tail are the
    same carry chain, which may be cut anywhere (`zipC_cut`). -/
theorem add2c_spec (P : Params) (a b : List Nat) (hl : b.length ≤ a.length) (ha : DigitsOk a) (hb : DigitsOk b) :
    val (add2c P a b).1 + B ^ a.length * (add2c P a b).2 = val a + val b ∧
    (add2c P a b).1.length = a.length ∧ DigitsOk (add2c P a b).1 ∧ (add2c P a b).2 ≤ 1 := by
  rw [add2c_eq P a b hl, adcZip_eq_zipC, adcProp_eq_propC]
  dsimp only
  obtain ⟨h, h2, h3, h4⟩ := zipC_propC_spec adc_carryOp (a.take b.length) (a.drop b.length) b 0
    (List.length_take_of_le hl) (ha.take _) (ha.drop _) hb (Nat.zero_le 1)
  rw [List.take_append_drop] at h h2
  exact ⟨by rw [← Nat.cast_pow] at h; omega, h2, h3, h4⟩

theorem sbbZip_spec : ∀ (a b : List Nat) (c : Nat), a.length = b.length → DigitsOk a → DigitsOk b → c ≤ 1 →
    val (sbbZip c a b).1 + val b + c = val a + B ^ a.length * (sbbZip c a b).2 ∧
    (sbbZip c a b).1.length = a.length ∧ DigitsOk (sbbZip c a b).1 ∧ (sbbZip c a b).2 ≤ 1 := by
  intro a b c hl ha hb hc
  rw [sbbZip_eq_zipC]
  obtain ⟨h, hr⟩ := zipC_spec sbb_carryOp a b c hl ha hb hc
  exact ⟨by rw [← Nat.cast_pow] at h; omega, hr⟩

theorem sbbZip_append (x1 y1 x2 y2 : List Nat) (c : Nat) (h : x1.length = y1.length) :
    sbbZip c (x1 ++ x2) (y1 ++ y2) =
      ((sbbZip c x1 y1).1 ++ (sbbZip (sbbZip c x1 y1).2 x2 y2).1, (sbbZip (sbbZip c x1 y1).2 x2 y2).2) := by
  rw [sbbZip_eq_zipC]
  exact zipC_append sbb x1 y1 x2 y2 c h

theorem sbbProp_spec : ∀ (a : List Nat) (c : Nat), DigitsOk a → c ≤ 1 →
    val (sbbProp c a).1 + c = val a + B ^ a.length * (sbbProp c a).2 ∧
    (sbbProp c a).1.length = a.length ∧ DigitsOk (sbbProp c a).1 ∧ (sbbProp c a).2 ≤ 1 := by
  intro a c ha hc
  rw [sbbProp_eq_propC]
  obtain ⟨h, hr⟩ := propC_spec sbb_carryOp a c ha hc
  exact ⟨by rw [← Nat.cast_pow] at h; omega, hr⟩

theorem all_zero_val {l : List Nat} : (l.all (· == 0)) = true ↔ val l = 0 := by
  rw [val_eq_zero_iff, List.all_eq_true]
  exact forall₂_congr fun d _ => beq_iff_eq

theorem sub2_eq (P : Params) (a b : List Nat) :
    sub2 P a b =
      (let len := min a.length b.length
       let z := sbbZip 0 (a.take len) (b.take len)
       let p := sbbProp z.2 (a.drop len)
       if p.2 = 0 ∧ (b.drop len).all (· == 0) then .ok (z.1 ++ p.1) else .error .underflow) := by
  unfold sub2
  dsimp only
  rw [sbbZip_eq_zipC, zipC_cut sbb (a.take (min a.length b.length)) (b.take (min a.length b.length)) 0
    (P.subBlk.done (min a.length b.length)) (by rw [List.length_take, List.length_take]; omega)]

/-- what the final borrow `k` of a subtraction chain over the `P`-digit low parts says: with `r` the
    chain's output for `a` minus `bl`, and `bh` the value of the subtrahend's digits beyond the chain,
    "no borrow and `bh = 0`" is exactly `bl + P·bh ≤ a`, and then `r` is the difference -/
theorem sub_borrow_arith {P r a bl bh k : Nat} (hr : r + bl = a + P * k) (hrP : r < P) (hk : k ≤ 1) :
    (a < bl + P * bh → ¬ (k = 0 ∧ bh = 0)) ∧
    (bl + P * bh ≤ a → k = 0 ∧ bh = 0 ∧ r = a - (bl + P * bh)) := by
  constructor
  · rintro hlt ⟨rfl, rfl⟩
    omega
  · intro hle
    have hbh : bh = 0 := by
      by_contra hne
      have := Nat.mul_le_mul_left P (Nat.pos_of_ne_zero hne)
      omega
    subst hbh
    have hk0 : k = 0 := by
      by_contra hne
      obtain rfl : k = 1 := by omega
      omega
    subst hk0
    omega

/-- the raw slice subtraction `sub2`: panics exactly when `val a < val b`, otherwise exact -/
theorem sub2_spec (P : Params) (a b : List Nat) (ha : DigitsOk a) (hb : DigitsOk b) :
    (val a < val b → sub2 P a b = .error .underflow) ∧
    (val b ≤ val a → ∃ r, sub2 P a b = .ok r ∧ val r = val a - val b ∧ r.length = a.length ∧ DigitsOk r) := by
  rw [sub2_eq, sbbZip_eq_zipC, sbbProp_eq_propC]
  dsimp only
  generalize hlen : min a.length b.length = len
  obtain ⟨h, h2, h3, h4⟩ := zipC_propC_spec sbb_carryOp (a.take len) (a.drop len) (b.take len) 0
    (by rw [List.length_take, List.length_take]; omega) (ha.take _) (ha.drop _) (hb.take _) (Nat.zero_le 1)
  rw [List.take_append_drop] at h h2
  -- digits of `b` beyond `len` exist only when `a` is the shorter operand, and then `len = a.length`
  have hw : B ^ len * val (b.drop len) = B ^ a.length * val (b.drop len) := by
    rcases Nat.le_total a.length b.length with hab | hab
    · rw [← hlen, Nat.min_eq_left hab]
    · rw [← hlen, Nat.min_eq_right hab, List.drop_length, val_nil, Nat.mul_zero, Nat.mul_zero]
  obtain ⟨k1, k2⟩ := sub_borrow_arith (bh := val (b.drop len))
    (show _ + val (b.take len) = val a + B ^ a.length * _ by rw [← Nat.cast_pow] at h; omega)
    (h2 ▸ val_lt h3) h4
  rw [val_split_at b len, hw]
  rw [← all_zero_val] at k1 k2
  exact ⟨fun hlt => if_neg (k1 hlt), fun hle =>
    ⟨_, if_pos ⟨(k2 hle).1, (k2 hle).2.1⟩, (k2 hle).2.2, h2, h3⟩⟩

end NB
