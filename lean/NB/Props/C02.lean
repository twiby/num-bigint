/-
  C02 — Multiplication is exact in every algorithm regime and at every size boundary.

  Model: NB.Model.Mul (src/biguint/multiplication.rs, src/bigint/multiplication.rs; compared with
  the real crate by the correspondence check).  The theorems hold for all parameter records `P`
  with the decidable `P.ValidMul` (NB.Lemmas.Mac3); `gen_params_valid_mul` instantiates it at the
  parameters extracted from the source, so a harmless retune of a threshold re-proves and an invalid
  one (e.g. Karatsuba reachable with a 1-digit operand) is a broken proof obligation.

  `mac3` is specified under the precondition all its callers establish: `acc` has room for the
  product plus one spare digit and the final value stays below that digit.  A result `.ok` means no
  failure site of the model is reachable: no `carry overflow during multiplication!`, no dropped
  `add2` carry, no `sub2` underflow, no out-of-range slice, no fuel exhaustion.

  Statements: the property is `mul_spec`, `mulAssign_spec`, `checked_mul_spec` (BigUint `*`, `*=`,
  `checked_mul` on canonical operands), `bigint_mul_spec`, `bigint_mulAssign_spec` (BigInt, all sign
  pairs) and, underneath them, `mac3_spec` and `mul3_spec`.  The others are the leaf facts of the
  routines `mac3` is built from, each at its own precondition: `mac_digit_spec`,
  `mac_digit_carry_hi_unreachable`, `mac_with_carry_no_overflow`, `schoolbook_spec`, `sub_sign_spec`,
  `scalar_mul_val`, `sign_mul_spec`, `toom3_interpolation`.
-/
import NB.Lemmas.Toom3
import NB.Model.AsmParams
namespace NB
open NB.Mul

/-- the thresholds and split rules extracted from the source satisfy `ValidMul` (the hypothesis `hP`
    of every theorem below); decided by evaluation, so an extraction that violates it fails to build -/
theorem gen_params_valid_mul : NB.Gen.P.ValidMul := by decide

/-- `mac_digit(acc, b, c)`: `acc += b * c` exactly, length preserved, the final-carry assertion
    does not fire — whenever the row fits strictly below the top of `acc`
    (`b.len() < acc.len()`) and the sum fits in `acc`. -/
theorem mac_digit_spec (P : Params) (acc b : List Nat) (c : Nat) (ha : DigitsOk acc) (hb : DigitsOk b)
    (hc : c < B) (hl : b.length < acc.length) (hv : val acc + val b * c < B ^ acc.length) :
    ∃ r, macDigit P acc b c = .ok r ∧ val r = val acc + val b * c ∧ r.length = acc.length ∧ DigitsOk r :=
  macDigit_spec P acc b c ha hb hc hl hv

/-- the row loop's carry is one digit, so the `carry_hi != 0` arm of `mac_digit` — which passes
    `&[carry_hi, carry_lo]`, i.e. the halves in swapped order — is dead code -/
theorem mac_digit_carry_hi_unreachable (c : Nat) (hc : c < B) (a b : List Nat) (hl : a.length = b.length)
    (ha : DigitsOk a) (hb : DigitsOk b) : (macZip c 0 a b).2 / B = 0 :=
  macDigit_carryHi_zero c hc a b hl ha hb

/-- the u128 accumulator of `mac_with_carry` cannot overflow: `carry + a + b * c < 2^128` for digits -/
theorem mac_with_carry_no_overflow {carry a b c : Nat} (hcar : carry < B) (ha : a < B) (hb : b < B)
    (hc : c < B) : carry + a + b * c < B * B :=
  (Nat.div_lt_iff_lt_mul B_pos).mp (carry_digit_lt hcar ha hb hc)

/-- `sub_sign(a, b)` on arbitrary (not necessarily normalised) slices: sign and canonical
    magnitude of the integer `a - b`; the internal `sub2` never underflows -/
theorem sub_sign_spec (P : Params) (a b : List Nat) (ha : DigitsOk a) (hb : DigitsOk b) :
    subSign P a b = .ok ((BigInt.ofInt ((val a : Int) - (val b : Int))).sign,
                         (BigInt.ofInt ((val a : Int) - (val b : Int))).mag) := by
  obtain ⟨s, m, e, c, h⟩ := subSign_spec P a b ha hb
  rw [e, ← h.val_eq, ← bigint_canon_eq_ofInt c]

/-- `scalar_mul(a, d)` (zero, one, power-of-two shift and general paths): canonical product -/
theorem scalar_mul_val (a : List Nat) (d : Nat) (ha : Canon a) (hd : d < B) :
    scalarMul a d = ofNat (val a * d) :=
  scalarMul_spec a d ha hd

/-- the sign rule: the value of `(s * t, m)` is the product of the values whenever the magnitudes
    multiply -/
theorem val_sign_mul (s t : Sign) {m ma mb : List Nat} (h : val m = val ma * val mb) :
    BigInt.val ⟨s.mul t, m⟩ = BigInt.val ⟨s, ma⟩ * BigInt.val ⟨t, mb⟩ := by
  cases s <;> cases t <;> simp only [Sign.mul, BigInt.val, h] <;> push_cast <;> ring

/-- `Sign * Sign` (`impl Mul for Sign`) multiplies like the integers `-1, 0, 1`: stated on the unit
    magnitude `[1]`, where `BigInt.val ⟨s, [1]⟩` is exactly that integer; `val_sign_mul` is the same
    rule for arbitrary magnitudes -/
theorem sign_mul_spec (s t : Sign) :
    (BigInt.val ⟨s.mul t, [1]⟩) = (BigInt.val ⟨s, [1]⟩) * (BigInt.val ⟨t, [1]⟩) :=
  val_sign_mul s t (by decide)

/-- long multiplication (`x.len() <= tSchool`): the row loop `mac_digit(&mut acc[i..], y, x[i])`
    is exact whenever the rows fit (`x.len() + y.len() <= acc.len()`) and the sum fits in `acc` -/
theorem schoolbook_spec (P : Params) (acc x y : List Nat) (ha : DigitsOk acc) (hx : DigitsOk x)
    (hy : DigitsOk y) (hl : x ≠ [] → x.length + y.length ≤ acc.length)
    (hv : val acc + val y * val x < B ^ acc.length) :
    ∃ r, school P acc y x = .ok r ∧ val r = val acc + val y * val x ∧ r.length = acc.length ∧ DigitsOk r :=
  school_spec P y hy x acc hx ha hl hv

/-- the Bodrato sequence of the Toom-3 branch (`/3` truncated, `>>1` floor) recovers the three
    middle coefficients of the product polynomial from the five point values, for all integers -/
theorem toom3_interpolation (x0 x1 x2 y0 y1 y2 : Int) :
    let r0 := x0 * y0
    let r4 := x2 * y2
    let r1 := (x0 + x2 + x1) * (y0 + y2 + y1)
    let r2 := (x0 + x2 - x1) * (y0 + y2 - y1)
    let r3 := ((x0 + x2 - x1 + x2) * 2 - x0) * ((y0 + y2 - y1 + y2) * 2 - y0)
    let c3a := (r3 - r1).tdiv 3
    let c1a := (r1 - r2) >>> 1
    let c2a := r2 - r0
    let c3 := ((c2a - c3a) >>> 1) + r4 * 2
    let c2 := c2a + (c1a - r4)
    let c1 := c1a - c3
    c1 = x0 * y1 + x1 * y0 ∧ c2 = x0 * y2 + x1 * y1 + x2 * y0 ∧ c3 = x1 * y2 + x2 * y1 :=
  toom_interp x0 x1 x2 y0 y1 y2

theorem mac3_macSpec (P : Params) (hP : P.ValidMul) : ∀ fuel, MacSpec (mac3 P fuel) fuel
  | 0 => fun _ _ _ h _ => absurd h (Nat.not_lt_zero _)
  | fuel + 1 => fun acc b c h hpre =>
    mac3Body_spec P hP (mac3_macSpec P hP fuel) acc b c hpre (by omega)

/-- `mac3` is exact in every regime: for all valid parameters, all digit slices and every
    fuel `≥ b.length + c.length + 1`: if `acc` has room for the product plus one spare digit and
    the final value stays below the top digit (which is what `mul3`, the temporaries of the
    Karatsuba branch and all nested calls establish), then `mac3` succeeds (no assertion, no slice
    fault, no dropped carry) and `acc' = acc + b * c` with the length unchanged. -/
theorem mac3_spec (P : Params) (hP : P.ValidMul) (fuel : Nat) (acc b c : List Nat)
    (hfuel : b.length + c.length + 1 ≤ fuel)
    (ha : DigitsOk acc) (hb : DigitsOk b) (hc : DigitsOk c)
    (hlen : acc.length ≥ b.length + c.length + 1)
    (hval : val acc + val b * val c < B ^ (acc.length - 1)) :
    ∃ acc', mac3 P fuel acc b c = .ok acc' ∧ val acc' = val acc + val b * val c ∧
      acc'.length = acc.length ∧ DigitsOk acc' :=
  mac3_macSpec P hP fuel acc b c (by omega) ⟨ha, hb, hc, hlen, hval⟩

/-- `mul3(x, y)`: canonical product of two arbitrary slices -/
theorem mul3_spec (P : Params) (hP : P.ValidMul) (x y : List Nat) (hx : DigitsOk x) (hy : DigitsOk y) :
    mul3 P x y = .ok (ofNat (val x * val y)) :=
  mul3With_spec P hP (mac3_macSpec P hP (mulFuel x y)) x y hx hy (by unfold mulFuel; omega)

/-- `&a * &b` (`impl_mul!`: zero, single-digit and full paths) returns the canonical
    representation of the exact product and never panics -/
theorem mul_spec (P : Params) (hP : P.ValidMul) (a b : List Nat) (ha : Canon a) (hb : Canon b) :
    mulRef P a b = .ok (ofNat (val a * val b)) :=
  mulMagWith_spec P hP (mac3_macSpec P hP (mulFuel a b)) a b ha hb (by unfold mulFuel; omega)

theorem mulAssign_eq_mulRef (P : Params) (a b : List Nat) : mulAssign P a b = mulRef P a b := by
  rcases a with _ | ⟨a1, _ | ⟨a2, at'⟩⟩ <;> rcases b with _ | ⟨b1, _ | ⟨b2, bt⟩⟩ <;> rfl

/-- `a *= &b` (`impl_mul_assign!`) -/
theorem mulAssign_spec (P : Params) (hP : P.ValidMul) (a b : List Nat) (ha : Canon a) (hb : Canon b) :
    mulAssign P a b = .ok (ofNat (val a * val b)) := by
  rw [mulAssign_eq_mulRef]; exact mul_spec P hP a b ha hb

/-- `checked_mul` is `Some(a * b)`: it is never `None` and never panics -/
theorem checked_mul_spec (P : Params) (hP : P.ValidMul) (a b : List Nat) (ha : Canon a) (hb : Canon b) :
    (mulRef P a b).map some = .ok (some (ofNat (val a * val b))) := by
  rw [mul_spec P hP a b ha hb]; rfl

/-- `&a * &b` for BigInt: all nine sign pairs -/
theorem bigint_mul_spec (P : Params) (hP : P.ValidMul) (a b : BigInt) (ha : a.Canon) (hb : b.Canon) :
    bigintMul P a b = .ok (BigInt.ofInt (a.val * b.val)) := by
  unfold bigintMul
  simp only [mul_spec P hP a.mag b.mag ha.1 hb.1]
  rw [fromBiguint_eq_ofInt _ (ofNat_canon _), val_sign_mul a.sign b.sign (ofNat_val _)]

/-- `a *= &b` for BigInt: all nine sign pairs -/
theorem bigint_mulAssign_spec (P : Params) (hP : P.ValidMul) (a b : BigInt) (ha : a.Canon) (hb : b.Canon) :
    bigintMulAssign P a b = .ok (BigInt.ofInt (a.val * b.val)) := by
  rw [← bigint_mul_spec P hP a b ha hb]
  unfold bigintMulAssign bigintMul
  simp only [mulAssign_spec P hP a.mag b.mag ha.1 hb.1, mul_spec P hP a.mag b.mag ha.1 hb.1]
  congr 1
  by_cases hm : ofNat (val a.mag * val b.mag) = []
  · simp [BigInt.fromBiguint, hm]
  · -- a non-zero product has non-zero factors, so neither sign is `NoSign`
    have hne := mt (ofNat_eq_nil_iff _).mpr hm
    have hs : a.sign.mul b.sign ≠ .nosign := by
      have hsa : a.sign ≠ .nosign := fun h => hne (by rw [ha.2.mp h]; exact Nat.zero_mul _)
      have hsb : b.sign ≠ .nosign := fun h => hne (by rw [hb.2.mp h]; exact Nat.mul_zero _)
      revert hsa hsb
      cases a.sign <;> cases b.sign <;> simp [Sign.mul]
    simp [BigInt.fromBiguint, hm, hs]

-- non-vacuity: the hypotheses can be met, and the model computes
example : (NB.Gen.P).ValidMul := gen_params_valid_mul
example : MacPre [5, 7, 0, 0] [B - 1] [B - 1, 3] := by
  unfold MacPre; decide
example : Canon [B - 1, B - 1, B - 1] := by decide
example : mulRef NB.Gen.P [B - 1, B - 1] [B - 1, B - 1, B - 1]
    = .ok (ofNat ((B ^ 2 - 1) * (B ^ 3 - 1))) := by
  rw [mul_spec _ gen_params_valid_mul _ _ (by decide) (by decide)]; rfl

end NB
