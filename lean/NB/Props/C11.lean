/-
  C11 — Integer roots are the exact floor roots, independent of float initial guesses.

  Model: NB.Model.Roots (value-level transcription of `fixpoint`, `nth_root`, `sqrt`, `cbrt` of
  src/biguint.rs and of `impl Roots for BigInt`, correspondence-checked against the crate).  The initial guess is supplied by a *guess source* `S`; every theorem below holds for every
  source whose guesses are `≥ 1` (`SqrtOk/CbrtOk/NthOk`), which covers
    * `nostdSrc`   — `1 << max_bits`
    * `stdSrc F d` — float arm / scaled recursive call / fallback      (for every float
                      evaluation `F` with `F.Valid` and `d ≥ 2`)
  so the result cannot depend on the configuration.
  The floor root is Mathlib's `Nat.nthRoot n x`, characterised by `r^n ≤ x < (r+1)^n`.

  Trusted here (see tools/props.py): the u64 fast path (num-integer's primitive roots) is modelled
  by the spec-level bisection `floorRoot`; the float arm is abstract (`F64.Valid`: a finite float
  evaluation gives a guess ≥ 1, `to_f64` is finite below 2^1023); u64 overflow in the bit-count
  arithmetic is not modelled.  With a guess of 0 the code divides by zero, so `g ≥ 1` is exactly the
  assumption needed.

  Digit level (the theorems `…_D` and `…refine…`): NB.Model.RootsD transcribes the same functions on digit
  vectors, every BigUint operator being the digit-level operator model (cmp_slice, bits, `<<`, `>>`,
  div_rem_ref, mulRef/mulAssign inside `pow`, scalar_mul, `+=`, div_rem_digit, to_u64), panics propagated.
  For canonical inputs (and `SizeOk`: fewer than 2^64 digits, the
  hypothesis under which `<<` cannot hit "capacity overflow"), every degree `n ≤ 2^64` (all of u32) and all
  parameter records with `P.ValidMul` (`gen_params_valid_mul` for the extracted ones) the digit-level
  functions return `(value-level function of the value).map ofNat` — same panics, canonical digits of the
  same number — for every pair of guess sources related by `SrcRefines`, which relates the sources of
  the two configurations.  Hence all statements above transfer.  The driver's model column runs the `…D` functions.
  Still value-level inside RootsD: num-integer's u64 roots (`floorRoot`), the abstract float evaluation
  (applied to `val x`), the u64 bit-count arithmetic, and the fuel.

  Statements: the property is `nth_root_spec` (with `sqrt_spec`, `cbrt_spec`, `bigint_nth_root_spec`,
  `bigint_sqrt_spec`, `bigint_cbrt_spec`), its digit-level form `nth_root_spec_D` (and `…_spec_D` siblings), and
  `root_config_independent` / `root_config_independent_D` for the std / no_std clause; `roots_refine` and
  `bigint_roots_refine` carry the transfer, the remaining theorems are steps, restatements or instances.

  A theorem below that is a one-line term restates, under the name DESIGN.md §4 uses, the lemma of
  NB/Lemmas/Roots.lean and RootsD.lean it cites; the proofs are there.
-/
import NB.Lemmas.Roots
import NB.Lemmas.RootsD
namespace NB
open NB.Roots NB.IntVal

/-! ### Newton step facts (`F x n s = ((n-1)·s + x / s^(n-1)) / n`) -/

theorem root_F_ge {x n s : Nat} (hn : 1 ≤ n) (hs : 1 ≤ s) : Nat.nthRoot n x ≤ F x n s := F_ge hn hs
theorem root_F_lt {x n s : Nat} (hn : 1 ≤ n) (hs : Nat.nthRoot n x < s) : F x n s < s := F_lt hn hs
theorem root_F_gt {x n s : Nat} (hn : 1 ≤ n) (hs : 1 ≤ s) (hlt : s < Nat.nthRoot n x) : s < F x n s :=
  F_gt hn hs hlt

/-- the saturation bound of `fixpoint` is a strict upper bound of the root: `r < 2^max_bits` -/
theorem root_lt_two_pow_maxBits (x : Nat) {n : Nat} (hn : 1 ≤ n) :
    Nat.nthRoot n x < 2 ^ (bits x / n + 1) := root_lt_maxBits x hn

/-- the three closures are the same Newton step, evaluated without panic on `s ≥ 1` -/
theorem root_step_eval {x n s : Nat} (hn : 1 ≤ n) (hs : 1 ≤ s) :
    stepNth x n s = .ok (F x n s) ∧ stepSqrt x = stepNth x 2 ∧ stepCbrt x = stepNth x 3 :=
  ⟨stepNth_eval hn hs, stepSqrt_eq x, stepCbrt_eq x⟩

/-- the spec-level bisection (model of the u64 fast path, and the driver's oracle) is the floor root -/
theorem floor_root_spec (x : Nat) {n : Nat} (hn : 1 ≤ n) :
    floorRoot x n = Nat.nthRoot n x ∧ floorRoot x n ^ n ≤ x ∧ x < (floorRoot x n + 1) ^ n := by
  rw [floorRoot_eq x hn]
  exact ⟨rfl, Nat.pow_nthRoot_le (.inl (by omega)), Nat.lt_pow_nthRoot_add_one (by omega) x⟩

/-- `fixpoint` (both phases, with saturation) for an abstract step: from EVERY guess `g ≥ 1` and with
    EVERY `fuel ≥ fixFuel g max_bits = g + 2^max_bits + 2` it terminates and returns `r`. -/
theorem fixpoint_abstract_spec {f : Nat → Except Panic Nat} {Fn : Nat → Nat} {r mb g fuel : Nat}
    (hN : NewtonOk f Fn r) (hmb : r < 2 ^ mb) (hg : 1 ≤ g) (hfuel : fixFuel g mb ≤ fuel) :
    fixpoint fuel g mb f = .ok r := fixpoint_ok hN hmb hg hfuel

/-- `fixpoint` on the actual closure returns the floor root for every guess ≥ 1 and enough fuel -/
theorem fixpoint_spec {x n g fuel : Nat} (hn : 1 ≤ n) (hx : 1 ≤ x) (hg : 1 ≤ g)
    (hfuel : g + 2 ^ (bits x / n + 1) + 2 ≤ fuel) :
    fixpoint fuel g (bits x / n + 1) (stepNth x n) = .ok (Nat.nthRoot n x) :=
  fixpoint_root hn hx hg hfuel

/-- the hypothesis `g ≥ 1` cannot be dropped: a zero guess divides by zero -/
theorem guess_zero_panics (fuel mb x n : Nat) (hn : 2 ≤ n) : fixpoint fuel 0 mb (stepNth x n) = .error .divzero := by
  unfold fixpoint stepNth
  have : (0 : Nat) ^ (n - 1) = 0 := Nat.zero_pow (by omega)
  simp [this]

/-- `nth_root` returns Mathlib's floor root, for EVERY guess source with guesses ≥ 1 -/
theorem nth_root_eq {S : GuessSrc} {x n : Nat} (hn : 1 ≤ n) (h2 : SqrtOk S x) (h3 : CbrtOk S x) (h4 : NthOk S x n) :
    nthRootG S x n = .ok (Nat.nthRoot n x) := nthRootG_ok hn h2 h3 h4

/-- `nth_root` returns the `r` with `r^n ≤ x < (r+1)^n` for every degree `n ≥ 1` and EVERY guess source with
    guesses ≥ 1 -/
theorem nth_root_spec {S : GuessSrc} {x n : Nat} (hn : 1 ≤ n) (h2 : SqrtOk S x) (h3 : CbrtOk S x) (h4 : NthOk S x n) :
    ∃ r, nthRootG S x n = .ok r ∧ r ^ n ≤ x ∧ x < (r + 1) ^ n :=
  ⟨_, nthRootG_ok hn h2 h3 h4, Nat.pow_nthRoot_le (.inl (by omega)), Nat.lt_pow_nthRoot_add_one (by omega) x⟩

/-- the characterisation determines the root -/
theorem nth_root_unique {x n r r' : Nat} (h1 : r ^ n ≤ x) (h2 : x < (r + 1) ^ n)
    (h1' : r' ^ n ≤ x) (h2' : x < (r' + 1) ^ n) : r = r' := by
  rw [← Nat.nthRoot_eq_of_le_of_lt h1 h2, ← Nat.nthRoot_eq_of_le_of_lt h1' h2']

/-- degree 0 is rejected by the assertion, whatever the source -/
theorem nth_root_zero_degree (S : GuessSrc) (x : Nat) : nthRootG S x 0 = .error .zeroroot := by
  simp [nthRootG]

/-- `sqrt` returns the `r` with `r·r ≤ x < (r+1)·(r+1)`, for every source with guesses ≥ 1 -/
theorem sqrt_spec {S : GuessSrc} {x : Nat} (h : SqrtOk S x) :
    ∃ r, sqrtG S x = .ok r ∧ r * r ≤ x ∧ x < (r + 1) * (r + 1) := by
  exact ⟨_, sqrtG_ok h, sqrt_bounds x⟩

/-- `cbrt` returns the `r` with `r^3 ≤ x < (r+1)^3`, for every source with guesses ≥ 1 -/
theorem cbrt_spec {S : GuessSrc} {x : Nat} (h : CbrtOk S x) :
    ∃ r, cbrtG S x = .ok r ∧ r ^ 3 ≤ x ∧ x < (r + 1) ^ 3 :=
  ⟨_, cbrtG_ok h, Nat.pow_nthRoot_le (.inl (by decide)), Nat.lt_pow_nthRoot_add_one (by decide) x⟩

/-- `nth_root(2)` / `nth_root(3)` are `sqrt` / `cbrt` -/
theorem nth_root_dispatch (S : GuessSrc) (x : Nat) (hx : ¬ (x = 0 ∨ x = 1)) :
    nthRootG S x 2 = sqrtG S x ∧ nthRootG S x 3 = cbrtG S x := by
  constructor <;> simp [nthRootG, hx]

theorem nostd_guess_ok (x n : Nat) : SqrtOk nostdSrc x ∧ CbrtOk nostdSrc x ∧ NthOk nostdSrc x n := nostd_ok x n

/-- std: float arm (assumed ≥ 1), scaled recursive arm (proved ≥ 1: `scale < bits`, the recursive call
    is on a value that fits f64 and returns its floor root ≥ 1), fallback arm (`2^max_bits`).
    Recursion depth 2 suffices; in particular the `bits - 1023` subtraction never underflows. -/
theorem std_guess_ok {Fl : F64} (hF : Fl.Valid) (d x n : Nat) (hd : 2 ≤ d) (hn : 1 ≤ n) :
    SqrtOk (stdSrc Fl d) x ∧ CbrtOk (stdSrc Fl d) x ∧ NthOk (stdSrc Fl d) x n := by
  obtain ⟨k, rfl⟩ := Nat.exists_eq_add_of_le' hd
  exact std_ok hF k x n hn

/-- no_std configuration: all three functions return Mathlib's floor root -/
theorem nostd_root_spec (x n : Nat) (hn : 1 ≤ n) :
    nthRootG nostdSrc x n = .ok (Nat.nthRoot n x) ∧ sqrtG nostdSrc x = .ok (Nat.nthRoot 2 x) ∧
    cbrtG nostdSrc x = .ok (Nat.nthRoot 3 x) := by
  obtain ⟨a, b, c⟩ := nostd_ok x n
  exact ⟨nthRootG_ok hn a b c, sqrtG_ok a, cbrtG_ok b⟩

/-- std configuration (any float evaluation with `Fl.Valid`, recursion depth ≥ 2): all three functions return
    Mathlib's floor root -/
theorem std_root_spec {Fl : F64} (hF : Fl.Valid) (d x n : Nat) (hd : 2 ≤ d) (hn : 1 ≤ n) :
    nthRootG (stdSrc Fl d) x n = .ok (Nat.nthRoot n x) ∧ sqrtG (stdSrc Fl d) x = .ok (Nat.nthRoot 2 x) ∧
    cbrtG (stdSrc Fl d) x = .ok (Nat.nthRoot 3 x) := by
  obtain ⟨a, b, c⟩ := std_guess_ok hF d x n hd hn
  exact ⟨nthRootG_ok hn a b c, sqrtG_ok a, cbrtG_ok b⟩

/-- the std / no_std clause: both configurations return the same outcome for every x and every n
    (including n = 0, where both panic with the same class) -/
theorem root_config_independent {Fl : F64} (hF : Fl.Valid) (d x n : Nat) (hd : 2 ≤ d) :
    nthRootG (stdSrc Fl d) x n = nthRootG nostdSrc x n ∧ sqrtG (stdSrc Fl d) x = sqrtG nostdSrc x ∧
    cbrtG (stdSrc Fl d) x = cbrtG nostdSrc x := by
  have s1 := std_root_spec hF d x 1 hd (le_refl 1)
  have s2 := nostd_root_spec x 1 (le_refl 1)
  refine ⟨?_, by rw [s1.2.1, s2.2.1], by rw [s1.2.2, s2.2.2]⟩
  by_cases hn : n = 0
  · subst hn; rw [nth_root_zero_degree, nth_root_zero_degree]
  · rw [(std_root_spec hF d x n hd (by omega)).1, (nostd_root_spec x n (by omega)).1]

/-- any two admissible sources agree -/
theorem root_guess_independent {S S' : GuessSrc} {x n : Nat} (hn : 1 ≤ n)
    (h2 : SqrtOk S x) (h3 : CbrtOk S x) (h4 : NthOk S x n) (h2' : SqrtOk S' x) (h3' : CbrtOk S' x) (h4' : NthOk S' x n) :
    nthRootG S x n = nthRootG S' x n := by
  rw [nthRootG_ok hn h2 h3 h4, nthRootG_ok hn h2' h3' h4']

theorem fromBiguint_signOf (x : Int) (m : Nat) : fromBiguint (signOf x) m = Int.sign x * (m : Int) := by
  rcases lt_trichotomy x 0 with h | h | h
  · rw [NB.Gcd.signOf_neg h, Int.sign_eq_neg_one_of_neg h, neg_one_mul]; rfl
  · rw [h, Int.sign_zero, Int.zero_mul]; rfl
  · rw [NB.Gcd.signOf_pos h, Int.sign_eq_one_of_pos h, Int.one_mul]; rfl

/-- `BigInt::nth_root`: even degree (incl. 0) of a negative value → "imaginary" panic; degree 0 of a
    non-negative value → "zeroroot" panic; otherwise `sign(x) · ⌊|x|^(1/n)⌋` (truncation toward zero) -/
theorem bigint_nth_root_spec {S : GuessSrc} (x : Int) (n : Nat)
    (h2 : SqrtOk S x.natAbs) (h3 : CbrtOk S x.natAbs) (h4 : NthOk S x.natAbs n) :
    bigintNthRoot S x n =
      if x < 0 ∧ n % 2 = 0 then .error .imaginary
      else if n = 0 then .error .zeroroot
      else .ok (Int.sign x * (Nat.nthRoot n x.natAbs : Int)) := by
  unfold bigintNthRoot
  by_cases hi : x < 0 ∧ n % 2 = 0
  · simp only [hi, and_self, if_true]
  · simp only [hi, if_false]
    by_cases hn : n = 0
    · subst hn; simp [nth_root_zero_degree]
    · simp only [hn, if_false, nthRootG_ok (show 1 ≤ n by omega) h2 h3 h4, fromBiguint_signOf]

theorem bigint_sqrt_spec {S : GuessSrc} (x : Int) (h2 : SqrtOk S x.natAbs) :
    bigintSqrt S x = if x < 0 then .error .imaginary else .ok (Nat.nthRoot 2 x.natAbs : Int) := by
  unfold bigintSqrt
  by_cases hi : x < 0
  · simp only [hi, if_true]
  · simp only [hi, if_false, sqrtG_ok h2, fromBiguint_signOf]
    by_cases h0 : x = 0
    · subst h0; simp
    · have : 0 < x := by omega
      simp [Int.sign_eq_one_of_pos this]

theorem bigint_cbrt_spec {S : GuessSrc} (x : Int) (h3 : CbrtOk S x.natAbs) :
    bigintCbrt S x = .ok (Int.sign x * (Nat.nthRoot 3 x.natAbs : Int)) := by
  unfold bigintCbrt
  simp only [cbrtG_ok h3, fromBiguint_signOf]

/-- odd root of a negative value, stated on the integers: `r^n ≥ x > (r-1)^n` with `r ≤ 0` -/
theorem bigint_odd_root_neg {x : Int} {n : Nat} (hx : x < 0) (hn : n % 2 = 1) :
    let r : Int := Int.sign x * (Nat.nthRoot n x.natAbs : Int)
    x ≤ r ^ n ∧ (r - 1) ^ n < x ∧ r ≤ 0 := by
  intro r
  have hodd : Odd n := Nat.odd_iff.mpr hn
  have hn0 : n ≠ 0 := fun h => by rw [h] at hn; cases hn
  have hx' : (x.natAbs : Int) = -x := Int.ofNat_natAbs_of_nonpos hx.le
  have h1 : ((Nat.nthRoot n x.natAbs : Nat) : Int) ^ n ≤ -x := by
    rw [← hx', ← Nat.cast_pow]; exact Int.ofNat_le.mpr (Nat.pow_nthRoot_le (.inl hn0))
  have h2 : -x < ((Nat.nthRoot n x.natAbs : Nat) + 1 : Int) ^ n := by
    rw [← hx', ← Nat.cast_succ, ← Nat.cast_pow]; exact Int.ofNat_lt.mpr (Nat.lt_pow_nthRoot_add_one hn0 _)
  have hr : r = -((Nat.nthRoot n x.natAbs : Nat) : Int) := by
    show Int.sign x * _ = _
    rw [Int.sign_eq_neg_one_of_neg hx, neg_one_mul]
  have hq := Int.natCast_nonneg (Nat.nthRoot n x.natAbs)
  generalize ((Nat.nthRoot n x.natAbs : Nat) : Int) = q at h1 h2 hr hq
  -- `r = -q` with `q^n ≤ -x < (q+1)^n`, and `n` odd lets the signs through
  refine ⟨?_, ?_, ?_⟩
  · rw [hr, Odd.neg_pow hodd]; exact le_neg.mpr h1
  · rw [hr, ← neg_add', Odd.neg_pow hodd]; exact neg_lt.mpr h2
  · rw [hr]; exact neg_nonpos.mpr hq

/-! ## Layer link: the digit-level model NB.Model.RootsD refines the value-level model -/

section LayerLink
open NB.RootsD

/-- `s.pow(e)` as coded (`pow_impl!` with digit-level `&base * &base`, `acc *= &base`) -/
theorem pow_digits_spec (P : Params) (hP : P.ValidMul) {s : List Nat} (hs : Canon s) (e : Nat) :
    powRVD P s e = .ok (ofNat (val s ^ e)) :=
  canon_lift (f := fun s => powRVD P s e) (fun x => powRVD_spec P hP x e) hs

/-- the three closures on digits compute what the value-level closures compute (same panics) -/
theorem root_steps_refine (P : Params) (hP : P.ValidMul) {x s : List Nat} (hx : Canon x) (hs : Canon s)
    {n : Nat} (hn : n ≤ B) :
    stepNthD P x n s = (stepNth (val x) n (val s)).map ofNat ∧
    stepSqrtD P x s = (stepSqrt (val x) (val s)).map ofNat ∧
    stepCbrtD P x s = (stepCbrt (val x) (val s)).map ofNat := by
  have a := stepNthD_refines P hP (val x) n hn (val s)
  have b := stepSqrtD_refines P (val x) (val s)
  have c := stepCbrtD_refines P hP (val x) (val s)
  rw [← canon_eq_ofNat hx, ← canon_eq_ofNat hs] at a b c
  exact ⟨a, b, c⟩

/-- `fixpoint` on digits = `fixpoint` on values for every closure pair related on canonical digits,
    every fuel and every guess (`max_bits` small enough for `1 << max_bits` not to overflow capacity) -/
theorem fixpoint_refines {fD : List Nat → Except Panic (List Nat)} {f : Nat → Except Panic Nat}
    (hf : ∀ v, fD (ofNat v) = (f v).map ofNat) {g : List Nat} (hg : Canon g) (mb fuel : Nat)
    (hmb : mb / C07.BITS < C07.USIZE_RANGE) :
    fixpointD fuel g mb fD = (fixpoint fuel (val g) mb f).map ofNat :=
  canon_lift (f := fun g => fixpointD fuel g mb fD) (fixpointD_ofNat hf mb hmb fuel) hg

/-- `n_min_1 * s + q` and `(s << 1) + q` are `BigUint + BigUint` by value: the Rust forwarding macro
    keeps the operand with the larger `capacity()` and adds the other one to it.  Capacity is not
    modelled (RootsD always keeps the left operand); this is immaterial: either choice yields the
    same digit vector. -/
theorem add_operand_choice_irrelevant (P : Params) {a b : List Nat} (ha : Canon a) (hb : Canon b) :
    addAssign P a b = addAssign P b a := by
  rw [addAssign_spec P a b ha hb, addAssign_spec P b a hb ha, Nat.add_comm]

theorem nostd_src_refines : SrcRefines nostdSrcD nostdSrc := nostd_refines

theorem std_src_refines (P : Params) (hP : P.ValidMul) (Fl : F64) (d : Nat) :
    SrcRefines (stdSrcD P Fl d) (stdSrc Fl d) := std_refines P hP Fl d

/-- on canonical digits the digit-level root functions return the canonical
    digits of what the value-level functions return, with the same panics -/
theorem roots_refine (P : Params) (hP : P.ValidMul) {SD : GuessSrcD} {S : GuessSrc} (hS : SrcRefines SD S)
    {x : List Nat} (hx : Canon x) (hlen : SizeOk x) {n : Nat} (hn : n ≤ B) :
    nthRootD P SD x n = (nthRootG S (val x) n).map ofNat ∧
    sqrtD P SD x = (sqrtG S (val x)).map ofNat ∧
    cbrtD P SD x = (cbrtG S (val x)).map ofNat :=
  ⟨nthRootD_refines P hP hS hx hlen hn, sqrtD_refines P hS hx hlen, cbrtD_refines P hP hS hx hlen⟩

theorem bigint_roots_refine (P : Params) (hP : P.ValidMul) {SD : GuessSrcD} {S : GuessSrc} (hS : SrcRefines SD S)
    {x : BigInt} (hx : x.Canon) (hlen : SizeOk x.mag) {n : Nat} (hn : n ≤ B) :
    bigintNthRootD P SD x n = (bigintNthRoot S x.val n).map BigInt.ofInt ∧
    bigintSqrtD P SD x = (bigintSqrt S x.val).map BigInt.ofInt ∧
    bigintCbrtD P SD x = (bigintCbrt S x.val).map BigInt.ofInt :=
  ⟨bigintNthRootD_refines P hP hS hx hlen hn, bigintSqrtD_refines P hS hx hlen, bigintCbrtD_refines P hP hS hx hlen⟩

theorem nth_root_eq_D (P : Params) (hP : P.ValidMul) {SD : GuessSrcD} {S : GuessSrc} (hS : SrcRefines SD S)
    {x : List Nat} (hx : Canon x) (hlen : SizeOk x) {n : Nat} (hn : 1 ≤ n) (hnB : n ≤ B)
    (h2 : SqrtOk S (val x)) (h3 : CbrtOk S (val x)) (h4 : NthOk S (val x) n) :
    nthRootD P SD x n = .ok (ofNat (Nat.nthRoot n (val x))) := by
  rw [nthRootD_refines P hP hS hx hlen hnB, nthRootG_ok hn h2 h3 h4]; rfl

/-- on digits: `nth_root` returns canonical digits of the `r` with `r^n ≤ x < (r+1)^n`, for every degree
    `1 ≤ n ≤ 2^64` and EVERY admissible pair of guess sources -/
theorem nth_root_spec_D (P : Params) (hP : P.ValidMul) {SD : GuessSrcD} {S : GuessSrc} (hS : SrcRefines SD S)
    {x : List Nat} (hx : Canon x) (hlen : SizeOk x) {n : Nat} (hn : 1 ≤ n) (hnB : n ≤ B)
    (h2 : SqrtOk S (val x)) (h3 : CbrtOk S (val x)) (h4 : NthOk S (val x) n) :
    ∃ r, nthRootD P SD x n = .ok r ∧ Canon r ∧ val r ^ n ≤ val x ∧ val x < (val r + 1) ^ n := by
  refine ⟨_, nth_root_eq_D P hP hS hx hlen hn hnB h2 h3 h4, ofNat_canon _, ?_, ?_⟩ <;> rw [ofNat_val]
  · exact Nat.pow_nthRoot_le (.inl (by omega))
  · exact Nat.lt_pow_nthRoot_add_one (by omega) _

theorem sqrt_spec_D (P : Params) (hP : P.ValidMul) {SD : GuessSrcD} {S : GuessSrc} (hS : SrcRefines SD S)
    {x : List Nat} (hx : Canon x) (hlen : SizeOk x) (h : SqrtOk S (val x)) :
    ∃ r, sqrtD P SD x = .ok r ∧ Canon r ∧ val r * val r ≤ val x ∧ val x < (val r + 1) * (val r + 1) := by
  refine ⟨ofNat (Nat.nthRoot 2 (val x)), ?_, ofNat_canon _, ?_⟩
  · rw [sqrtD_refines P hS hx hlen, sqrtG_ok h]; rfl
  · rw [ofNat_val]; exact sqrt_bounds _

theorem cbrt_spec_D (P : Params) (hP : P.ValidMul) {SD : GuessSrcD} {S : GuessSrc} (hS : SrcRefines SD S)
    {x : List Nat} (hx : Canon x) (hlen : SizeOk x) (h : CbrtOk S (val x)) :
    ∃ r, cbrtD P SD x = .ok r ∧ Canon r ∧ val r ^ 3 ≤ val x ∧ val x < (val r + 1) ^ 3 := by
  refine ⟨ofNat (Nat.nthRoot 3 (val x)), ?_, ofNat_canon _, ?_, ?_⟩
  · rw [cbrtD_refines P hP hS hx hlen, cbrtG_ok h]; rfl
  · rw [ofNat_val]; exact Nat.pow_nthRoot_le (.inl (by decide))
  · rw [ofNat_val]; exact Nat.lt_pow_nthRoot_add_one (by decide) _

/-- degree 0 is rejected by the assertion before anything is computed -/
theorem nth_root_zero_degree_D (P : Params) (SD : GuessSrcD) (x : List Nat) :
    nthRootD P SD x 0 = .error .zeroroot := by
  simp [nthRootD]

/-- no_std configuration on digits: canonical digits of Mathlib's floor root -/
theorem nostd_root_spec_D (P : Params) (hP : P.ValidMul) {x : List Nat} (hx : Canon x) (hlen : SizeOk x)
    {n : Nat} (hn : 1 ≤ n) (hnB : n ≤ B) :
    nthRootD P nostdSrcD x n = .ok (ofNat (Nat.nthRoot n (val x))) ∧
    sqrtD P nostdSrcD x = .ok (ofNat (Nat.nthRoot 2 (val x))) ∧
    cbrtD P nostdSrcD x = .ok (ofNat (Nat.nthRoot 3 (val x))) := by
  obtain ⟨a, b, c⟩ := roots_refine P hP nostd_src_refines hx hlen hnB
  obtain ⟨a', b', c'⟩ := nostd_root_spec (val x) n hn
  rw [a, b, c, a', b', c']; exact ⟨rfl, rfl, rfl⟩

/-- std configuration on digits (float arm abstract: any `Fl` with `Fl.Valid`; recursion depth ≥ 2) -/
theorem std_root_spec_D (P : Params) (hP : P.ValidMul) {Fl : F64} (hF : Fl.Valid) {d : Nat} (hd : 2 ≤ d)
    {x : List Nat} (hx : Canon x) (hlen : SizeOk x) {n : Nat} (hn : 1 ≤ n) (hnB : n ≤ B) :
    nthRootD P (stdSrcD P Fl d) x n = .ok (ofNat (Nat.nthRoot n (val x))) ∧
    sqrtD P (stdSrcD P Fl d) x = .ok (ofNat (Nat.nthRoot 2 (val x))) ∧
    cbrtD P (stdSrcD P Fl d) x = .ok (ofNat (Nat.nthRoot 3 (val x))) := by
  obtain ⟨a, b, c⟩ := roots_refine P hP (std_src_refines P hP Fl d) hx hlen hnB
  obtain ⟨a', b', c'⟩ := std_root_spec hF d (val x) n hd hn
  rw [a, b, c, a', b', c']; exact ⟨rfl, rfl, rfl⟩

/-- the std / no_std clause on digits: both configurations return the same outcome for every
    canonical x and every u32 degree (including 0, where both panic with the same class) -/
theorem root_config_independent_D (P : Params) (hP : P.ValidMul) {Fl : F64} (hF : Fl.Valid) {d : Nat}
    (hd : 2 ≤ d) {x : List Nat} (hx : Canon x) (hlen : SizeOk x) {n : Nat} (hnB : n ≤ B) :
    nthRootD P (stdSrcD P Fl d) x n = nthRootD P nostdSrcD x n ∧
    sqrtD P (stdSrcD P Fl d) x = sqrtD P nostdSrcD x ∧
    cbrtD P (stdSrcD P Fl d) x = cbrtD P nostdSrcD x := by
  obtain ⟨a, b, c⟩ := roots_refine P hP (std_src_refines P hP Fl d) hx hlen hnB
  obtain ⟨a', b', c'⟩ := roots_refine P hP nostd_src_refines hx hlen hnB
  obtain ⟨e1, e2, e3⟩ := root_config_independent hF d (val x) n hd
  rw [a, b, c, a', b', c', e1, e2, e3]; exact ⟨rfl, rfl, rfl⟩

/-- `BigInt::nth_root` on digits -/
theorem bigint_nth_root_spec_D (P : Params) (hP : P.ValidMul) {SD : GuessSrcD} {S : GuessSrc}
    (hS : SrcRefines SD S) {x : BigInt} (hx : x.Canon) (hlen : SizeOk x.mag) {n : Nat} (hnB : n ≤ B)
    (h2 : SqrtOk S x.val.natAbs) (h3 : CbrtOk S x.val.natAbs) (h4 : NthOk S x.val.natAbs n) :
    bigintNthRootD P SD x n =
      if x.val < 0 ∧ n % 2 = 0 then .error .imaginary
      else if n = 0 then .error .zeroroot
      else .ok (BigInt.ofInt (Int.sign x.val * (Nat.nthRoot n x.val.natAbs : Int))) := by
  rw [(bigint_roots_refine P hP hS hx hlen hnB).1, bigint_nth_root_spec x.val n h2 h3 h4]
  split
  · rfl
  · split <;> rfl

theorem bigint_sqrt_spec_D (P : Params) (hP : P.ValidMul) {SD : GuessSrcD} {S : GuessSrc}
    (hS : SrcRefines SD S) {x : BigInt} (hx : x.Canon) (hlen : SizeOk x.mag) (h2 : SqrtOk S x.val.natAbs) :
    bigintSqrtD P SD x =
      if x.val < 0 then .error .imaginary else .ok (BigInt.ofInt (Nat.nthRoot 2 x.val.natAbs : Int)) := by
  rw [(bigint_roots_refine P hP hS hx hlen (n := 2) (by decide)).2.1, bigint_sqrt_spec x.val h2]
  split <;> rfl

theorem bigint_cbrt_spec_D (P : Params) (hP : P.ValidMul) {SD : GuessSrcD} {S : GuessSrc}
    (hS : SrcRefines SD S) {x : BigInt} (hx : x.Canon) (hlen : SizeOk x.mag) (h3 : CbrtOk S x.val.natAbs) :
    bigintCbrtD P SD x = .ok (BigInt.ofInt (Int.sign x.val * (Nat.nthRoot 3 x.val.natAbs : Int))) := by
  rw [(bigint_roots_refine P hP hS hx hlen (n := 3) (by decide)).2.2, bigint_cbrt_spec x.val h3]
  rfl

/-- instantiated at the parameters extracted from the source: what the driver's model column computes
    (`stdSrcD NB.Gen.P floatF64 stdDepth`, and `nostdSrcD`) is, for every float evaluation satisfying
    `F64.Valid`, the canonical digit vector of Mathlib's floor root -/
theorem gen_root_spec {Fl : F64} (hF : Fl.Valid) {x : List Nat} (hx : Canon x) (hlen : SizeOk x)
    {n : Nat} (hn : 1 ≤ n) (hnB : n ≤ B) :
    nthRootD NB.Gen.P (stdSrcD NB.Gen.P Fl stdDepth) x n = .ok (ofNat (Nat.nthRoot n (val x))) ∧
    nthRootD NB.Gen.P nostdSrcD x n = .ok (ofNat (Nat.nthRoot n (val x))) :=
  ⟨(std_root_spec_D NB.Gen.P gen_params_valid_mul hF (le_refl 2) hx hlen hn hnB).1,
   (nostd_root_spec_D NB.Gen.P gen_params_valid_mul hx hlen hn hnB).1⟩

/-! ### non-vacuity -/

/-- a float evaluation satisfying the assumption: finite exactly below 2^1023, constant guess 1 -/
def exampleF64 : F64 where
  nth := fun x _ => if x < 2 ^ 1023 then some 1 else none
  sqrt := fun x => if x < 2 ^ 1023 then some 1 else none
  cbrt := fun x => if x < 2 ^ 1023 then some 1 else none

theorem exampleF64_valid : exampleF64.Valid where
  nth_pos := fun _ _ _ h => by simp only [exampleF64] at h; exact some_one_pos h
  nth_none := fun _ _ h => by simp only [exampleF64] at h; exact Nat.le_of_not_lt (some_one_none h)
  sqrt_pos := fun _ _ h => by simp only [exampleF64] at h; exact some_one_pos h
  sqrt_none := fun _ h => by simp only [exampleF64] at h; exact Nat.le_of_not_lt (some_one_none h)
  cbrt_pos := fun _ _ h => by simp only [exampleF64] at h; exact some_one_pos h
  cbrt_none := fun _ h => by simp only [exampleF64] at h; exact Nat.le_of_not_lt (some_one_none h)

example : nthRootG (stdSrc exampleF64 2) (2 ^ 3000 + 12345) 7 = nthRootG nostdSrc (2 ^ 3000 + 12345) 7 :=
  (root_config_independent exampleF64_valid 2 _ 7 (le_refl 2)).1

example : (17 : Nat) ^ 5 ≤ 1500000 ∧ 1500000 < (17 + 1) ^ 5 := by decide

example : Canon [5, B - 1, 7] ∧ SizeOk [5, B - 1, 7] := by
  constructor
  · decide
  · unfold SizeOk; decide

/-- a three-digit operand, degree 7, both configurations, at the generated parameters -/
example : nthRootD NB.Gen.P (stdSrcD NB.Gen.P exampleF64 2) [5, B - 1, 7] 7
    = nthRootD NB.Gen.P nostdSrcD [5, B - 1, 7] 7 :=
  (root_config_independent_D NB.Gen.P gen_params_valid_mul exampleF64_valid (le_refl 2)
    (by decide) (by unfold SizeOk; decide) (by decide)).1

example : (⟨.minus, [0, 1]⟩ : BigInt).Canon := by decide

end LayerLink

end NB
