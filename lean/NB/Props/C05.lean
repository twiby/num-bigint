/-
  C05 — Modular exponentiation and modular inverse are exact for every modulus.

  All theorems are about the model of the code paths (NB.Model.Monty: src/biguint/monty.rs at digit
  level; NB.Model.ModPow: src/biguint/power.rs `modpow`/`plain_modpow`, `BigUint::modinv`,
  `BigInt::modpow`, `BigInt::modinv` with the control flow of the source), which is compared with the
  real crate by the check of this property.

  Every internal assertion / overflow site of the model (`assert_ne!(b & 1, 0)`, `t + 1`,
  `debug_assert_eq!(k0·b, 1)`, the operand-length assertion of `montgomery`, `powers[..]` indexing,
  `debug_assert_ne!(r, 0)`, the unsigned subtractions in `modinv` and in the sign placement) is an
  explicit `.error` outcome of the model; the theorems show that none of them is reachable for
  canonical inputs (each spec has the shape `… = .ok …`; the two `modinv` theorems `∃ r, … = .ok r ∧ …`).  `sub_vv_spec` gets the Hacker's-Delight borrow formula
  by arithmetic on the top bits, without bit-blasting; `montgomery_spec` rests on the loop invariant
  `T·B = T_prev + x·y_i + m·t`, `T < B^n + m`.

  Layer link: the BigUint operators that NB.Model.ModPow (and the non-Montgomery steps of NB.montyModpow) take as the
  mathematical `* % / - <` are replaced by their digit-vector models in NB.Model.ModPowD; NB.Props.C05D proves that
  digit-level model equal to the one specified here and transfers every theorem below to it.  The driver runs the
  digit-level model.

  Hypotheses: canonical inputs (`Canon` for digit vectors, `BigInt.Canon`), a non-zero modulus, and — for
  `monty_modpow_spec`, `modpow_spec`, `bigint_modpow_spec` — the condition `P.ValidMonty` on the extracted window
  width, discharged for the parameters of the source by `gen_params_valid_monty`.

  Statements: `modpow_spec`, `modinv_spec`, `bigint_modpow_spec`, `bigint_modinv_spec` are the property.
  `plain_modpow_spec`, `monty_modpow_spec`, `montgomery_spec`, `inv_mod_alt_spec`, `add_mul_vvw_spec`, `sub_vv_spec` are
  the components they rest on; the `…_zero_mod` theorems state the panic on a zero modulus.

  The snake_case theorems of this file are the statements that are audited; where one repeats a camelCase lemma of
  NB.Lemmas.ModPow / NB.Lemmas.Monty word for word, that lemma carries the proof.
-/
import NB.Lemmas.ModPow
import NB.Lemmas.Monty
import NB.Model.AsmParams
namespace NB

/-- the extracted window width `w` must be positive, divide the digit width (the `while j < BITS` loop then
    takes exactly `64 / w` windows out of every exponent digit and `yi <<= w` never shifts by the full width),
    and agree with the extracted number of squarings per window.  `P.window ≤ 16` only records that the source's
    `1 << w`-entry table stays small; no theorem uses that conjunct -/
def Params.ValidMonty (P : Params) : Prop :=
  0 < P.window ∧ P.window ∣ 64 ∧ P.window ≤ 16 ∧ P.squarings = P.window
instance (P : Params) : Decidable P.ValidMonty := by unfold Params.ValidMonty; infer_instance

/-- the window width and the number of squarings extracted from src/biguint/monty.rs (`NB.Gen.P`) satisfy
    `ValidMonty`; evaluated again whenever the parameters are regenerated -/
theorem gen_params_valid_monty : NB.Gen.P.ValidMonty := by decide

/-- `plain_modpow(b, e, m)` (zero-digit skipping, trailing-zero stripping, early exit, last-digit
    handling) returns `b^e mod m`; for `e = 0` it returns `1` whatever the modulus (it is only
    called with an even modulus, where `1 = 1 mod m`). -/
theorem plain_modpow_spec (b : Nat) (e : List Nat) (m : Nat) (he : Canon e) (hm : m ≠ 0) :
    plainModpow b e m = .ok (if val e = 0 then 1 else b ^ val e % m) :=
  plainModpow_spec b e m he hm

/-- on every modulus `≥ 2` (in particular every even one) `plain_modpow` is exactly `b^e mod m` -/
theorem plain_modpow_spec_ge_two (b : Nat) (e : List Nat) (m : Nat) (he : Canon e) (hm : 2 ≤ m) :
    plainModpow b e m = .ok (b ^ val e % m) := by
  rw [plainModpow_spec b e m he (by omega)]
  by_cases h : val e = 0
  · simp [h, Nat.mod_eq_of_lt hm]
  · simp [h]

theorem plain_modpow_zero_mod (b : Nat) (e : List Nat) : plainModpow b e 0 = .error .zeromod := by
  simp [plainModpow]

/-- `BigUint::modinv`: returns `Some x` exactly when `gcd(a, m) = 1`; then `x ∈ [0, m)` and
    `a·x ≡ 1 (mod m)`; never panics for `m ≠ 0`. -/
theorem modinv_spec (a m : Nat) (hm : m ≠ 0) :
    ∃ r, modinvU a m = .ok r ∧ (r.isSome ↔ Nat.gcd a m = 1) ∧
      ∀ x, r = some x → x < m ∧ a * x % m = 1 % m :=
  modinvU_spec a m hm

theorem modinv_zero_mod (a : Nat) : modinvU a 0 = .error .zeromod := by simp [modinvU]

/-- `inv_mod_alt(b)` for an odd digit `b`: no assertion fires, `t + 1` never overflows, and the result
    `k` satisfies `k·b ≡ −1 (mod 2^64)` -/
theorem inv_mod_alt_spec (b : Nat) (hbB : b < B) (hb : b % 2 = 1) :
    ∃ k, invModAlt b = .ok k ∧ k < B ∧ (k * b + 1) % B = 0 :=
  invModAlt_spec b hbB hb

/-- `add_mul_vvw(z, x, y)` with carry-in `c`: `z' + B^n·carry = z + x·y + c` exactly; the carry word
    never overflows (the `wadd` inside is exact) -/
theorem add_mul_vvw_spec (z x : List Nat) (y c : Nat) (hl : x.length = z.length) (hz : DigitsOk z)
    (hx : DigitsOk x) (hy : y < B) (hc : c < B) :
    (addMulVVW z x y c).1.length = z.length ∧ DigitsOk (addMulVVW z x y c).1 ∧ (addMulVVW z x y c).2 < B ∧
    val (addMulVVW z x y c).1 + B ^ z.length * (addMulVVW z x y c).2 = val z + val x * y + c :=
  addMulVVW_spec z x y c hl hz hx hy hc

/-- `sub_vv(z, x, y)` with the Hacker's-Delight borrow: `z' + y + c = x + B^n·borrow`, borrow ∈ {0,1} -/
theorem sub_vv_spec (z x y : List Nat) (c : Nat) (hx : x.length = z.length) (hy : y.length = z.length)
    (dx : DigitsOk x) (dy : DigitsOk y) (hc : c ≤ 1) :
    (subVV z x y c).1.length = z.length ∧ DigitsOk (subVV z x y c).1 ∧ (subVV z x y c).2 ≤ 1 ∧
    val (subVV z x y c).1 + val y + c = val x + B ^ z.length * (subVV z x y c).2 :=
  subVV_spec z x y c hx hy dx dy hc

/-- almost-Montgomery multiplication: for operands of `n` proper digits (x, y need NOT be `< m`), an odd
    modulus and `k·m[0] ≡ −1 (mod B)`, `montgomery` does not hit its assertion and returns `n` proper
    digits — hence `z < B^n` — with `z·B^n ≡ x·y (mod m)`. -/
theorem montgomery_spec (x y m : List Nat) (k n m0 : Nat) (mt : List Nat)
    (hm : m = m0 :: mt) (hk : (k * m0 + 1) % B = 0)
    (hxl : x.length = n) (hyl : y.length = n) (hml : m.length = n)
    (hx : DigitsOk x) (hy : DigitsOk y) (hmo : DigitsOk m) :
    ∃ z, montgomery x y m k n = .ok z ∧ z.length = n ∧ DigitsOk z ∧ val z < B ^ n ∧
      val z * B ^ n ≡ val x * val y [MOD val m] := by
  obtain ⟨z, e, l, d, c⟩ := montgomery_core x y m k n m0 mt hm hk hxl hyl hml hx hy hmo
  exact ⟨z, e, l, d, by rw [← l]; exact val_lt d, c⟩

/-- `monty_modpow(x, y, m)` for an odd modulus returns the canonical digits of `x^y mod m`
    (padding, `rr`, the `2^w`-entry table, `w`-bit windows from the top with `w` squarings each, skipped
    squarings on the first window, conversion out, last reduction; `w = P.window`: 4 in the original source) -/
theorem monty_modpow_spec (P : Params) (hP : P.ValidMonty) (x y m : List Nat) (m0 : Nat) (mt : List Nat)
    (hm : m = m0 :: mt) (hodd : m0 % 2 = 1) (hx : DigitsOk x) (hy : DigitsOk y) (hmd : DigitsOk m) :
    montyModpow P x y m = .ok (ofNat (val x ^ val y % val m)) :=
  montyModpow_spec P hP.1 hP.2.1 hP.2.2.2 x y m m0 mt hm hodd hx hy hmd

/-- `BigUint::modpow`: for every non-zero modulus, odd (Montgomery) or even (square-and-multiply),
    the result is the canonical representation of `b^e mod m` -/
theorem modpow_spec (P : Params) (hP : P.ValidMonty) (b e m : List Nat) (hb : Canon b) (he : Canon e)
    (hm : Canon m) (hm0 : val m ≠ 0) :
    modpowU P b e m = .ok (ofNat (val b ^ val e % val m)) := by
  unfold modpowU
  cases m with
  | nil => simp [val] at hm0
  | cons m0 mt =>
    simp only [reduceCtorEq, if_false, isOddU]
    by_cases hodd : m0 % 2 = 1
    · simp only [hodd, decide_true, if_true]
      exact montyModpow_spec P hP.1 hP.2.1 hP.2.2.2 b e (m0 :: mt) m0 mt rfl hodd hb.1 he.1 hm.1
    · simp only [hodd, decide_false, Bool.false_eq_true, if_false]
      have hev := val_cons_mod_two m0 mt
      rw [plain_modpow_spec_ge_two (val b) e _ he (by omega)]

theorem modpow_zero_mod (P : Params) (b e : List Nat) : modpowU P b e [] = .error .zeromod := by
  simp [modpowU]

/-- `BigInt::modpow`: negative exponent → panic, zero modulus → panic, otherwise the floor-mod
    representative of `b^e` carrying the sign of `m` (`Int.fmod`) -/
theorem bigint_modpow_spec (P : Params) (hP : P.ValidMonty) (b e m : BigInt) (hb : b.Canon) (he : e.Canon)
    (hm : m.Canon) :
    BigInt.modpow P b e m =
      if e.val < 0 then .error .negexp
      else if m.val = 0 then .error .zeromod
      else .ok (BigInt.ofInt (Int.fmod (b.val ^ e.val.toNat) m.val)) :=
  bigint_modpow_of P b e m hb he hm (fun h0 => modpow_spec P hP b.mag e.mag m.mag hb.1 he.1 hm.1 h0)

/-- `BigInt::modinv` for `m ≠ 0`: `Some y` exactly when `gcd(a, m) = 1`; then `y` is canonical, lies in the
    documented interval `[0, m)` (for `m > 0`) or `(m, 0]` (for `m < 0`), and `a·y ≡ 1 (mod m)` -/
theorem bigint_modinv_spec (a m : BigInt) (ha : a.Canon) (hm : m.Canon) (hm0 : m.val ≠ 0) :
    ∃ r, BigInt.modinv a m = .ok r ∧ (r.isSome ↔ Int.gcd a.val m.val = 1) ∧
      ∀ y, r = some y → y.Canon ∧
        (if 0 < m.val then 0 ≤ y.val ∧ y.val < m.val else m.val < y.val ∧ y.val ≤ 0) ∧
        m.val ∣ a.val * y.val - 1 :=
  bigint_modinv_nonzero a m ha hm hm0

theorem bigint_modinv_zero_mod (a m : BigInt) (hm : m.Canon) (hm0 : m.val = 0) :
    BigInt.modinv a m = .error .zeromod := by
  have := bigint_natAbs_val hm
  rw [hm0] at this
  unfold BigInt.modinv
  rw [← this]; simp [modinvU]

/-! ## non-vacuity: the hypotheses are satisfiable on non-trivial inputs -/

example : Canon [B - 1, B - 1, 1] ∧ val [B - 1, B - 1, 1] ≠ 0 := by decide
example : (⟨.minus, [5, 7]⟩ : BigInt).Canon := by decide
example : DigitsOk [B - 1, 3] ∧ (B - 1) % 2 = 1 := by decide
example : (3 * 6148914691236517205 + 1) % B = 0 := by decide

end NB
