/-
  C07 — Bitwise logic, shifts and bit queries follow infinite two's-complement semantics.

  All theorems are about the executable model NB.Model.Bits / NB.Model.Shift, written routine by
  routine from src/biguint/{bits,shift}.rs, src/bigint/{bits,shift}.rs and the bit queries of
  src/biguint.rs / src/bigint.rs.  The specs are the mathematical objects themselves:

  * BigUint `& | ^`            : `Nat.land / lor / xor` of the values, canonical result
  * BigUint `<<`, `>>`          : `v * 2^k`, `v / 2^k` for every non-negative amount of every primitive
                                  type (incl. amounts past the length, the `usize`-saturating arm of
                                  `>>`, the `capacity overflow` arm of `<<`); negative amounts panic
  * BigInt `<<`, `>>`, `<<=`, `>>=` : `x * 2^k`, floor division `x / 2^k` = `Int.shiftRight`
  * `!x`                        : `-x - 1` (both the by-value and the by-reference impl)
  * `bit`                       : `Nat.testBit` / `Int.testBit` (two's complement for negatives)
  * BigUint `set_bit`           : `v ||| 2^k` / `Nat.ldiff v (2^k)`, plus the bit-level statement
  * `bits`                      : `Nat.size`; `trailing_zeros`: exponent of 2 in v; `trailing_ones`:
                                  exponent of 2 in v+1; `count_ones`: number of set bits
  * BigInt `set_bit`            : `Int.lor x 2^k` / `Int.ldiff x 2^k`, all five `set_negative_bit` sub-cases
  * BigInt `& | ^` (`&=`, `|=`, `^=` and the ref-ref forms), all nine sign pairs
                                : Mathlib's `Int.land`, `Int.lor`, `Int.xor`
  * every internal assertion (`debug_assert!` on carries, `unwrap`, `expect`) of these routines is
    an explicit `.error (.internal …)` in the model and is proved unreachable for canonical operands.

  Hypotheses that are not "operands canonical": `hlen : … < U64_RANGE / USIZE_RANGE` (the bit length of
  an operand fits u64 / its digit count fits usize — true of every `Vec`), used only by the right
  shifts where the code itself saturates at `usize::MAX` / compares with a `u64`; and
  `hcap : a ≠ [] → k.toNat / BITS < USIZE_RANGE` of `shl_spec`, `bigint_shl_spec`, `bigint_shlAssign_spec` (the digit
  count of the amount fits `usize`; beyond it a non-zero value gives `capacity overflow`, `shl_capacity`).

  Statements: every theorem of this file states the property for one operation, except `shr_parts` (the two ingredients
  of `>>` on a BigInt, used by `bigint_shr_spec` and `bigint_shrAssign_spec`).  This file alone is in `namespace NB.C07`
  (the other property files are in `NB`), so from outside the names read `C07.shr_spec`, `C07.bigint_bit_spec`, ….

  The `…_u` theorems restate the digit-list lemmas of NB.Lemmas.Bits (`bitU_spec`, `trailingZerosU_spec`, …) with the
  hypothesis "operand canonical" in place of `DigitsOk`.
-/
import NB.Lemmas.SetBit
namespace NB.C07

/-- `a &= &b`: the canonical representation of the bitwise and of the values -/
theorem andAssign_spec (a b : List Nat) (ha : Canon a) (hb : Canon b) :
    andAssign a b = ofNat (val a &&& val b) := by
  obtain ⟨h1, h2⟩ := andAssign_val_canon a b ha.1 hb.1
  rw [canon_eq_ofNat h2, h1]

/-- `&a & &b` (clones the shorter operand): the same value -/
theorem andRef_spec (a b : List Nat) (ha : Canon a) (hb : Canon b) :
    andRef a b = ofNat (val a &&& val b) := by
  unfold andRef; split
  · exact andAssign_spec a b ha hb
  · rw [andAssign_spec b a hb ha, Nat.land_comm]

/-- `a |= &b`: the canonical representation of the bitwise or of the values -/
theorem orAssign_spec (a b : List Nat) (ha : Canon a) (hb : Canon b) :
    orAssign a b = ofNat (val a ||| val b) := by
  obtain ⟨h1, h2⟩ := orAssign_val_canon a b ha hb
  rw [canon_eq_ofNat h2, h1]

/-- `&a | &b` (clones the longer operand): the same value -/
theorem orRef_spec (a b : List Nat) (ha : Canon a) (hb : Canon b) :
    orRef a b = ofNat (val a ||| val b) := by
  unfold orRef; split
  · exact orAssign_spec a b ha hb
  · rw [orAssign_spec b a hb ha, Nat.lor_comm]

/-- `a ^= &b`: the canonical representation of the bitwise xor of the values -/
theorem xorAssign_spec (a b : List Nat) (ha : Canon a) (hb : Canon b) :
    xorAssign a b = ofNat (val a ^^^ val b) := by
  obtain ⟨h1, h2⟩ := xorAssign_val_canon a b ha.1 hb.1
  rw [canon_eq_ofNat h2, h1]

/-- `&a ^ &b` (clones the longer operand): the same value -/
theorem xorRef_spec (a b : List Nat) (ha : Canon a) (hb : Canon b) :
    xorRef a b = ofNat (val a ^^^ val b) := by
  unfold xorRef; split
  · exact xorAssign_spec a b ha hb
  · rw [xorAssign_spec b a hb ha, Nat.xor_comm]

/-- `a << k` with a negative amount of any signed type panics -/
theorem shl_negative (a : List Nat) (k : Int) (hk : k < 0) : biguintShl a k = .error .negshift := by
  unfold biguintShl; simp [hk]

/-- `a >> k` with a negative amount of any signed type panics -/
theorem shr_negative (a : List Nat) (k : Int) (hk : k < 0) : biguintShr a k = .error .negshift := by
  unfold biguintShr; simp [hk]

/-- `a << k = a * 2^k` for every non-negative amount whose digit count fits `usize` (zero is
    returned unchanged for every amount) -/
theorem shl_spec (a : List Nat) (k : Int) (ha : Canon a) (hk : 0 ≤ k)
    (hcap : a ≠ [] → k.toNat / BITS < USIZE_RANGE) :
    biguintShl a k = .ok (ofNat (val a * 2 ^ k.toNat)) := by
  unfold biguintShl
  have hk' : ¬ k < 0 := by omega
  simp only [hk', if_false]
  by_cases h0 : a = []
  · subst h0; simp [val, ofNat]
  · simp only [h0, if_false]
    have hc : ¬ (k.toNat / BITS ≥ USIZE_RANGE) := by have := hcap h0; omega
    simp only [hc, if_false]
    obtain ⟨h1, h2⟩ := shl2_spec a (k.toNat / BITS) (k.toNat % BITS) ha.1 (Nat.mod_lt _ (by decide))
    rw [Nat.div_add_mod] at h1
    rw [canon_eq_ofNat h2, h1]

/-- beyond `usize::MAX` whole digits a non-zero value cannot be shifted: `capacity overflow` -/
theorem shl_capacity (a : List Nat) (k : Int) (hk : 0 ≤ k) (h0 : a ≠ [])
    (hcap : USIZE_RANGE ≤ k.toNat / BITS) : biguintShl a k = .error .capacity := by
  unfold biguintShl
  have hk' : ¬ k < 0 := by omega
  simp [hk', h0, hcap]

/-- `a >> k = ⌊a / 2^k⌋` for every non-negative amount, including amounts past the length and
    amounts whose digit count saturates `usize` (`hlen`: a `Vec` is shorter than `usize::MAX`) -/
theorem shr_spec (a : List Nat) (k : Int) (ha : Canon a) (hk : 0 ≤ k) (hlen : a.length < USIZE_RANGE) :
    biguintShr a k = .ok (ofNat (val a / 2 ^ k.toNat)) := by
  unfold biguintShr
  have hk' : ¬ k < 0 := by omega
  simp only [hk', if_false]
  by_cases h0 : a = []
  · subst h0; simp [val, ofNat]
  · simp only [h0, if_false]
    by_cases hq : k.toNat / BITS < USIZE_RANGE
    · simp only [hq, if_true]
      obtain ⟨h1, h2⟩ := shr2_spec a (k.toNat / BITS) (k.toNat % BITS) ha.1 (Nat.mod_lt _ (by decide))
      rw [Nat.div_add_mod] at h1
      rw [canon_eq_ofNat h2, h1]
    · simp only [hq, if_false]
      obtain ⟨h1, h2⟩ := shr2_spec a (USIZE_RANGE - 1) (k.toNat % BITS) ha.1 (Nat.mod_lt _ (by decide))
      rw [canon_eq_ofNat h2, h1]
      have hv := val_lt ha.1
      have hz : ∀ e, BITS * (USIZE_RANGE - 1) ≤ e → val a / 2 ^ e = 0 := by
        intro e he
        apply Nat.div_eq_of_lt
        calc val a < B ^ a.length := hv
          _ ≤ B ^ (USIZE_RANGE - 1) := Nat.pow_le_pow_right B_pos (Nat.le_pred_of_lt hlen)
          _ = 2 ^ (BITS * (USIZE_RANGE - 1)) := B_pow _
          _ ≤ 2 ^ e := Nat.pow_le_pow_right (by decide) he
      rw [hz _ (Nat.le_add_right _ _), hz k.toNat]
      exact (Nat.mul_le_mul_left _ ((Nat.pred_le _).trans (Nat.le_of_not_lt hq))).trans (Nat.mul_div_le _ _)

/-- bit `64*i + j` of the value is bit `j` of digit `i` (the positional meaning of digits at bit
    level; every other bit theorem rests on it) -/
theorem testBit_val_digit {ds : List Nat} (h : DigitsOk ds) (i j : Nat) (hj : j < BITS) :
    (val ds).testBit (BITS * i + j) = (ds.getD i 0).testBit j := testBit_val h i j hj

/-- `BigUint::bit` -/
theorem bit_spec_u (ds : List Nat) (h : Canon ds) (k : Nat) : bitU ds k = (val ds).testBit k :=
  bitU_spec ds h.1 k

/-- `BigUint::set_bit(k, true)`: canonical representation of `v ||| 2^k` -/
theorem set_bit_true_spec_u (ds : List Nat) (h : Canon ds) (k : Nat) :
    setBitU ds k true = ofNat (val ds ||| 2 ^ k) := by
  obtain ⟨h1, h2⟩ := setBitU_true_val_canon ds k h
  rw [canon_eq_ofNat h2, h1]

/-- `BigUint::set_bit(k, false)`: canonical representation of `v &&& ¬2^k` (`Nat.ldiff`) -/
theorem set_bit_false_spec_u (ds : List Nat) (h : Canon ds) (k : Nat) :
    setBitU ds k false = ofNat (Nat.ldiff (val ds) (2 ^ k)) := by
  obtain ⟨h1, h2⟩ := setBitU_false_val_canon ds k h
  rw [canon_eq_ofNat h2, h1]

/-- after `set_bit(k, b)` bit `k` reads `b` and every other bit is unchanged -/
theorem set_bit_testBit_u (ds : List Nat) (h : Canon ds) (k : Nat) (b : Bool) (i : Nat) :
    (val (setBitU ds k b)).testBit i = if i = k then b else (val ds).testBit i := by
  cases b with
  | true => rw [(setBitU_true_val_canon ds k h).1, Nat.testBit_or, Nat.testBit_two_pow, or_decide_eq]
  | false => rw [(setBitU_false_val_canon ds k h).1, Nat.testBit_ldiff, Nat.testBit_two_pow, and_not_decide_eq]

/-- `BigUint::bits` = `Nat.size` (number of bits of the value; 0 for 0) -/
theorem bits_spec_u (ds : List Nat) (h : Canon ds) : bitsU ds = Nat.size (val ds) :=
  bitsU_eq_size ds h

/-- `BigUint::bits` of a non-zero value `v`: `2^(bits-1) ≤ v < 2^bits` -/
theorem bits_bounds_u (ds : List Nat) (h : Canon ds) (hne : ds ≠ []) :
    2 ^ (bitsU ds - 1) ≤ val ds ∧ val ds < 2 ^ bitsU ds :=
  ⟨((bitsU_bounds ds h).2 hne).2, (bitsU_bounds ds h).1⟩

/-- `BigUint::trailing_zeros`: `None` exactly for zero, otherwise the exponent of 2 in the value -/
theorem trailing_zeros_spec_u (ds : List Nat) (h : Canon ds) :
    (val ds = 0 → trailingZerosU ds = none) ∧
    (val ds ≠ 0 → ∃ t m, trailingZerosU ds = some t ∧ val ds = 2 ^ t * (2 * m + 1)) :=
  trailingZerosU_spec ds h.1

/-- `BigUint::trailing_ones`: the exponent of 2 in `value + 1`, i.e. the number of low one bits -/
theorem trailing_ones_spec_u (ds : List Nat) (h : Canon ds) :
    ∃ m, val ds + 1 = 2 ^ (trailingOnesU ds) * (2 * m + 1) :=
  trailingOnesU_spec ds h.1

/-- `BigUint::trailing_ones` in bit form: the bits below it are set, the bit at it is clear -/
theorem trailing_ones_testBit_u (ds : List Nat) (h : Canon ds) :
    (∀ j, j < trailingOnesU ds → (val ds).testBit j = true) ∧
    (val ds).testBit (trailingOnesU ds) = false := by
  obtain ⟨m, hm⟩ := trailingOnesU_spec ds h.1
  have hv : val ds = 2 ^ trailingOnesU ds * (2 * m + 1) - 1 := by omega
  rw [hv]
  constructor
  · intro j hj
    rw [testBit_pred_odd_mul, if_pos hj]
  · rw [testBit_pred_odd_mul, if_neg (Nat.lt_irrefl _), if_pos rfl]

/-- `BigUint::count_ones`: the number of set bits of the value -/
theorem count_ones_spec_u (ds : List Nat) (h : Canon ds) :
    countOnesU ds = ((List.range (BITS * ds.length)).filter (fun i => (val ds).testBit i)).length :=
  countOnesU_spec ds h.1

/-- `x << k` on a BigInt with a negative amount panics -/
theorem bigint_shl_negative (x : BigInt) (k : Int) (hk : k < 0) : BigInt.shl x k = .error .negshift := by
  unfold BigInt.shl; rw [shl_negative _ _ hk]; rfl

/-- `x << k = x * 2^k` -/
theorem bigint_shl_spec (x : BigInt) (k : Int) (hx : x.Canon) (hk : 0 ≤ k)
    (hcap : x.mag ≠ [] → k.toNat / BITS < USIZE_RANGE) :
    BigInt.shl x k = .ok (BigInt.ofInt (x.val * 2 ^ k.toNat)) := by
  unfold BigInt.shl
  rw [shl_spec x.mag k hx.1 hk hcap]
  show Except.ok (BigInt.fromBiguint _ _) = _
  rw [fromBiguint_ofNat, shl_eq_ofInt hx, bigint_ofInt_val]

/-- `x <<= k` leaves the same canonical value (the sign field is not touched) -/
theorem bigint_shlAssign_spec (x : BigInt) (k : Int) (hx : x.Canon) (hk : 0 ≤ k)
    (hcap : x.mag ≠ [] → k.toNat / BITS < USIZE_RANGE) :
    BigInt.shlAssign x k = .ok (BigInt.ofInt (x.val * 2 ^ k.toNat)) := by
  unfold BigInt.shlAssign
  rw [shl_spec x.mag k hx.1 hk hcap]
  exact congrArg Except.ok (shl_eq_ofInt hx _)

/-- the two ingredients of `>>` on a BigInt: whether to round down (`rd`) and the shifted magnitude `q`;
    the floor quotient has magnitude `q + rd` -/
theorem shr_parts (x : BigInt) (k : Int) (hx : x.Canon) (hk : 0 ≤ k)
    (hlen : BITS * x.mag.length < U64_RANGE) :
    ∃ rd : Bool, shrRoundDown x k = .ok rd ∧
      biguintShr x.mag k = .ok (ofNat (val x.mag / 2 ^ k.toNat)) ∧
      (rd = true → x.sign = .minus) ∧
      x.val / 2 ^ k.toNat = BigInt.val ⟨x.sign, ofNat (val x.mag / 2 ^ k.toNat + rd.toNat)⟩ := by
  -- `64 * len < 2^64`, so `len < 2^64`
  have hl : x.mag.length < USIZE_RANGE := by unfold USIZE_RANGE U64_RANGE BITS at *; omega
  have hshr := shr_spec x.mag k hx.1 hk hl
  obtain ⟨s, m⟩ := x
  cases s with
  | minus =>
    refine ⟨_, shrRoundDown_minus m k hx.1 (bigint_mag_ne hx (by decide)) hk hlen, hshr,
      fun _ => rfl, ?_⟩
    rw [bigint_val_minus, bigint_val_minus, ofNat_val, neg_ediv_pow]
    by_cases hr : val m % 2 ^ k.toNat = 0
    · rw [if_pos hr, decide_eq_false (not_not.2 hr), Bool.toNat_false, Nat.add_zero, sub_zero]
    · rw [if_neg hr, decide_eq_true hr, Bool.toNat_true, Nat.cast_succ, neg_add, sub_eq_add_neg]
  | nosign =>
    exact ⟨false, shrRoundDown_nonneg _ _ (by simp), hshr, Bool.noConfusion, Int.zero_ediv _⟩
  | plus =>
    refine ⟨false, shrRoundDown_nonneg _ _ (by simp), hshr, Bool.noConfusion, ?_⟩
    rw [bigint_val_plus, bigint_val_plus, ofNat_val, Bool.toNat_false, Nat.add_zero, Int.natCast_ediv]
    push_cast; rfl

/-- `x >> k = ⌊x / 2^k⌋` (toward −∞), for every non-negative amount of every type
    (`hlen`: the bit length of the operand fits `u64`, as `bits()` assumes) -/
theorem bigint_shr_spec (P : Params) (x : BigInt) (k : Int) (hx : x.Canon) (hk : 0 ≤ k)
    (hlen : BITS * x.mag.length < U64_RANGE) :
    BigInt.shr P x k = .ok (BigInt.ofInt (x.val / 2 ^ k.toNat)) := by
  obtain ⟨rd, h1, h2, -, h4⟩ := shr_parts x k hx hk hlen
  unfold BigInt.shr
  rw [h1, h2, h4, ← fromBiguint_ofNat]
  cases rd with
  | false => rfl
  | true =>
    show Except.ok (BigInt.fromBiguint _ (addAssignU32 P _ 1)) = _
    rw [addAssignU32_spec P _ 1 (ofNat_canon _) (by decide), ofNat_val]; rfl

/-- `x >> k` is Lean's arithmetic shift `Int.shiftRight` (`>>>`) of the value -/
theorem bigint_shr_eq_shiftRight (P : Params) (x : BigInt) (k : Int) (hx : x.Canon) (hk : 0 ≤ k)
    (hlen : BITS * x.mag.length < U64_RANGE) :
    BigInt.shr P x k = .ok (BigInt.ofInt (x.val >>> k.toNat)) := by
  rw [bigint_shr_spec P x k hx hk hlen, Int.shiftRight_eq_div_pow]; norm_cast

/-- `x >>= k` gives the same canonical value `⌊x / 2^k⌋` as `x >> k` -/
theorem bigint_shrAssign_spec (P : Params) (x : BigInt) (k : Int) (hx : x.Canon) (hk : 0 ≤ k)
    (hlen : BITS * x.mag.length < U64_RANGE) :
    BigInt.shrAssign P x k = .ok (BigInt.ofInt (x.val / 2 ^ k.toNat)) := by
  obtain ⟨rd, h1, h2, h3, h4⟩ := shr_parts x k hx hk hlen
  unfold BigInt.shrAssign
  rw [h1, h2, h4, ← fromBiguint_ofNat]
  cases rd with
  | false =>
    have hs : x.sign = .nosign → ofNat (val x.mag / 2 ^ k.toNat) = [] := fun e => by
      rw [hx.2.mp e, show val [] = 0 from rfl, Nat.zero_div, ofNat_zero]
    rw [Bool.toNat_false, Nat.add_zero, fromBiguint_eq_ite _ _ hs]
    show (if ofNat _ = [] then _ else _) = _
    split <;> rfl
  | true =>
    show Except.ok (BigInt.mk _ (addAssignU32 P _ 1)) = _
    rw [addAssignU32_spec P _ 1 (ofNat_canon _) (by decide), ofNat_val, h3 rfl, Bool.toNat_true,
      fromBiguint_eq_ite _ _ Sign.noConfusion, if_neg ((ofNat_eq_nil_iff _).not.2 (Nat.succ_ne_zero _))]

/-- `!&x = −x − 1` -/
theorem bigint_notRef_spec (P : Params) (x : BigInt) (hx : x.Canon) :
    BigInt.notRef P x = .ok (BigInt.ofInt (-x.val - 1)) := by
  unfold BigInt.notRef
  obtain ⟨s, m⟩ := x
  cases s with
  | nosign =>
    show Except.ok (⟨.minus, [1]⟩ : BigInt) = .ok (BigInt.ofInt (-((1 : Nat) : Int)))
    rw [ofInt_negNatCast_of_pos (by decide), ofNat_one]
  | plus =>
    have h := minus_addOne_eq_ofInt P m hx.1
    have hne : addAssignU32 P m 1 ≠ [] := by
      rw [addAssignU32_spec P m 1 hx.1 (by decide), ne_eq, ofNat_eq_nil_iff]; exact Nat.succ_ne_zero _
    simp only [BigInt.fromU, hne, if_false, BigInt.neg, Sign.neg, h, bigint_val_plus]
  | minus =>
    have hpos : 0 < val m := canon_val_pos hx.1 (bigint_mag_ne hx (by simp))
    simp only
    rw [subAssignU32_spec P m hx.1 hpos, bigint_val_minus]
    show Except.ok _ = _
    rw [fromU_ofNat]
    congr 2; omega

/-- `!x = −x − 1` (by value) -/
theorem bigint_notVal_spec (P : Params) (x : BigInt) (hx : x.Canon) :
    BigInt.notVal P x = .ok (BigInt.ofInt (-x.val - 1)) := by
  unfold BigInt.notVal
  obtain ⟨s, m⟩ := x
  cases s with
  | nosign => rw [show m = [] from hx.2.mp rfl]; exact congrArg _ (minus_addOne_eq_ofInt P [] canon_nil)
  | plus => exact congrArg _ (minus_addOne_eq_ofInt P m hx.1)
  | minus =>
    have hpos : 0 < val m := canon_val_pos hx.1 (bigint_mag_ne hx (by simp))
    simp only
    rw [subAssignU32_spec P m hx.1 hpos, bigint_val_minus,
      show -(-(val m : Int)) - 1 = ((val m - 1 : Nat) : Int) by omega, ← fromU_ofNat]
    show Except.ok _ = Except.ok (if _ then _ else _)
    split <;> simp [*]

/-- `x.bit(k)` is bit `k` of the infinite two's complement expansion of `x` -/
theorem bigint_bit_spec (x : BigInt) (k : Nat) (hx : x.Canon) :
    BigInt.bit x k = .ok (Int.testBit x.val k) := by
  unfold BigInt.bit
  obtain ⟨s, m⟩ := x
  cases s with
  | nosign => rw [show m = [] from hx.2.mp rfl]; simp [bitU, BigInt.val, Int.testBit]
  | plus =>
    simp only [reduceCtorEq, if_false]
    rw [bitU_spec m hx.1.1, bigint_val_plus]; rfl
  | minus =>
    have hpos : 0 < val m := canon_val_pos hx.1 (bigint_mag_ne hx (by simp))
    simp only [if_true]
    -- `-v` is `Int.negSucc (v - 1)`, whose bits are the complemented bits of `v - 1`
    rw [bigint_val_minus, ← Nat.succ_pred_eq_of_pos hpos, neg_succ_cast]
    show _ = Except.ok (!(val m - 1).testBit k)
    by_cases hge : k ≥ BITS * m.length
    · simp only [hge, if_true]
      have : (val m - 1).testBit k = false := by
        apply Nat.testBit_lt_two_pow
        calc val m - 1 < B ^ m.length := Nat.lt_of_le_of_lt (Nat.sub_le _ _) (val_lt hx.1.1)
          _ = 2 ^ (BITS * m.length) := B_pow _
          _ ≤ 2 ^ k := Nat.pow_le_pow_right (by decide) hge
      rw [this]; rfl
    · simp only [hge, if_false]
      obtain ⟨t, q, ht, hq⟩ := (trailingZerosU_spec m hx.1.1).2 hpos.ne'
      rw [ht]
      simp only
      rw [hq, testBit_pred_odd_mul, bitU_spec m hx.1.1, hq]
      congr 1
      rcases Nat.lt_trichotomy k t with h | h | h
      · simp [Nat.compare_eq_lt.2 h, h]
      · subst h; simp
      · simp [Nat.compare_eq_gt.2 h, Nat.lt_asymm h, Nat.ne_of_gt h]

/-- `x &= &y` for all nine sign pairs -/
theorem bigint_andAssign_spec (x y : BigInt) (hx : x.Canon) (hy : y.Canon) :
    BigInt.andAssign x y = .ok (BigInt.ofInt (Int.land x.val y.val)) := by
  obtain ⟨sx, mx⟩ := x
  obtain ⟨sy, my⟩ := y
  unfold BigInt.andAssign
  cases sx <;> cases sy <;> simp only
  case nosign.nosign | nosign.plus | nosign.minus =>
    rw [show (⟨.nosign, mx⟩ : BigInt).val = 0 from rfl, int_zero_land]
    exact congrArg _ (bigint_canon_eq_ofInt hx)
  case plus.nosign | minus.nosign =>
    rw [show (⟨.nosign, my⟩ : BigInt).val = 0 from rfl, int_land_zero]; rfl
  case plus.plus =>
    rw [andAssign_spec mx my hx.1 hy.1, plus_if_ofNat]; rfl
  case plus.minus =>
    exact bitandPosNeg_spec.norm hx hy
  case minus.plus =>
    exact bitandNegPos_spec.norm hx hy
  case minus.minus =>
    exact bitandNegNeg_spec.norm hx hy

/-- `&x & &y` for all nine sign pairs -/
theorem bigint_andRef_spec (x y : BigInt) (hx : x.Canon) (hy : y.Canon) :
    BigInt.andRef x y = .ok (BigInt.ofInt (Int.land x.val y.val)) := by
  have h1 := bigint_andAssign_spec x y hx hy
  have h2 := bigint_andAssign_spec y x hy hx
  rw [int_land_comm] at h2
  obtain ⟨sx, mx⟩ := x
  obtain ⟨sy, my⟩ := y
  unfold BigInt.andRef
  cases sx <;> cases sy <;> simp only
  case nosign.nosign | nosign.plus | nosign.minus =>
    rw [show (⟨.nosign, mx⟩ : BigInt).val = 0 from rfl, int_zero_land]; rfl
  case plus.nosign | minus.nosign =>
    rw [show (⟨.nosign, my⟩ : BigInt).val = 0 from rfl, int_land_zero]; rfl
  case plus.plus =>
    rw [andRef_spec mx my hx.1 hy.1, fromU_ofNat]; rfl
  case plus.minus => exact h1
  case minus.plus => exact h2
  case minus.minus => split <;> assumption

/-- `x |= &y` for all nine sign pairs -/
theorem bigint_orAssign_spec (x y : BigInt) (hx : x.Canon) (hy : y.Canon) :
    BigInt.orAssign x y = .ok (BigInt.ofInt (Int.lor x.val y.val)) := by
  obtain ⟨sx, mx⟩ := x
  obtain ⟨sy, my⟩ := y
  unfold BigInt.orAssign
  cases sx <;> cases sy <;> simp only
  case nosign.nosign | plus.nosign | minus.nosign =>
    rw [show (⟨.nosign, my⟩ : BigInt).val = 0 from rfl, int_lor_zero, ← bigint_canon_eq_ofInt hx]
  case nosign.plus | nosign.minus =>
    rw [show (⟨.nosign, mx⟩ : BigInt).val = 0 from rfl, int_zero_lor, ← bigint_canon_eq_ofInt hy]
  case plus.plus =>
    rw [orAssign_spec mx my hx.1 hy.1]
    have hpos : 0 < val mx ||| val my :=
      Nat.lt_of_lt_of_le (canon_val_pos hx.1 (bigint_mag_ne hx (by simp))) Nat.left_le_or
    rw [← ofInt_natCast_of_pos hpos]; rfl
  case plus.minus =>
    exact bitorPosNeg_spec.norm hx hy
  case minus.plus =>
    exact bitorNegPos_spec.norm hx hy
  case minus.minus =>
    exact bitorNegNeg_spec.norm hx hy

/-- `&x | &y` for all nine sign pairs -/
theorem bigint_orRef_spec (x y : BigInt) (hx : x.Canon) (hy : y.Canon) :
    BigInt.orRef x y = .ok (BigInt.ofInt (Int.lor x.val y.val)) := by
  have h1 := bigint_orAssign_spec x y hx hy
  have h2 := bigint_orAssign_spec y x hy hx
  rw [int_lor_comm] at h2
  obtain ⟨sx, mx⟩ := x
  obtain ⟨sy, my⟩ := y
  unfold BigInt.orRef
  cases sx <;> cases sy <;> simp only
  case nosign.nosign | nosign.plus | nosign.minus =>
    rw [show (⟨.nosign, mx⟩ : BigInt).val = 0 from rfl, int_zero_lor, ← bigint_canon_eq_ofInt hy]
  case plus.nosign | minus.nosign =>
    rw [show (⟨.nosign, my⟩ : BigInt).val = 0 from rfl, int_lor_zero, ← bigint_canon_eq_ofInt hx]
  case plus.plus =>
    rw [orRef_spec mx my hx.1 hy.1, fromU_ofNat]; rfl
  case plus.minus => exact h2
  case minus.plus => exact h1
  case minus.minus => split <;> assumption

/-- `x ^= &y` for all nine sign pairs -/
theorem bigint_xorAssign_spec (x y : BigInt) (hx : x.Canon) (hy : y.Canon) :
    BigInt.xorAssign x y = .ok (BigInt.ofInt (Int.xor x.val y.val)) := by
  obtain ⟨sx, mx⟩ := x
  obtain ⟨sy, my⟩ := y
  unfold BigInt.xorAssign
  cases sx <;> cases sy <;> simp only
  case nosign.nosign | plus.nosign | minus.nosign =>
    rw [show (⟨.nosign, my⟩ : BigInt).val = 0 from rfl, int_xor_zero, ← bigint_canon_eq_ofInt hx]
  case nosign.plus | nosign.minus =>
    rw [show (⟨.nosign, mx⟩ : BigInt).val = 0 from rfl, int_zero_xor, ← bigint_canon_eq_ofInt hy]
  case plus.plus =>
    rw [xorAssign_spec mx my hx.1 hy.1, plus_if_ofNat]; rfl
  case plus.minus =>
    exact bitxorPosNeg_spec.norm hx hy
  case minus.plus =>
    exact bitxorNegPos_spec.norm hx hy
  case minus.minus =>
    exact bitxorNegNeg_spec.norm hx hy

/-- `&x ^ &y` for all nine sign pairs -/
theorem bigint_xorRef_spec (x y : BigInt) (hx : x.Canon) (hy : y.Canon) :
    BigInt.xorRef x y = .ok (BigInt.ofInt (Int.xor x.val y.val)) := by
  unfold BigInt.xorRef
  split
  · exact bigint_xorAssign_spec x y hx hy
  · rw [bigint_xorAssign_spec y x hy hx, int_xor_comm]

/-- `x.set_bit(k, v)`: the canonical representation of `x | 2^k` (v = true) resp. `x & !2^k`
    (v = false, Mathlib's `Int.ldiff`) on the infinite two's complement expansion -/
theorem bigint_set_bit_spec (x : BigInt) (k : Nat) (v : Bool) (hx : x.Canon) :
    BigInt.setBit x k v = .ok (BigInt.ofInt
      (if v then Int.lor x.val ((2 ^ k : Nat) : Int) else Int.ldiff x.val ((2 ^ k : Nat) : Int))) := by
  unfold BigInt.setBit
  have hplus : ∀ (m : List Nat), Canon m →
      BigInt.normalizeI ⟨.plus, setBitU m k v⟩ = BigInt.ofInt
        (if v then Int.lor (val m : Int) ((2 ^ k : Nat) : Int) else Int.ldiff (val m : Int) ((2 ^ k : Nat) : Int)) := by
    intro m hm
    cases v with
    | true =>
      obtain ⟨s1, s2⟩ := setBitU_true_val_canon m k hm
      rw [normalizeI_eq (by decide) s2.1, bigint_val_plus, s1]; rfl
    | false =>
      obtain ⟨s1, s2⟩ := setBitU_false_val_canon m k hm
      rw [normalizeI_eq (by decide) s2.1, bigint_val_plus, s1]; rfl
  obtain ⟨s, m⟩ := x
  cases s with
  | plus => exact congrArg Except.ok (hplus m hx.1)
  | nosign =>
    obtain rfl : m = [] := hx.2.mp rfl
    cases v with
    | true => exact congrArg Except.ok (hplus [] canon_nil)
    | false =>
      -- `0 & !2^k = 0`
      show Except.ok _ = Except.ok (BigInt.ofInt ((Nat.ldiff 0 (2 ^ k) : Nat) : Int))
      rw [Nat.le_zero.mp (ldiff_le 0 _)]; rfl
  | minus =>
    have hne := bigint_mag_ne hx (by simp)
    obtain ⟨out, h1, h2, h3⟩ := setNegativeBit_spec m k v hx.1 hne
    simp only
    rw [h1]
    show Except.ok _ = _
    rw [normalizeI_eq (by decide) h2, bigint_val_minus, h3,
      negSetTarget_int _ _ _ (canon_val_pos hx.1 hne)]; rfl

/-- `set_negative_bit`'s `unwrap`s, its slice indexing and its `debug_assert_eq!(carry_in, 0)` cannot fire -/
theorem setNegativeBit_no_internal (data : List Nat) (k : Nat) (v : Bool) (h : Canon data) (hne : data ≠ []) :
    ∃ out, setNegativeBit data k v = .ok out := by
  obtain ⟨out, h1, _⟩ := setNegativeBit_spec data k v h hne; exact ⟨out, h1⟩

/-- after `set_bit(k, b)` bit `k` of the two's complement expansion reads `b`, all others are unchanged -/
theorem bigint_set_bit_testBit (x : BigInt) (k : Nat) (b : Bool) (hx : x.Canon) (i : Nat) :
    ∃ y, BigInt.setBit x k b = .ok y ∧ y.Canon ∧
      Int.testBit y.val i = if i = k then b else Int.testBit x.val i := by
  refine ⟨_, bigint_set_bit_spec x k b hx, bigint_ofInt_canon _, ?_⟩
  rw [bigint_ofInt_val]
  have hp : Int.testBit ((2 ^ k : Nat) : Int) i = decide (k = i) := by
    show Nat.testBit (2 ^ k) i = _
    exact Nat.testBit_two_pow
  cases b with
  | true => rw [if_pos rfl, Int.testBit_lor, hp, or_decide_eq]
  | false => rw [if_neg Bool.false_ne_true, Int.testBit_ldiff, hp, and_not_decide_eq]

/-! Every `debug_assert!` / `unwrap` / `expect` of the modelled routines is an `.error (.internal …)`
outcome of the model.  The `_spec` theorems above show `.ok …` for all canonical operands, so none
of them can fire; the statements below spell that out per routine. -/

/-- none of the nine `bit{and,or,xor}_{pos,neg}_{pos,neg}` routines of src/bigint/bits.rs runs into one of its
    `debug_assert!`s on canonical non-zero magnitudes (in the order and: pos-neg, neg-pos, neg-neg; or; xor) -/
theorem signed_routines_no_internal (a b : List Nat) (ha : Canon a) (hb : Canon b)
    (hane : a ≠ []) (hbne : b ≠ []) :
    (∃ r, bitandPosNeg a b = .ok r) ∧ (∃ r, bitandNegPos a b = .ok r) ∧ (∃ r, bitandNegNeg a b = .ok r) ∧
    (∃ r, bitorPosNeg a b = .ok r) ∧ (∃ r, bitorNegPos a b = .ok r) ∧ (∃ r, bitorNegNeg a b = .ok r) ∧
    (∃ r, bitxorPosNeg a b = .ok r) ∧ (∃ r, bitxorNegPos a b = .ok r) ∧ (∃ r, bitxorNegNeg a b = .ok r) :=
  ⟨bitandPosNeg_spec.ok ha hb hane hbne, bitandNegPos_spec.ok ha hb hane hbne,
    bitandNegNeg_spec.ok ha hb hane hbne, bitorPosNeg_spec.ok ha hb hane hbne,
    bitorNegPos_spec.ok ha hb hane hbne, bitorNegNeg_spec.ok ha hb hane hbne,
    bitxorPosNeg_spec.ok ha hb hane hbne, bitxorNegPos_spec.ok ha hb hane hbne,
    bitxorNegNeg_spec.ok ha hb hane hbne⟩

/-- `shr_round_down`'s `expect("negative values are non-zero")` cannot fire -/
theorem shrRoundDown_no_internal (x : BigInt) (k : Int) (hx : x.Canon) :
    ∃ b, shrRoundDown x k = .ok b := by
  unfold shrRoundDown
  by_cases hs : x.sign = .minus
  · rcases NB.bigint_canon_cases hx with ⟨_, _, hpos⟩ | ⟨h0, _, _⟩ | ⟨h0, _, _⟩
    · obtain ⟨t, m, ht, _⟩ := (trailingZerosU_spec x.mag hx.1.1).2 hpos.ne'
      rw [if_pos hs, ht]; exact ⟨_, rfl⟩
    · rw [h0] at hs; cases hs
    · rw [h0] at hs; cases hs
  · rw [if_neg hs]; exact ⟨_, rfl⟩

/-- a negative amount panics in `>>` on a BigInt as well: `shr_round_down` comes first and succeeds -/
theorem bigint_shr_negative (P : Params) (x : BigInt) (k : Int) (hx : x.Canon) (hk : k < 0) :
    BigInt.shr P x k = .error .negshift := by
  obtain ⟨b, hb⟩ := shrRoundDown_no_internal x k hx
  unfold BigInt.shr
  rw [hb, shr_negative _ _ hk]; rfl

/-! non-vacuity: the hypotheses hold on concrete multi-digit operands -/

example : Canon [0, 0, B - 1] ∧ Canon [B - 1, B - 1] := by decide
example : (⟨.minus, [0, 1]⟩ : BigInt).Canon ∧ (⟨.minus, [B - 1]⟩ : BigInt).Canon := by decide
-- `-(B-1) & -2 = -B`: the re-negation carry pushes an extra digit
example : BigInt.andAssign ⟨.minus, [B - 1]⟩ ⟨.minus, [2]⟩ = .ok ⟨.minus, [0, 1]⟩ := by decide
-- `-(B+1) >> 64 = -2` (floor)
example : BigInt.shr NB.Gen.P ⟨.minus, [1, 1]⟩ 64 = .ok ⟨.minus, [2]⟩ := by decide

end NB.C07
