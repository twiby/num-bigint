/-
  NB.Props.C15Div — C15's clause about the hardware divide: `div_wide` executes the x86 `div`
  instruction, which raises #DE (SIGFPE) unless `hi < divisor`.  In the model `divWide` returns the
  internal error "div_wide: hi >= divisor (#DE)" exactly in that case, so "never faults" is the statement
  that no routine reaching `divWide` can return an internal error.  These are corollaries of C03's
  exactness theorems (the loop invariant `rem < b` / the normalised estimate `a0 < b0`), restated here
  so that the C15 check audits them against the current source.
-/
import NB.Props.C03
namespace NB.C15Div

/-- the instruction itself: with `hi < d` it is the exact 128-by-64 division and cannot fault -/
theorem div_wide_ok (hi lo d : Nat) (h : hi < d) :
    divWide hi lo d = .ok ((hi * B + lo) / d, (hi * B + lo) % d) :=
  divWide_ok h

/-- … and with `hi ≥ d` (in particular `d = 0`) the model reports the fault -/
theorem div_wide_fault (hi lo d : Nat) (h : ¬ hi < d) : ∃ tag, divWide hi lo d = .error (.internal tag) :=
  ⟨_, if_neg h⟩

/-- `div_rem_digit` (every `BigUint / u32|u64`, `/=`, the radix output loop): a zero divisor is the documented
    panic BEFORE the loop, and no `div` instruction inside it can fault, for every digit vector -/
theorem div_rem_digit_no_fault (a : List Nat) (b : Nat) (ha : DigitsOk a) (tag : String) :
    divRemDigit a b ≠ .error (.internal tag) :=
  not_internal_of_spec (div_rem_digit_spec a b ha) tag

theorem rem_digit_no_fault (a : List Nat) (b : Nat) (ha : DigitsOk a) (tag : String) :
    remDigit a b ≠ .error (.internal tag) :=
  not_internal_of_spec (rem_digit_spec a b ha) tag

/-- Knuth D (`div_rem_ref`, hence every BigUint/BigInt division form): the 2-by-1 estimate `div_wide(a0, a1, b0)` is only
    issued with `a0 < b0` -/
theorem div_rem_no_fault (P : Params) (a b : List Nat) (ha : Canon a) (hb : Canon b) (tag : String) :
    divRemRef P a b ≠ .error (.internal tag) :=
  div_rem_no_internal P a b ha hb tag

/-- the zero divisor is reported as the documented panic, never handed to the instruction -/
theorem div_rem_digit_zero (a : List Nat) : divRemDigit a 0 = .error .divzero :=
  if_pos rfl

theorem rem_digit_zero (a : List Nat) : remDigit a 0 = .error .divzero :=
  if_pos rfl

end NB.C15Div
