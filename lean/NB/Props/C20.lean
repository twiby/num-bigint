/-
  C20 — Multiplication cost grows sub-quadratically with operand size.

  Model: NB.Model.Cost.  `Cost.mac3` is the dispatch of `mac3` instrumented with the work counter of
  the Rust hook (row length added per non-zero multiplier digit in `mac_digit`); the check compares
  it for equality with the real counter.  `Cost.W` is the nominal-length recurrence.

  The bound `cost ≤ x.len · y.len` holds for all parameter records with `ValidMul ∧ ValidCost`, all
  digit contents and every fuel (recursion on the fuel; the bound is monotone in both lengths, so
  shortened intermediates are covered).  The size tables are over the generated parameters
  `NB.Gen.P`, by kernel evaluation.  The exact cost is data dependent and not monotone in the operand
  lengths across a regime switch, so there is no all-data theorem `cost ≤ W`; the link between `W`,
  `Cost.mac3` and the real counter is the measured three-way comparison of tools/check.py (special
  step `c20.special`).

  Statements: `cost_le_schoolbook`, `cost_mul_le_schoolbook` (all data) and the tables
  `W_doubling_table`, `W_4096_quarter`, `W_unbalanced_bank` (nominal recurrence at the generated
  parameters); `doublingOk`/`belowSchoolOk` are the Boolean checks the tables evaluate.
-/
import NB.Model.AsmParams
import NB.Lemmas.Cost
namespace NB
open NB.Mul NB.Cost

/-- the extracted parameters satisfy `ValidMul` and `ValidCost`, the hypotheses of the two bounds below;
    decided by evaluation, so an extraction that violates them fails to build -/
theorem gen_params_valid_cost : NB.Gen.P.ValidMul ∧ NB.Gen.P.ValidCost := by decide

/-- no product costs more than schoolbook: the work count of `mac3(acc, b, c)` in the Cost
    model is at most `b.len · c.len`, for all digit slices and every recursion budget -/
theorem cost_le_schoolbook (P : Params) (hP : P.ValidMul) (hC : P.ValidCost) (fuel : Nat)
    (b c : List Nat) (hb : DigitsOk b) (hc : DigitsOk c) :
    Cost.mac3 P fuel b c ≤ b.length * c.length :=
  cost_mac3_bound P hP hC fuel b c hb hc

/-- the same for the public product `&a * &b` (zero / one-digit operands cost nothing) -/
theorem cost_mul_le_schoolbook (P : Params) (hP : P.ValidMul) (hC : P.ValidCost)
    (a b : List Nat) (ha : DigitsOk a) (hb : DigitsOk b) :
    Cost.mul P a b ≤ a.length * b.length :=
  cost_mulMag_le (cost_mac3_bound P hP hC _) a b ha hb

/-- the check behind `W_doubling_table`, arranged so that every count is evaluated once: `wm` is
    `W(m,m)`; the head `n` of the list is `m`, `W(2n,2n)` is defined (fuel sufficient) with
    `4·W(2n,2n) ≤ 13·W(n,n)`, and the rest of the list is checked from `2n` with that count -/
def doublingOk (P : Params) : List Nat → Nat → Option Nat → Bool
  | [], _, _ => true
  | n :: ns, m, wm =>
    match wm, W P Wfuel (2 * n) (2 * n) with
    | some b, some a => n == m && decide (4 * a ≤ 13 * b) && doublingOk P ns (2 * n) (some a)
    | _, _ => false

theorem doublingOk_sound {P : Params} : ∀ (l : List Nat) (m : Nat) (wm : Option Nat),
    wm = W P Wfuel m m → doublingOk P l m wm = true →
    ∀ n ∈ l, ∃ a b, W P Wfuel (2 * n) (2 * n) = some a ∧ W P Wfuel n n = some b ∧ 4 * a ≤ 13 * b
  | [], _, _, _, _ => fun _ hn => absurd hn List.not_mem_nil
  | n :: ns, m, wm, hwm, h => by
    unfold doublingOk at h
    split at h
    · rename_i b a ha
      simp only [Bool.and_eq_true, beq_iff_eq, decide_eq_true_eq] at h
      obtain ⟨⟨rfl, hle⟩, hrest⟩ := h
      intro k hk
      rcases List.mem_cons.mp hk with rfl | hk
      · exact ⟨a, b, ha, hwm.symm, hle⟩
      · exact doublingOk_sound ns (2 * n) (some a) ha.symm hrest k hk
    · cases h

/-- the nominal count is defined and `W(n,m) ≤ n·m` -/
def belowSchoolOk (P : Params) (nm : Nat × Nat) : Bool :=
  match W P Wfuel nm.1 nm.2 with
  | some a => decide (a ≤ nm.1 * nm.2)
  | none => false

theorem belowSchoolOk_sound {P : Params} {nm : Nat × Nat} (h : belowSchoolOk P nm = true) :
    ∃ a, W P Wfuel nm.1 nm.2 = some a ∧ a ≤ nm.1 * nm.2 := by
  unfold belowSchoolOk at h
  split at h
  · rename_i a ha
    exact ⟨a, ha, of_decide_eq_true h⟩
  · cases h

def doublingSizes : List Nat := [256, 512, 1024, 2048, 4096, 8192]

/-- each doubling of the length multiplies the nominal work by at most 3.25 (not 4) -/
theorem W_doubling_table : ∀ n ∈ doublingSizes,
    ∃ a b, W NB.Gen.P Wfuel (2 * n) (2 * n) = some a ∧ W NB.Gen.P Wfuel n n = some b ∧ 4 * a ≤ 13 * b := by
  have h : doublingOk NB.Gen.P doublingSizes 256 (W NB.Gen.P Wfuel 256 256) = true := by
    decide +kernel
  exact doublingOk_sound _ _ _ rfl h

/-- two 4096-digit numbers need fewer than a quarter of the 4096² schoolbook digit products -/
theorem W_4096_quarter : ∃ a, W NB.Gen.P Wfuel 4096 4096 = some a ∧ 4 * a < 4096 ^ 2 := by
  have h : (match W NB.Gen.P Wfuel 4096 4096 with
      | some a => decide (4 * a < 4096 ^ 2) | none => false) = true := by decide +kernel
  split at h
  · rename_i a ha; exact ⟨a, ha, of_decide_eq_true h⟩
  · cases h

def unbalancedBank : List (Nat × Nat) :=
  [33, 64, 100, 256, 257, 300, 512, 1000, 1024, 2048, 4096].flatMap
    (fun n => [(n, 2 * n - 1), (n, 2 * n), (n, 64 * n)])

/-- unbalanced products cost no more than the schoolbook count (nominal recurrence) -/
theorem W_unbalanced_bank : ∀ nm ∈ unbalancedBank,
    ∃ a, W NB.Gen.P Wfuel nm.1 nm.2 = some a ∧ a ≤ nm.1 * nm.2 := by
  have h : ∀ nm ∈ unbalancedBank, belowSchoolOk NB.Gen.P nm = true := by decide +kernel
  exact fun nm hnm => belowSchoolOk_sound (h nm hnm)

end NB
