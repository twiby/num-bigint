/-
  C06 — Text and radix conversions are exact, canonical and mutually inverse.

  The theorems are about the model NB.Model.Radix (written from src/biguint/convert.rs, src/biguint.rs,
  src/bigint/convert.rs, src/bigint.rs; correspondence-checked against the real crate) and, in the last part,
  about NB.Model.RadixD: the same `to_radix_digits_le` on digit vectors, with the BigUint operators it calls
  (`div_rem_digit`, `digits.div_rem(&big_base)`, `&big_base * &big_base`, `digits > big_base`, `data.len()`)
  replaced by the digit-level models `NB.divRemDigit`, `NB.divRemRef` (Knuth D), `NB.Mul.mulRef` (mac3),
  `NB.cmpSlice`, `List.length`; the driver's model column runs that definition.

  Specification vocabulary: Mathlib's `Nat.digits` / `Nat.ofDigits` (the unique positional representation),
  `digitsOr0`, `textOf`, `signedVal` below, and for text the grammar of the property statement written as the
  decidable predicates `Spec.wellFormedU/I` with the denotation `Spec.denoteMag/denoteInt`.

  Hypotheses: values are canonical (`Canon`, `BigInt.Canon`), input bytes are `< 256` where it matters.  The radix is
  arbitrary in the `_outcome` theorems (a panic exactly outside 2..=256, for text 2..=36).  Nothing is assumed about the
  extracted threshold `P.bigBase`; the digit-level theorems need `P.ValidMul` (C02's hypothesis), which
  `gen_params_valid_mul` provides for the generated parameters.
  Modelled, not proved: `Formatter::pad_integral` and `str::from_utf8` (std).

  Statements: the property is `to_radix_le_outcome`, `to_radix_be_spec`, `bigint_to_radix_le_spec` (output),
  `from_radix_le_outcome`, `from_radix_be_spec`, `bigint_from_radix_spec` (input), `from_to_radix`, `to_from_radix`
  (round trips), `to_str_outcome`, `to_str_spec`, `to_str_alphabet` (text output), `from_str_radix_outcome`, `parse_iff_u`,
  `parse_iff_i`, `parse_bytes_u_spec`, `parse_bytes_i_spec`, `parse_bytes_bad_radix` (text input), `parse_to_str_u`,
  `parse_to_str_i`, `fmt_triple_spec`, `format_spec` (formatting), and for the digit-level model `to_radix_le_refines`,
  `bigint_to_radix_refines`, `format_refines` with `to_radix_leD_outcome`, `to_strD_outcome`, `formatD_spec`.  The other
  snake_case theorems restate these for one range of the radix, one layer or the generated parameters, or record a
  step of the argument (`radix_base_spec`, `big_chunk_spec`, `horner_step_exact`, the `*_loop_refines`).  camelCase
  names are helper lemmas about one model or specification function.
  `oracle_digits_eq`, `oracle_radix_eq`, `oracle_str_eq` say that the `Nat` oracle of the driver (NB.Drv.C06, imported
  for this and for `drv_model_is_digit_level`, `drv_model_column_spec`) computes `digitsOr0` / `textOf`.
-/
import NB.Lemmas.RadixText
import NB.Lemmas.RadixD
import NB.Model.AsmParams
import NB.Drv.C06
namespace NB
open NB.Radix

/-- the digit vector of `n` in radix `r`: `[0]` for zero, otherwise `Nat.digits` (little-endian) -/
def digitsOr0 (r n : Nat) : List Nat := if n = 0 then [0] else Nat.digits r n

/-- lower-case ASCII digit of a digit value `< 36` -/
def digitChar (d : Nat) : Nat := if d < 10 then 48 + d else 87 + d

/-- the text of `n` in radix `r`: most significant digit first, no leading zeros, `"0"` for zero -/
def textOf (r n : Nat) : List Nat := ((digitsOr0 r n).map digitChar).reverse

/-- the integer a sign and a magnitude denote (`BigInt::from_biguint`) -/
def signedVal (s : Sign) (n : Nat) : Int :=
  match s with
  | .plus => (n : Int) | .minus => -(n : Int) | .nosign => 0

/-- for every radix 3..255 that is not a power of two the generated table entry is `(r^power, power)`
    with `r^power ≤ big_digit::MAX < r^(power+1)` -/
theorem radix_base_spec (r : Nat) (h3 : 3 ≤ r) (h : r < 256) (hp : isPow2 r = false) :
    getRadixBase r = .ok (radixBaseEntry (B - 1) r) ∧
    (radixBaseEntry (B - 1) r).1 = r ^ (radixBaseEntry (B - 1) r).2 ∧
    (radixBaseEntry (B - 1) r).1 ≤ B - 1 ∧ B - 1 < (radixBaseEntry (B - 1) r).1 * r := by
  obtain ⟨p, e, -, hle, hlt⟩ := radixBaseEntry_spec h3 h hp
  rw [e]
  exact ⟨by unfold getRadixBase; rw [if_pos (Nat.lt_succ_of_lt h), e], rfl, hle, hlt⟩

/-- powers of two get the zero entry (they never reach `get_radix_base`) -/
theorem radix_base_pow2 (r : Nat) (hp : isPow2 r = true) : radixBaseEntry (B - 1) r = (0, 0) := by
  unfold radixBaseEntry; rw [if_neg fun h => h.2.2 hp]

/-- `to_radix_le`: for every canonical value and radix 2..=256 the output is the unique positional
    representation (digits `< r`, no leading zero; `[0]` for zero) — on every code path -/
theorem to_radix_le_spec (P : Params) (u : List Nat) (hc : Canon u) (r : Nat) (h2 : 2 ≤ r) (h256 : r ≤ 256) :
    toRadixLe P u r = .ok (digitsOr0 r (val u)) := by
  unfold toRadixLe digitsOr0 digRadixMax
  rw [if_neg (not_not_intro ⟨h2, h256⟩)]
  by_cases hu : u = []
  · rw [if_pos hu, hu, if_pos val_nil]
  · have hv : val u ≠ 0 := fun h => hu (canon_val_zero hc h)
    rw [if_neg hu, if_neg hv]
    by_cases hp : isPow2 r = true
    · obtain ⟨hr, hb1, hb8⟩ := pow2_bits h2 h256 hp
      rw [if_pos hp]
      by_cases hdiv : BITS % ilog2 r = 0
      · rw [if_pos hdiv, toBitwiseDigitsLe_spec hb1 hb8 hdiv u hc hu, ← hr]
      · rw [if_neg hdiv, toInexactBitwiseDigitsLe_spec hb1 hb8 u hc, ← hr]
    · rw [if_neg hp]
      exact toRadixDigitsLe_spec P h2 h256 (Bool.eq_false_iff.2 hp) u hv

theorem to_radix_le_bad_radix (P : Params) (u : List Nat) (r : Nat) (h : ¬ (2 ≤ r ∧ r ≤ 256)) :
    toRadixLe P u r = .error .radix := by
  unfold toRadixLe digRadixMax; rw [if_pos h]

theorem to_radix_be_spec (P : Params) (u : List Nat) (hc : Canon u) (r : Nat) (h2 : 2 ≤ r) (h256 : r ≤ 256) :
    toRadixBe P u r = .ok (digitsOr0 r (val u)).reverse := by
  unfold toRadixBe; rw [to_radix_le_spec P u hc r h2 h256]

theorem to_radix_be_bad_radix (P : Params) (u : List Nat) (r : Nat) (h : ¬ (2 ≤ r ∧ r ≤ 256)) :
    toRadixBe P u r = .error .radix := by
  unfold toRadixBe; rw [to_radix_le_bad_radix P u r h]

theorem bigint_to_radix_le_spec (P : Params) (x : BigInt) (hc : x.Canon) (r : Nat) (h2 : 2 ≤ r) (h256 : r ≤ 256) :
    Radix.BigInt.toRadixLe P x r = .ok (x.sign, digitsOr0 r x.val.natAbs) ∧
    Radix.BigInt.toRadixBe P x r = .ok (x.sign, (digitsOr0 r x.val.natAbs).reverse) := by
  unfold Radix.BigInt.toRadixLe Radix.BigInt.toRadixBe
  rw [to_radix_le_spec P x.mag hc.1 r h2 h256, to_radix_be_spec P x.mag hc.1 r h2 h256, bigint_natAbs_val hc]
  exact ⟨rfl, rfl⟩

/-- the specification's digit vector `digitsOr0 r n`: every digit is below the radix, the most significant one is
    non-zero unless `n = 0`, and the digits denote `n` -/
theorem to_radix_le_digits (r n : Nat) (h2 : 2 ≤ r) :
    (∀ d ∈ digitsOr0 r n, d < r) ∧ (n ≠ 0 → (digitsOr0 r n).getLast? ≠ some 0) ∧ Nat.ofDigits r (digitsOr0 r n) = n := by
  unfold digitsOr0
  by_cases h0 : n = 0
  · subst h0
    rw [if_pos rfl]
    exact ⟨fun d hd => by rw [List.mem_singleton.1 hd]; exact Nat.lt_of_lt_of_le (by decide) h2, fun h => absurd rfl h,
      by rw [Nat.ofDigits_singleton]⟩
  · rw [if_neg h0]
    refine ⟨fun d hd => Nat.digits_lt_base h2 hd, fun _ => ?_, Nat.ofDigits_digits r n⟩
    rw [List.getLast?_eq_some_getLast (Nat.digits_ne_nil_iff_ne_zero.mpr h0)]
    exact fun h => Nat.getLast_digit_ne_zero r h0 (Option.some.inj h)

/-- the big-base path: a super-chunk (`big_r < base^big_power`) is emitted as exactly
    `big_power * power` digits, namely its positional digits padded with zeros -/
theorem big_chunk_spec (r power bigPower bigR : Nat) (h2 : 2 ≤ r) (h256 : r ≤ 256)
    (hlt : bigR < (r ^ power) ^ bigPower) :
    emitChunks r power (r ^ power) bigPower bigR
      = Nat.digits r bigR ++ List.replicate (bigPower * power - (Nat.digits r bigR).length) 0 ∧
    (emitChunks r power (r ^ power) bigPower bigR).length = bigPower * power := by
  rw [emitChunks_eq]
  refine ⟨emitN_digits h2 h256 _ _ (by rw [← pow_mul, Nat.mul_comm] at hlt; exact hlt), emitN_length _ _ _⟩

/-- the digit check of `from_radix_le/be`, which is skipped for radix 256 (every `u8` is a digit then) -/
theorem radix_check_iff {ds : List Nat} (hb : ∀ d ∈ ds, d < 256) {r : Nat} (h256 : r ≤ 256) :
    (r ≠ 256 ∧ ds.any (fun b => decide (r % U8 ≤ b)) = true) ↔ ¬ ∀ d ∈ ds, d < r := by
  by_cases hr : r = 256
  · subst hr; exact iff_of_false (fun h => h.1 rfl) (fun h => h hb)
  · rw [Nat.mod_eq_of_lt (show r < U8 from Nat.lt_of_le_of_ne h256 hr), List.any_eq_true]
    simp only [decide_eq_true_eq, not_forall, Nat.not_lt, exists_prop, ne_eq, hr, not_false_eq_true, true_and]

/-- `from_radix_le`: `Some` of the canonical value `Σ dᵢ·rⁱ` iff every digit is below the radix -/
theorem from_radix_le_spec (ds : List Nat) (hb : ∀ d ∈ ds, d < 256) (r : Nat) (h2 : 2 ≤ r) (h256 : r ≤ 256) :
    fromRadixLe ds r = .ok (if ∀ d ∈ ds, d < r then some (ofNat (Nat.ofDigits r ds)) else none) := by
  unfold fromRadixLe digRadixMax
  rw [if_neg (not_not_intro ⟨h2, h256⟩)]
  by_cases hnil : ds = []
  · subst hnil
    rw [if_pos rfl, if_pos (fun d hd => nomatch hd), Nat.ofDigits_nil, ofNat_zero]
  · rw [if_neg hnil]
    by_cases hall : ∀ d ∈ ds, d < r
    · rw [if_neg (fun h => (radix_check_iff hb h256).1 h hall), digitsToBigUint_spec h2 h256 ds hnil hall, if_pos hall]
    · rw [if_pos ((radix_check_iff hb h256).2 hall), if_neg hall]

theorem from_radix_be_spec (ds : List Nat) (hb : ∀ d ∈ ds, d < 256) (r : Nat) (h2 : 2 ≤ r) (h256 : r ≤ 256) :
    fromRadixBe ds r = .ok (if ∀ d ∈ ds, d < r then some (ofNat (Nat.ofDigits r ds.reverse)) else none) := by
  rw [fromRadixBe_eq, from_radix_le_spec ds.reverse (fun d hd => hb d (List.mem_reverse.1 hd)) r h2 h256]
  simp only [List.mem_reverse]

theorem from_radix_bad_radix (ds : List Nat) (r : Nat) (h : ¬ (2 ≤ r ∧ r ≤ 256)) :
    fromRadixLe ds r = .error .radix ∧ fromRadixBe ds r = .error .radix := by
  unfold fromRadixLe fromRadixBe digRadixMax; rw [if_pos h, if_pos h]; exact ⟨rfl, rfl⟩

theorem fromBiguint_signedVal (s : Sign) (n : Nat) :
    BigInt.fromBiguint s (ofNat n) = BigInt.ofInt (signedVal s n) := by
  rw [fromBiguint_ofNat]; cases s <;> simp only [BigInt.val, signedVal, ofNat_val]

/-- `BigInt::from_radix_le/be(sign, digits, radix)`: the canonical BigInt of `± Σ dᵢ·rⁱ` (0 for `NoSign`) -/
theorem bigint_from_radix_spec (s : Sign) (ds : List Nat) (hb : ∀ d ∈ ds, d < 256) (r : Nat) (h2 : 2 ≤ r) (h256 : r ≤ 256) :
    Radix.BigInt.fromRadixLe s ds r
      = .ok (if ∀ d ∈ ds, d < r then some (BigInt.ofInt (signedVal s (Nat.ofDigits r ds))) else none) ∧
    Radix.BigInt.fromRadixBe s ds r
      = .ok (if ∀ d ∈ ds, d < r then some (BigInt.ofInt (signedVal s (Nat.ofDigits r ds.reverse))) else none) := by
  unfold Radix.BigInt.fromRadixLe Radix.BigInt.fromRadixBe
  rw [from_radix_le_spec ds hb r h2 h256, from_radix_be_spec ds hb r h2 h256]
  by_cases hall : ∀ d ∈ ds, d < r
  · rw [if_pos hall, if_pos hall, if_pos hall, if_pos hall, ← fromBiguint_signedVal, ← fromBiguint_signedVal]
    exact ⟨rfl, rfl⟩
  · rw [if_neg hall, if_neg hall, if_neg hall, if_neg hall]; exact ⟨rfl, rfl⟩

/-- the one-digit `add2` used by the Horner input loop is C01's `add2` for every asm block layout -/
theorem add2Digit_eq_add2 (P : Params) (a : List Nat) (n : Nat) (h : 1 ≤ a.length) :
    add2Digit a n = NB.add2 P a [n] := by
  unfold add2Digit NB.add2
  rw [add2c_eq P a [n] (by simpa using h)]
  rfl

/-- one Horner iteration on the digit vector is exact: the pushed zero digit absorbs the product, neither
    `debug_assert!(carry == 0)` nor the `add2` carry assertion can fire -/
theorem horner_step_exact (radix base : Nat) (data chunk : List Nat) (hd : DigitsOk data) (hne : data ≠ [])
    (hb : base < B) (hn : beFold radix chunk < base) :
    ∃ d', hornerStep radix base data chunk = .ok d' ∧ DigitsOk d' ∧
      val d' = val data * base + beFold radix chunk := by
  obtain ⟨d', h1, h2, _, h4⟩ := hornerStep_spec data chunk hd hne hb hn
  exact ⟨d', h1, h2, h4⟩

/-- `from_radix_le(to_radix_le(u, r), r) == Some(u)` -/
theorem from_to_radix (P : Params) (u : List Nat) (hc : Canon u) (r : Nat) (h2 : 2 ≤ r) (h256 : r ≤ 256) :
    ∃ ds, toRadixLe P u r = .ok ds ∧ fromRadixLe ds r = .ok (some u) ∧ fromRadixBe ds.reverse r = .ok (some u) := by
  obtain ⟨hd, -, hv⟩ := to_radix_le_digits r (val u) h2
  have hle : fromRadixLe (digitsOr0 r (val u)) r = .ok (some u) := by
    rw [from_radix_le_spec _ (fun d h => Nat.lt_of_lt_of_le (hd d h) h256) r h2 h256, if_pos hd, hv, ← canon_eq_ofNat hc]
  refine ⟨digitsOr0 r (val u), to_radix_le_spec P u hc r h2 h256, hle, ?_⟩
  rw [fromRadixBe_eq, List.reverse_reverse, hle]

/-- `to_radix_le(from_radix_le(ds, r), r) == ds` for a digit vector without a leading zero -/
theorem to_from_radix (P : Params) (ds : List Nat) (r : Nat) (h2 : 2 ≤ r) (h256 : r ≤ 256)
    (hd : ∀ d ∈ ds, d < r) (hne : ds ≠ []) (hlast : ds.getLast? ≠ some 0) :
    ∃ u, fromRadixLe ds r = .ok (some u) ∧ Canon u ∧ toRadixLe P u r = .ok ds := by
  have hb : ∀ d ∈ ds, d < 256 := fun d h => Nat.lt_of_lt_of_le (hd d h) h256
  refine ⟨ofNat (Nat.ofDigits r ds), ?_, ofNat_canon _, ?_⟩
  · rw [from_radix_le_spec ds hb r h2 h256, if_pos hd]
  · have hdig := Nat.digits_ofDigits r h2 ds hd
      fun h e => hlast (by rw [List.getLast?_eq_some_getLast h, e])
    have hnz : Nat.ofDigits r ds ≠ 0 := fun h0 => hne (by rw [← hdig, h0, Nat.digits_zero])
    rw [to_radix_le_spec P _ (ofNat_canon _) r h2 h256, ofNat_val, digitsOr0, if_neg hnz, hdig]

theorem asciiDigit_eq {d : Nat} (h : d < 36) : asciiDigit d = digitChar d := by
  unfold asciiDigit digitChar
  rw [Nat.mod_eq_of_lt (Nat.lt_of_lt_of_le (Nat.add_lt_add_right h 48) (by decide)),
    Nat.mod_eq_of_lt (Nat.lt_of_lt_of_le (Nat.add_lt_add_right h 87) (by decide)), Nat.add_comm d 48, Nat.add_comm d 87]

/-- `to_str_radix_reversed`: the digit characters, least significant first -/
theorem toStrRadixReversed_spec (P : Params) (u : List Nat) (hc : Canon u) (r : Nat) (h2 : 2 ≤ r) (h36 : r ≤ 36) :
    toStrRadixReversed P u r = .ok ((digitsOr0 r (val u)).map digitChar) := by
  unfold toStrRadixReversed strRadixMax
  rw [if_neg (not_not_intro ⟨h2, h36⟩)]
  by_cases hu : u = []
  · subst hu; rfl
  · rw [if_neg hu, to_radix_le_spec P u hc r h2 (Nat.le_trans h36 (by decide))]
    exact congrArg Except.ok (List.map_congr_left fun d hd =>
      asciiDigit_eq (Nat.lt_of_lt_of_le ((to_radix_le_digits r (val u) h2).1 d hd) h36))

/-- `BigUint::to_str_radix`: the unique positional text (lower case, no leading zeros) -/
theorem to_str_spec (P : Params) (u : List Nat) (hc : Canon u) (r : Nat) (h2 : 2 ≤ r) (h36 : r ≤ 36) :
    toStrRadixU P u r = .ok (textOf r (val u)) := by
  unfold toStrRadixU
  rw [toStrRadixReversed_spec P u hc r h2 h36]
  rfl

theorem to_str_bad_radix (P : Params) (u : List Nat) (x : BigInt) (r : Nat) (h : ¬ (2 ≤ r ∧ r ≤ 36)) :
    toStrRadixU P u r = .error .radix ∧ toStrRadixI P x r = .error .radix := by
  unfold toStrRadixU toStrRadixI toStrRadixReversed strRadixMax; rw [if_pos h, if_pos h]; exact ⟨rfl, rfl⟩

/-- `BigInt::to_str_radix`: `-` exactly for negative values, then the text of the magnitude -/
theorem bigint_to_str_spec (P : Params) (x : BigInt) (hc : x.Canon) (r : Nat) (h2 : 2 ≤ r) (h36 : r ≤ 36) :
    toStrRadixI P x r = .ok ((if x.sign = .minus then [45] else []) ++ textOf r (val x.mag)) := by
  unfold toStrRadixI
  rw [toStrRadixReversed_spec P x.mag hc.1 r h2 h36]
  dsimp only
  by_cases hs : x.sign = .minus
  · rw [if_pos hs, if_pos hs, List.reverse_append]; rfl
  · rw [if_neg hs, if_neg hs]; rfl

theorem digitChar_props {d : Nat} (hd : d < 36) :
    ((48 ≤ digitChar d ∧ digitChar d ≤ 57) ∨ (97 ≤ digitChar d ∧ digitChar d ≤ 122)) ∧ byteDigit (digitChar d) = d := by
  unfold digitChar
  by_cases h10 : d < 10
  · have c1 : 48 ≤ 48 + d ∧ 48 + d ≤ 57 := ⟨Nat.le_add_right 48 d, Nat.add_le_add_left (Nat.le_of_lt_succ h10) 48⟩
    rw [if_pos h10]
    refine ⟨Or.inl c1, ?_⟩
    unfold byteDigit
    rw [if_pos c1, Nat.add_sub_cancel_left]
  · have c1 : ¬ (48 ≤ 87 + d ∧ 87 + d ≤ 57) := fun h => absurd (Nat.le_trans (Nat.le_add_right 87 d) h.2) (by decide)
    have c2 : 97 ≤ 87 + d ∧ 87 + d ≤ 122 :=
      ⟨Nat.add_le_add_left (Nat.le_of_not_lt h10) 87, Nat.add_le_add_left (Nat.le_of_lt_succ hd) 87⟩
    rw [if_neg h10]
    refine ⟨Or.inr c2, ?_⟩
    unfold byteDigit
    rw [if_neg c1, if_pos c2, ← sub_add_ten (c := 87) c2.1, Nat.add_sub_cancel_left]

theorem digitVal?_digitChar {d : Nat} (hd : d < 36) : Spec.digitVal? (digitChar d) = some d := by
  have hbd := (digitChar_props hd).2
  rcases digitVal?_cases (digitChar d) with ⟨h, -⟩ | ⟨-, h255⟩
  · rw [h, hbd]
  · rw [hbd] at h255; rw [h255] at hd; exact absurd hd (by decide)

/-- every byte of the text is an ASCII digit or lower-case letter denoting a digit value below the radix -/
theorem to_str_alphabet (r n : Nat) (h2 : 2 ≤ r) (h36 : r ≤ 36) :
    ∀ b ∈ textOf r n, ((48 ≤ b ∧ b ≤ 57) ∨ (97 ≤ b ∧ b ≤ 122)) ∧ Spec.isDigit r b = true ∧
      Spec.digitVal? b = some (byteDigit b) := by
  intro b hb
  obtain ⟨d, hd, rfl⟩ := List.mem_map.1 (List.mem_reverse.1 hb)
  have hdr : d < r := (to_radix_le_digits r n h2).1 d hd
  obtain ⟨p1, p3⟩ := digitChar_props (Nat.lt_of_lt_of_le hdr h36)
  have hdig : Spec.isDigit r (digitChar d) = true := by rw [isDigit_eq h36, p3]; exact decide_eq_true hdr
  exact ⟨p1, hdig, (isDigit_props hdig).1⟩

/-- the magnitude text `textOf r n` is ASCII and contains none of `-`, `+`, `_` (so in a BigInt text `-` can only be
    the first byte) -/
theorem bigint_to_str_alphabet (r n : Nat) (h2 : 2 ≤ r) (h36 : r ≤ 36) : ∀ b ∈ textOf r n, b ≠ 45 ∧ b ≠ 43 ∧ b ≠ 95 ∧ b < 128 := by
  intro b hb
  obtain ⟨-, h128, h95, h43, h45⟩ := isDigit_props (to_str_alphabet r n h2 h36 b hb).2.1
  exact ⟨h45, h43, h95, h128⟩

/-- `BigUint::from_str_radix` computes exactly the specification `Spec.parseU`: the denoted value
    (canonical) for a well-formed text, `Empty`/`InvalidDigit` otherwise; it never panics -/
theorem from_str_radix_u_spec (s : List Nat) (r : Nat) (h2 : 2 ≤ r) (h36 : r ≤ 36) :
    fromStrRadixU s r = .ok (Spec.parseU r s) := by
  obtain ⟨hb, hd, he⟩ := stripPlus_spec r s
  rw [fromStrRadixU_core h2 h36, hb, ← he]
  unfold Spec.parseU
  by_cases hw : Spec.wellFormedU r s = true
  · rw [if_pos hw, if_pos hw, hd hw]
  · rw [if_neg hw, if_neg hw]

theorem from_str_radix_bad_radix (s : List Nat) (r : Nat) (h : ¬ (2 ≤ r ∧ r ≤ 36)) :
    fromStrRadixU s r = .error .radix ∧ fromStrRadixI s r = .error .radix := by
  have hu : ∀ s', fromStrRadixU s' r = .error .radix := fun s' => by
    unfold fromStrRadixU strRadixMax; rw [if_pos h]
  refine ⟨hu s, ?_⟩
  unfold fromStrRadixI; dsimp only; rw [hu]

/-- language theorem, BigUint: accepted iff well-formed, and then the value is the denoted one -/
theorem parse_iff_u (s : List Nat) (r : Nat) (h2 : 2 ≤ r) (h36 : r ≤ 36) (v : List Nat) :
    fromStrRadixU s r = .ok (.ok v) ↔ (Spec.wellFormedU r s = true ∧ v = ofNat (Spec.denoteMag r s)) := by
  rw [from_str_radix_u_spec s r h2 h36, Except.ok.injEq]
  exact ite_ok_eq_ok_iff

/-- what `stripMinus` leaves, against the grammar of a BigInt text -/
theorem stripMinus_spec (r : Nat) (s : List Nat) :
    Spec.wellFormedU r (stripMinus s).2 = Spec.wellFormedI r s ∧
    (Spec.wellFormedI r s = true →
      signedVal (stripMinus s).1 (Spec.denoteMag r (stripMinus s).2) = Spec.denoteInt r s) ∧
    Spec.errKindU (stripMinus s).2 = Spec.errKindI s := by
  by_cases h : s.head? = some 45
  · obtain ⟨t, rfl⟩ := List.head?_eq_some_iff.1 h
    by_cases h' : t.head? = some 43
    · obtain ⟨t', rfl⟩ := List.head?_eq_some_iff.1 h'
      exact ⟨rfl, fun hw => absurd hw Bool.false_ne_true, rfl⟩
    · rw [stripMinus_minus_of_head_ne h']
      refine ⟨wellFormedU_of_head_ne r h', fun hw => ?_, ?_⟩
      · rw [denoteMag_of_head_ne r h' (body_head hw).2]; rfl
      · unfold Spec.errKindU Spec.errKindI
        simp only [List.cons.injEq, reduceCtorEq, (by decide : ¬ (45 : Nat) = 43), false_and, true_and, false_or,
          or_iff_left (fun e : t = [43] => h' (by rw [e]; rfl))]
  · rw [stripMinus_of_head_ne h]
    refine ⟨(wellFormedI_eq_wellFormedU r h).symm, fun _ => (denoteInt_of_head_ne r h).symm, ?_⟩
    exact if_congr (or_congr_right (or_iff_left fun e => h (by rw [e]; rfl))).symm rfl rfl

/-- `BigInt::from_str_radix` computes exactly `Spec.parseI` -/
theorem from_str_radix_i_spec (s : List Nat) (r : Nat) (h2 : 2 ≤ r) (h36 : r ≤ 36) :
    fromStrRadixI s r = .ok (Spec.parseI r s) := by
  obtain ⟨hwf, hd, he⟩ := stripMinus_spec r s
  unfold fromStrRadixI
  dsimp only
  rw [from_str_radix_u_spec _ r h2 h36]
  unfold Spec.parseU Spec.parseI
  rw [hwf, he]
  by_cases hw : Spec.wellFormedI r s = true
  · rw [if_pos hw, if_pos hw, ← hd hw, ← fromBiguint_signedVal]
  · rw [if_neg hw, if_neg hw]

/-- `BigInt::from_str_radix` accepts exactly the well-formed BigInt texts, with the denoted integer as value -/
theorem parse_iff_i (s : List Nat) (r : Nat) (h2 : 2 ≤ r) (h36 : r ≤ 36) (v : BigInt) :
    fromStrRadixI s r = .ok (.ok v) ↔ (Spec.wellFormedI r s = true ∧ v = BigInt.ofInt (Spec.denoteInt r s)) := by
  rw [from_str_radix_i_spec s r h2 h36, Except.ok.injEq]
  exact ite_ok_eq_ok_iff

/-- `BigUint::parse_bytes`: `Some(denoted value)` exactly for the well-formed texts (which are ASCII, hence
    pass the UTF-8 gate), `None` for every other byte string -/
theorem parse_bytes_u_spec (buf : List Nat) (r : Nat) (h2 : 2 ≤ r) (h36 : r ≤ 36) :
    parseBytesU buf r = .ok (if Spec.wellFormedU r buf then some (ofNat (Spec.denoteMag r buf)) else none) := by
  unfold parseBytesU
  rw [from_str_radix_u_spec buf r h2 h36]
  unfold Spec.parseU
  by_cases hw : Spec.wellFormedU r buf = true
  · rw [if_neg (not_not_intro (wellFormedU_utf8 hw)), if_pos hw, if_pos hw]
  · rw [if_neg hw, if_neg hw]; exact ite_self _

theorem parse_bytes_i_spec (buf : List Nat) (r : Nat) (h2 : 2 ≤ r) (h36 : r ≤ 36) :
    parseBytesI buf r = .ok (if Spec.wellFormedI r buf then some (BigInt.ofInt (Spec.denoteInt r buf)) else none) := by
  unfold parseBytesI
  rw [from_str_radix_i_spec buf r h2 h36]
  unfold Spec.parseI
  by_cases hw : Spec.wellFormedI r buf = true
  · rw [if_neg (not_not_intro (wellFormedI_utf8 hw)), if_pos hw, if_pos hw]
  · rw [if_neg hw, if_neg hw]; exact ite_self _

/-- with a radix out of range `parse_bytes` panics iff the bytes are valid UTF-8 (the gate comes first) -/
theorem parse_bytes_bad_radix (buf : List Nat) (r : Nat) (h : ¬ (2 ≤ r ∧ r ≤ 36)) :
    parseBytesU buf r = (if utf8Valid buf then .error .radix else .ok none) ∧
    parseBytesI buf r = (if utf8Valid buf then .error .radix else .ok none) := by
  unfold parseBytesU parseBytesI
  obtain ⟨e1, e2⟩ := from_str_radix_bad_radix buf r h
  rw [e1, e2]
  cases utf8Valid buf
  · exact ⟨rfl, rfl⟩
  · exact ⟨rfl, rfl⟩

theorem textOf_body (r n : Nat) (h2 : 2 ≤ r) (h36 : r ≤ 36) :
    Spec.body r (textOf r n) = true ∧ Spec.denoteBody r (textOf r n) = n := by
  obtain ⟨hdig, -, hval⟩ := to_radix_le_digits r n h2
  have hne : textOf r n ≠ [] := by
    have : digitsOr0 r n ≠ [] := by
      unfold digitsOr0
      split
      · exact List.cons_ne_nil 0 []
      · exact Nat.digits_ne_nil_iff_ne_zero.2 ‹_›
    simpa only [textOf, ne_eq, List.reverse_eq_nil_iff, List.map_eq_nil_iff] using this
  refine ⟨body_of_forall hne fun b hb => (to_str_alphabet r n h2 h36 b hb).2.1, ?_⟩
  have hmap : (digitsOr0 r n).map ((fun b => (Spec.digitVal? b).getD 0) ∘ digitChar) = digitsOr0 r n :=
    (List.map_congr_left fun d hd => by
      rw [Function.comp_apply, digitVal?_digitChar (Nat.lt_of_lt_of_le (hdig d hd) h36)]; rfl).trans (List.map_id _)
  unfold Spec.denoteBody
  rw [List.filter_eq_self.2 fun c hc => bne_iff_ne.2 (bigint_to_str_alphabet r n h2 h36 c hc).2.2.1]
  unfold textOf
  rw [List.map_reverse, List.map_map, hmap, beValue_eq_ofDigits, List.reverse_reverse, hval]

/-- `BigUint::from_str_radix(&u.to_str_radix(r), r) == Ok(u)`, also through `parse_bytes` -/
theorem parse_to_str_u (P : Params) (u : List Nat) (hc : Canon u) (r : Nat) (h2 : 2 ≤ r) (h36 : r ≤ 36) :
    ∃ s, toStrRadixU P u r = .ok s ∧ fromStrRadixU s r = .ok (.ok u) ∧ parseBytesU s r = .ok (some u) := by
  refine ⟨textOf r (val u), to_str_spec P u hc r h2 h36, ?_⟩
  obtain ⟨hb, hv⟩ := textOf_body r (val u) h2 h36
  obtain ⟨h43, h45⟩ := body_head hb
  have hwf : Spec.wellFormedU r (textOf r (val u)) = true := by rw [wellFormedU_of_head_ne r h43]; exact hb
  have hden : u = ofNat (Spec.denoteMag r (textOf r (val u))) := by
    rw [denoteMag_of_head_ne r h43 h45, hv]; exact canon_eq_ofNat hc
  refine ⟨(parse_iff_u _ r h2 h36 u).2 ⟨hwf, hden⟩, ?_⟩
  rw [parse_bytes_u_spec _ r h2 h36, if_pos hwf, ← hden]

/-- `BigInt::from_str_radix(&x.to_str_radix(r), r) == Ok(x)`, also through `parse_bytes` -/
theorem parse_to_str_i (P : Params) (x : BigInt) (hc : x.Canon) (r : Nat) (h2 : 2 ≤ r) (h36 : r ≤ 36) :
    ∃ s, toStrRadixI P x r = .ok s ∧ fromStrRadixI s r = .ok (.ok x) ∧ parseBytesI s r = .ok (some x) := by
  refine ⟨_, bigint_to_str_spec P x hc r h2 h36, ?_⟩
  obtain ⟨hb, hv⟩ := textOf_body r (val x.mag) h2 h36
  obtain ⟨h43, h45⟩ := body_head hb
  have key : Spec.wellFormedI r ((if x.sign = .minus then [45] else []) ++ textOf r (val x.mag)) = true ∧
      Spec.denoteInt r ((if x.sign = .minus then [45] else []) ++ textOf r (val x.mag)) = x.val := by
    unfold BigInt.val
    by_cases hs : x.sign = .minus
    · rw [if_pos hs, hs]
      exact ⟨hb, congrArg (fun n : Nat => -(n : Int)) hv⟩
    · rw [if_neg hs, List.nil_append, wellFormedI_eq_wellFormedU r h45, wellFormedU_of_head_ne r h43,
        denoteInt_of_head_ne r h45, denoteMag_of_head_ne r h43 h45, hv]
      refine ⟨hb, ?_⟩
      rcases hs' : x.sign with _ | _ | _
      · exact absurd hs' hs
      · rw [hc.2.1 hs']; rfl
      · rfl
  have hx : x = BigInt.ofInt (Spec.denoteInt r ((if x.sign = .minus then [45] else []) ++ textOf r (val x.mag))) := by
    rw [key.2]; exact bigint_canon_eq_ofInt hc
  refine ⟨(parse_iff_i _ r h2 h36 x).2 ⟨key.1, hx⟩, ?_⟩
  rw [parse_bytes_i_spec _ r h2 h36, if_pos key.1, ← hx]

/-- each `fmt` impl hands `Formatter::pad_integral` the triple (non-negative?, radix prefix, the unique
    positional text of the magnitude — upper-cased only by `UpperHex`); it never panics -/
theorem fmt_triple_spec (P : Params) (k : FmtKind) (x : BigInt) (hc : x.Canon) :
    fmtTriple P k x = .ok (decide (x.sign ≠ .minus), fmtPrefix k,
      if k = .upperHex then (textOf (fmtRadix k) (val x.mag)).map asciiUpper else textOf (fmtRadix k) (val x.mag)) := by
  unfold fmtTriple
  have hr : 2 ≤ fmtRadix k ∧ fmtRadix k ≤ 36 := by cases k <;> decide
  rw [to_str_spec P x.mag hc.1 _ hr.1 hr.2]

/-- `format!` with any of the modelled specs: std's padding applied to that triple -/
theorem format_spec (P : Params) (k : FmtKind) (f : FmtSpec) (x : BigInt) (hc : x.Canon) :
    format P k f x = .ok (padIntegral f (decide (x.sign ≠ .minus)) (fmtPrefix k)
      (if k = .upperHex then (textOf (fmtRadix k) (val x.mag)).map asciiUpper else textOf (fmtRadix k) (val x.mag))) := by
  unfold format; rw [fmt_triple_spec P k x hc]

/-- without width the formatted text is sign, optional prefix, digits — nothing else -/
theorem padIntegral_no_width (f : FmtSpec) (hw : f.width = none) (nonneg : Bool) (pfx buf : List Nat) :
    padIntegral f nonneg pfx buf =
      (if ¬ nonneg then [45] else if f.signPlus then [43] else []) ++ (if f.alternate then pfx else []) ++ buf := by
  unfold padIntegral; rw [hw]

/-- with a one-byte fill and a width `w`, `pad_integral` writes exactly `max w (digits + sign + prefix)` bytes -/
theorem padIntegral_length (f : FmtSpec) (hf : f.fill.length = 1) (nonneg : Bool) (pfx buf : List Nat) (w : Nat)
    (hw : f.width = some w) :
    (padIntegral f nonneg pfx buf).length
      = max w (buf.length + (if ¬ nonneg then 1 else if f.signPlus then 1 else 0) + (if f.alternate then pfx.length else 0)) := by
  unfold padIntegral
  rw [hw]
  dsimp only
  generalize hsign : (if ¬ nonneg = true then [45] else if f.signPlus = true then [43] else []) = sign
  generalize hpfx : (if f.alternate = true then pfx else []) = pfx'
  have hsl : sign.length = (if ¬ nonneg then 1 else if f.signPlus then 1 else 0) := by
    rw [← hsign, apply_ite List.length, apply_ite List.length]; rfl
  have hpl : pfx'.length = (if f.alternate then pfx.length else 0) := by
    rw [← hpfx, apply_ite List.length]; rfl
  rw [← hsl, ← hpl]
  by_cases hle : w ≤ buf.length + sign.length + pfx'.length
  · rw [if_pos hle, Nat.max_eq_right hle, List.length_append, List.length_append, Nat.add_comm, ← Nat.add_assoc]
  · rw [if_neg hle, Nat.max_eq_left (Nat.le_of_not_le hle)]
    have hk := Nat.sub_add_cancel (Nat.le_of_not_le hle)
    generalize w - (buf.length + sign.length + pfx'.length) = k at hk ⊢
    split
    · have hp := padSplit_add .right .right k
      generalize padSplit .right .right k = p at hp ⊢
      simp only [List.length_append, fillN_length, List.length_singleton, Nat.mul_one]
      rw [← hk, ← hp]
      ac_rfl
    · have hp := padSplit_add f.align .right k
      generalize padSplit f.align .right k = p at hp ⊢
      simp only [List.length_append, fillN_length, hf, Nat.mul_one]
      rw [← hk, ← hp]
      ac_rfl

/-- `to_radix_le` for EVERY radix: the positional digits, or `panic radix` — no other outcome exists -/
theorem to_radix_le_outcome (P : Params) (u : List Nat) (hc : Canon u) (r : Nat) :
    toRadixLe P u r = if 2 ≤ r ∧ r ≤ 256 then .ok (digitsOr0 r (val u)) else .error .radix := by
  by_cases h : 2 ≤ r ∧ r ≤ 256
  · rw [if_pos h]; exact to_radix_le_spec P u hc r h.1 h.2
  · rw [if_neg h]; exact to_radix_le_bad_radix P u r h

theorem from_radix_le_outcome (ds : List Nat) (hb : ∀ d ∈ ds, d < 256) (r : Nat) :
    fromRadixLe ds r = if 2 ≤ r ∧ r ≤ 256
      then .ok (if ∀ d ∈ ds, d < r then some (ofNat (Nat.ofDigits r ds)) else none) else .error .radix := by
  by_cases h : 2 ≤ r ∧ r ≤ 256
  · rw [if_pos h]; exact from_radix_le_spec ds hb r h.1 h.2
  · rw [if_neg h]; exact (from_radix_bad_radix ds r h).1

theorem to_str_outcome (P : Params) (x : BigInt) (hc : x.Canon) (r : Nat) :
    toStrRadixI P x r = if 2 ≤ r ∧ r ≤ 36
      then .ok ((if x.sign = .minus then [45] else []) ++ textOf r (val x.mag)) else .error .radix := by
  by_cases h : 2 ≤ r ∧ r ≤ 36
  · rw [if_pos h]; exact bigint_to_str_spec P x hc r h.1 h.2
  · rw [if_neg h]; exact (to_str_bad_radix P [] x r h).2

theorem from_str_radix_outcome (s : List Nat) (r : Nat) :
    fromStrRadixU s r = (if 2 ≤ r ∧ r ≤ 36 then .ok (Spec.parseU r s) else .error .radix) ∧
    fromStrRadixI s r = (if 2 ≤ r ∧ r ≤ 36 then .ok (Spec.parseI r s) else .error .radix) := by
  by_cases h : 2 ≤ r ∧ r ≤ 36
  · rw [if_pos h, if_pos h]
    exact ⟨from_str_radix_u_spec s r h.1 h.2, from_str_radix_i_spec s r h.1 h.2⟩
  · rw [if_neg h, if_neg h]; exact from_str_radix_bad_radix s r h

/-- the driver's `Nat` oracle for digit output computes `Nat.digits` (most significant first) -/
theorem oracle_digits_eq (r : Nat) (h2 : 2 ≤ r) : ∀ (n : Nat) (acc : List Nat),
    NB.Drv.C06.oDigitsBE r n acc = (Nat.digits r n).reverse ++ acc := by
  intro n
  induction n using Nat.strong_induction_on with
  | _ n ih =>
    intro acc
    rw [NB.Drv.C06.oDigitsBE]
    by_cases h0 : n = 0
    · subst h0
      rw [dif_pos (Or.inl rfl), Nat.digits_zero]; rfl
    · have hn : 0 < n := Nat.pos_of_ne_zero h0
      rw [dif_neg (fun h => h.elim h0 (Nat.not_lt.2 h2)), ih (n / r) (Nat.div_lt_self hn h2),
        Nat.digits_def' h2 hn, List.reverse_cons, List.append_assoc]
      rfl

theorem oracle_radix_eq (r n : Nat) (h2 : 2 ≤ r) (h256 : r ≤ 256) :
    NB.Drv.C06.oRadixBE r n = .ok (digitsOr0 r n).reverse := by
  unfold NB.Drv.C06.oRadixBE NB.Drv.C06.oDigitsBE0 digitsOr0
  rw [if_neg (fun h => h.elim (Nat.not_lt.2 h2) (Nat.not_lt.2 h256)), oracle_digits_eq r h2, List.append_nil]
  by_cases h0 : n = 0
  · rw [if_pos h0, if_pos h0]; rfl
  · rw [if_neg h0, if_neg h0]

theorem oracle_str_eq (r n : Nat) (h2 : 2 ≤ r) (h36 : r ≤ 36) (neg : Bool) :
    NB.Drv.C06.oStr r neg n = .ok ((if neg then [45] else []) ++ textOf r n) := by
  unfold NB.Drv.C06.oStr NB.Drv.C06.oDigitsBE0 textOf digitsOr0
  rw [if_neg (fun h => h.elim (Nat.not_lt.2 h2) (Nat.not_lt.2 h36)), oracle_digits_eq r h2, List.append_nil]
  by_cases h0 : n = 0
  · rw [if_pos h0, if_pos h0]; rfl
  · rw [if_neg h0, if_neg h0, List.map_reverse]; rfl

/-! The digit-level model NB.Model.RadixD: its operator models are exact by C02 / C03, so on canonical operands it
computes what the value-level model computes (the `_refines` theorems), and the theorems above transfer to it. -/

/-- refinement, inner function: for the radices it is called with (2..=256, not a power of two) -/
theorem to_radix_digits_le_refines (P : Params) (hP : P.ValidMul) (u : List Nat) (hc : Canon u) (r : Nat)
    (h2 : 2 ≤ r) (h256 : r ≤ 256) (hp : isPow2 r = false) :
    toRadixDigitsLeD P u r = toRadixDigitsLe P u r :=
  toRadixDigitsLeD_eq P hP h2 h256 hp u hc

/-- refinement, public functions: EVERY radix (in range or not), every canonical value -/
theorem to_radix_le_refines (P : Params) (hP : P.ValidMul) (u : List Nat) (hc : Canon u) (r : Nat) :
    toRadixLeD P u r = toRadixLe P u r ∧ toRadixBeD P u r = toRadixBe P u r ∧
    toStrRadixUD P u r = toStrRadixU P u r := by
  have h := toRadixLeD_eq P hP u hc r
  refine ⟨h, ?_, ?_⟩
  · unfold toRadixBeD toRadixBe; rw [h]
    cases toRadixLe P u r <;> rfl
  · unfold toStrRadixUD toStrRadixU; rw [toStrRadixReversedD_eq P hP u hc r]
    cases toStrRadixReversed P u r <;> rfl

theorem bigint_to_radix_refines (P : Params) (hP : P.ValidMul) (x : BigInt) (hc : x.Canon) (r : Nat) :
    Radix.BigInt.toRadixLeD P x r = Radix.BigInt.toRadixLe P x r ∧
    Radix.BigInt.toRadixBeD P x r = Radix.BigInt.toRadixBe P x r ∧
    toStrRadixID P x r = toStrRadixI P x r := by
  obtain ⟨h1, h2, -⟩ := to_radix_le_refines P hP x.mag hc.1 r
  refine ⟨?_, ?_, ?_⟩
  · unfold Radix.BigInt.toRadixLeD Radix.BigInt.toRadixLe; rw [h1]
    cases toRadixLe P x.mag r <;> rfl
  · unfold Radix.BigInt.toRadixBeD Radix.BigInt.toRadixBe; rw [h2]
    cases toRadixBe P x.mag r <;> rfl
  · unfold toStrRadixID toStrRadixI; rw [toStrRadixReversedD_eq P hP x.mag hc.1 r]
    cases toStrRadixReversed P x.mag r <;> rfl

theorem format_refines (P : Params) (hP : P.ValidMul) (k : FmtKind) (f : FmtSpec) (x : BigInt) (hc : x.Canon) :
    fmtTripleD P k x = fmtTriple P k x ∧ formatD P k f x = format P k f x := by
  have h : fmtTripleD P k x = fmtTriple P k x := by
    unfold fmtTripleD fmtTriple; rw [(to_radix_le_refines P hP x.mag hc.1 (fmtRadix k)).2.2]
    cases toStrRadixU P x.mag (fmtRadix k) <;> rfl
  refine ⟨h, ?_⟩
  unfold formatD format; rw [h]
  cases fmtTriple P k x <;> rfl

/-- the digit-level `div_rem_digit` loop with the final-digit loop computes what the value-level loop computes, for
    any base `≥ 2` and any fuel bounding the bit length of `digits` -/
theorem slow_loop_refines (radix power base : Nat) (hb : 2 ≤ base) (fuel : Nat) (digits : List Nat)
    (hc : Canon digits) (hf : val digits < 2 ^ fuel) :
    slowLoopD radix power base fuel digits = slowLoop radix power base (val digits) :=
  slowLoopD_eq hb fuel digits hc hf

/-- the digit-level squaring loop (`mulRef` per iteration) computes the digits of what the value-level loop computes -/
theorem square_loop_refines (P : Params) (hP : P.ValidMul) (t fuel : Nat) (bb : List Nat) (bp : Nat) (hc : Canon bb) :
    squareLoopD P t fuel bb bp = (squareLoop t fuel (val bb) bp).map (fun p => (ofNat p.1, p.2)) :=
  squareLoopD_eq P hP t fuel bb bp hc

/-- the digit-level super-chunk loop (`cmp_slice`, `div_rem_ref`, `big_power` × `div_rem_digit`) computes what the
    value-level loop computes, for any fuel bounding the bit length of `digits` -/
theorem big_loop_refines (P : Params) (radix power base bigPower : Nat) (bigBase : List Nat) (hb : 2 ≤ base)
    (hbb : Canon bigBase) (hbb2 : 2 ≤ val bigBase) (fuel : Nat) (digits : List Nat)
    (hc : Canon digits) (hf : val digits < 2 ^ fuel) :
    bigLoopD P radix power base bigBase bigPower fuel digits
      = bigLoop radix power base (val bigBase) bigPower (val digits) :=
  bigLoopD_eq P hb hbb hbb2 fuel digits hc hf

/-- the fuel the model passes, `BITS * u.len()`, always bounds the bit length (termination of both loops) -/
theorem radix_fuel_sufficient (u : List Nat) (hd : DigitsOk u) : val u < 2 ^ radixFuel u :=
  val_lt_radixFuel hd

/-- `to_radix_le` at digit level: the unique positional representation, on every code path -/
theorem to_radix_leD_spec (P : Params) (hP : P.ValidMul) (u : List Nat) (hc : Canon u) (r : Nat)
    (h2 : 2 ≤ r) (h256 : r ≤ 256) :
    toRadixLeD P u r = .ok (digitsOr0 r (val u)) := by
  rw [toRadixLeD_eq P hP u hc r]; exact to_radix_le_spec P u hc r h2 h256

theorem to_radix_beD_spec (P : Params) (hP : P.ValidMul) (u : List Nat) (hc : Canon u) (r : Nat)
    (h2 : 2 ≤ r) (h256 : r ≤ 256) :
    toRadixBeD P u r = .ok (digitsOr0 r (val u)).reverse := by
  rw [(to_radix_le_refines P hP u hc r).2.1]; exact to_radix_be_spec P u hc r h2 h256

/-- complete outcome table at digit level: the positional digits, or `panic radix` — in particular no
    `.divzero` (of `div_rem_digit` / `div_rem`), no internal assertion of `mac3` / `div_rem_core`, no `#DE` of
    `div_wide`, no `digits.data[0]` out of bounds and no fuel exhaustion is reachable -/
theorem to_radix_leD_outcome (P : Params) (hP : P.ValidMul) (u : List Nat) (hc : Canon u) (r : Nat) :
    toRadixLeD P u r = if 2 ≤ r ∧ r ≤ 256 then .ok (digitsOr0 r (val u)) else .error .radix := by
  rw [toRadixLeD_eq P hP u hc r]; exact to_radix_le_outcome P u hc r

theorem to_radixD_no_internal (P : Params) (hP : P.ValidMul) (u : List Nat) (hc : Canon u) (r : Nat) (e : Panic) :
    toRadixLeD P u r = .error e → e = .radix := by
  rw [to_radix_leD_outcome P hP u hc r]
  split
  · intro h; cases h
  · intro h; injection h with h; exact h.symm

theorem bigint_to_radixD_spec (P : Params) (hP : P.ValidMul) (x : BigInt) (hc : x.Canon) (r : Nat)
    (h2 : 2 ≤ r) (h256 : r ≤ 256) :
    Radix.BigInt.toRadixLeD P x r = .ok (x.sign, digitsOr0 r x.val.natAbs) ∧
    Radix.BigInt.toRadixBeD P x r = .ok (x.sign, (digitsOr0 r x.val.natAbs).reverse) := by
  obtain ⟨e1, e2, _⟩ := bigint_to_radix_refines P hP x hc r
  rw [e1, e2]; exact bigint_to_radix_le_spec P x hc r h2 h256

/-- the big-base path at digit level: a super-chunk `big_r` (any digit vector with value below `base^big_power`)
    is emitted by `big_power` calls of `div_rem_digit` as exactly `big_power * power` zero-padded digits -/
theorem big_chunkD_spec (r power bigPower : Nat) (bigR : List Nat) (hd : DigitsOk bigR) (h2 : 2 ≤ r) (h256 : r ≤ 256)
    (hlt : val bigR < (r ^ power) ^ bigPower) :
    emitChunksD r power (r ^ power) bigPower bigR
      = .ok (Nat.digits r (val bigR) ++ List.replicate (bigPower * power - (Nat.digits r (val bigR)).length) 0) := by
  have hb0 : r ^ power ≠ 0 := Nat.pos_iff_ne_zero.1 (Nat.pow_pos (Nat.lt_of_lt_of_le (by decide) h2))
  rw [emitChunksD_eq hb0 bigPower bigR hd, (big_chunk_spec r power bigPower (val bigR) h2 h256 hlt).1]

/-- `from_radix_le/be` of the digit-level `to_radix_le` output returns the original value -/
theorem from_to_radixD (P : Params) (hP : P.ValidMul) (u : List Nat) (hc : Canon u) (r : Nat) (h2 : 2 ≤ r) (h256 : r ≤ 256) :
    ∃ ds, toRadixLeD P u r = .ok ds ∧ fromRadixLe ds r = .ok (some u) ∧ fromRadixBe ds.reverse r = .ok (some u) := by
  rw [toRadixLeD_eq P hP u hc r]; exact from_to_radix P u hc r h2 h256

theorem to_from_radixD (P : Params) (hP : P.ValidMul) (ds : List Nat) (r : Nat) (h2 : 2 ≤ r) (h256 : r ≤ 256)
    (hd : ∀ d ∈ ds, d < r) (hne : ds ≠ []) (hlast : ds.getLast? ≠ some 0) :
    ∃ u, fromRadixLe ds r = .ok (some u) ∧ Canon u ∧ toRadixLeD P u r = .ok ds := by
  obtain ⟨u, e1, hcu, e2⟩ := to_from_radix P ds r h2 h256 hd hne hlast
  exact ⟨u, e1, hcu, by rw [toRadixLeD_eq P hP u hcu r]; exact e2⟩

theorem to_strD_spec (P : Params) (hP : P.ValidMul) (u : List Nat) (hc : Canon u) (r : Nat) (h2 : 2 ≤ r) (h36 : r ≤ 36) :
    toStrRadixUD P u r = .ok (textOf r (val u)) := by
  rw [(to_radix_le_refines P hP u hc r).2.2]; exact to_str_spec P u hc r h2 h36

theorem bigint_to_strD_spec (P : Params) (hP : P.ValidMul) (x : BigInt) (hc : x.Canon) (r : Nat) (h2 : 2 ≤ r) (h36 : r ≤ 36) :
    toStrRadixID P x r = .ok ((if x.sign = .minus then [45] else []) ++ textOf r (val x.mag)) := by
  rw [(bigint_to_radix_refines P hP x hc r).2.2]; exact bigint_to_str_spec P x hc r h2 h36

theorem to_strD_outcome (P : Params) (hP : P.ValidMul) (x : BigInt) (hc : x.Canon) (r : Nat) :
    toStrRadixID P x r = if 2 ≤ r ∧ r ≤ 36
      then .ok ((if x.sign = .minus then [45] else []) ++ textOf r (val x.mag)) else .error .radix := by
  rw [(bigint_to_radix_refines P hP x hc r).2.2]; exact to_str_outcome P x hc r

/-- parsing the text emitted by the digit-level model returns the original value -/
theorem parse_to_strD_u (P : Params) (hP : P.ValidMul) (u : List Nat) (hc : Canon u) (r : Nat) (h2 : 2 ≤ r) (h36 : r ≤ 36) :
    ∃ s, toStrRadixUD P u r = .ok s ∧ fromStrRadixU s r = .ok (.ok u) ∧ parseBytesU s r = .ok (some u) := by
  rw [(to_radix_le_refines P hP u hc r).2.2]; exact parse_to_str_u P u hc r h2 h36

theorem parse_to_strD_i (P : Params) (hP : P.ValidMul) (x : BigInt) (hc : x.Canon) (r : Nat) (h2 : 2 ≤ r) (h36 : r ≤ 36) :
    ∃ s, toStrRadixID P x r = .ok s ∧ fromStrRadixI s r = .ok (.ok x) ∧ parseBytesI s r = .ok (some x) := by
  rw [(bigint_to_radix_refines P hP x hc r).2.2]; exact parse_to_str_i P x hc r h2 h36

theorem fmt_tripleD_spec (P : Params) (hP : P.ValidMul) (k : FmtKind) (x : BigInt) (hc : x.Canon) :
    fmtTripleD P k x = .ok (decide (x.sign ≠ .minus), fmtPrefix k,
      if k = .upperHex then (textOf (fmtRadix k) (val x.mag)).map asciiUpper else textOf (fmtRadix k) (val x.mag)) := by
  rw [(format_refines P hP k default x hc).1]; exact fmt_triple_spec P k x hc

theorem formatD_spec (P : Params) (hP : P.ValidMul) (k : FmtKind) (f : FmtSpec) (x : BigInt) (hc : x.Canon) :
    formatD P k f x = .ok (padIntegral f (decide (x.sign ≠ .minus)) (fmtPrefix k)
      (if k = .upperHex then (textOf (fmtRadix k) (val x.mag)).map asciiUpper else textOf (fmtRadix k) (val x.mag))) := by
  rw [(format_refines P hP k f x hc).2]; exact format_spec P k f x hc

/-- what the driver runs: the digit-level model at the parameters regenerated from the source
    (`gen_params_valid_mul` is C02's proof obligation) -/
theorem gen_to_radix_leD_spec (u : List Nat) (hc : Canon u) (r : Nat) :
    toRadixLeD NB.Gen.P u r = if 2 ≤ r ∧ r ≤ 256 then .ok (digitsOr0 r (val u)) else .error .radix :=
  to_radix_leD_outcome NB.Gen.P gen_params_valid_mul u hc r

theorem gen_to_strD_spec (x : BigInt) (hc : x.Canon) (r : Nat) :
    toStrRadixID NB.Gen.P x r = if 2 ≤ r ∧ r ≤ 36
      then .ok ((if x.sign = .minus then [45] else []) ++ textOf r (val x.mag)) else .error .radix :=
  to_strD_outcome NB.Gen.P gen_params_valid_mul x hc r

theorem gen_formatD_spec (k : FmtKind) (f : FmtSpec) (x : BigInt) (hc : x.Canon) :
    formatD NB.Gen.P k f x = .ok (padIntegral f (decide (x.sign ≠ .minus)) (fmtPrefix k)
      (if k = .upperHex then (textOf (fmtRadix k) (val x.mag)).map asciiUpper else textOf (fmtRadix k) (val x.mag))) :=
  formatD_spec NB.Gen.P gen_params_valid_mul k f x hc

theorem useD_of_cap {a : List Nat} (h : NB.Drv.C06.dCap = 0 ∨ a.length ≤ NB.Drv.C06.dCap) :
    NB.Drv.C06.useD a = true := by
  unfold NB.Drv.C06.useD
  rw [Bool.or_eq_true, beq_iff_eq, decide_eq_true_eq]
  exact h

/-- the driver's model column for the general-radix output ops (NB.Drv.C06.mToRadixLe & co.) is the digit-level
    definition whenever the size cap `dCap` is `0` (no cap) or the operand is not longer than it -/
theorem drv_model_is_digit_level (a : List Nat) (r : Nat) (k : FmtKind) (f : FmtSpec) (x : BigInt)
    (ha : NB.Drv.C06.dCap = 0 ∨ a.length ≤ NB.Drv.C06.dCap) (hx : NB.Drv.C06.dCap = 0 ∨ x.mag.length ≤ NB.Drv.C06.dCap) :
    NB.Drv.C06.mToRadixLe a r = toRadixLeD NB.Gen.P a r ∧ NB.Drv.C06.mToRadixBe a r = toRadixBeD NB.Gen.P a r ∧
    NB.Drv.C06.mToStrU a r = toStrRadixUD NB.Gen.P a r ∧ NB.Drv.C06.mToStrI x r = toStrRadixID NB.Gen.P x r ∧
    NB.Drv.C06.mToRadixLeI x r = Radix.BigInt.toRadixLeD NB.Gen.P x r ∧
    NB.Drv.C06.mToRadixBeI x r = Radix.BigInt.toRadixBeD NB.Gen.P x r ∧
    NB.Drv.C06.mFmt k f x = formatD NB.Gen.P k f x := by
  unfold NB.Drv.C06.mToRadixLe NB.Drv.C06.mToRadixBe NB.Drv.C06.mToStrU NB.Drv.C06.mToStrI
    NB.Drv.C06.mToRadixLeI NB.Drv.C06.mToRadixBeI NB.Drv.C06.mFmt NB.Drv.C06.P
  rw [useD_of_cap ha, useD_of_cap hx]
  exact ⟨rfl, rfl, rfl, rfl, rfl, rfl, rfl⟩

/-- the driver's model column for `to_radix_le` equals the specification whether or not the size cap `dCap` applies
    (so a cap could never mask a model error) -/
theorem drv_model_column_spec (u : List Nat) (hc : Canon u) (r : Nat) :
    NB.Drv.C06.mToRadixLe u r = if 2 ≤ r ∧ r ≤ 256 then .ok (digitsOr0 r (val u)) else .error .radix := by
  unfold NB.Drv.C06.mToRadixLe NB.Drv.C06.P
  split
  · exact gen_to_radix_leD_spec u hc r
  · exact to_radix_le_outcome _ u hc r

/-- the generated parameters take their big-base threshold from `NB.Gen.bigBase`, the constant extracted from
    `to_radix_digits_le`; the theorems above hold for every value of it -/
theorem gen_params_bigbase : NB.Gen.P.bigBase = NB.Gen.bigBase := rfl

example : Canon [B - 1, 1] ∧ Canon [1] := by decide +kernel
/-- the hypotheses of the digit-level theorems are satisfiable, also on the big-base path (`u.len() ≥ P.bigBase`) -/
example : NB.Gen.P.ValidMul ∧ Canon (List.replicate 70 7) ∧ NB.Gen.P.bigBase ≤ (List.replicate 70 7).length := by decide +kernel
example : toRadixLeD NB.Gen.P (List.replicate 70 7) 10 = .ok (digitsOr0 10 (val (List.replicate 70 7))) :=
  to_radix_leD_spec NB.Gen.P gen_params_valid_mul _ (by decide +kernel) 10 (by decide) (by decide)
example : toStrRadixUD NB.Gen.P [B - 1, 1] 36 = .ok (textOf 36 (val [B - 1, 1])) :=
  to_strD_spec NB.Gen.P gen_params_valid_mul _ (by decide +kernel) 36 (by decide) (by decide)
example : Spec.wellFormedI 16 [45, 70, 95, 102] = true ∧ Spec.denoteInt 16 [45, 70, 95, 102] = -255 := by decide +kernel
example : Spec.wellFormedU 10 [43, 48, 48, 55] = true ∧ Spec.wellFormedU 10 [45, 55] = false
    ∧ Spec.wellFormedU 10 [95, 55] = false ∧ Spec.wellFormedI 10 [43, 45, 55] = false := by decide +kernel
example : (radixBaseEntry (B - 1) 10) = (10 ^ 19, 19) ∧ (radixBaseEntry (B - 1) 3) = (3 ^ 40, 40) := by decide +kernel
example : textOf 16 255 = [102, 102] := by
  simp [textOf, digitsOr0, digitChar]
example : padIntegral { signPlus := true, alternate := true, zeroPad := true, width := some 12 } true [48, 120] [102, 102]
    = [43, 48, 120, 48, 48, 48, 48, 48, 48, 48, 102, 102] := by decide +kernel

end NB
