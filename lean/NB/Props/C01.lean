/-
  C01 — Addition and subtraction are exact for every operand length and carry pattern.

  Every theorem states that the *model of the code path* (NB.Model.AddSub, written from
  src/biguint/{addition,subtraction}.rs and src/bigint/{addition,subtraction}.rs, and
  correspondence-checked against the real crate by the harness) returns exactly the canonical
  representation of the mathematical result, for all canonical operands of any length, any
  digit content and — for BigInt — all sign combinations; and that BigUint subtraction
  panics exactly when a < b.
-/
import NB.Lemmas.AddSub
import NB.Lemmas.Canon
import NB.Model.AsmParams
namespace NB

/-- well-formedness of the extracted block descriptions: both asm loops stay within `len` digits
    (`w * (len / d) ≤ len`, `blk_done_le`).  The theorems of C01 hold for every block description;
    C15 uses this for the preconditions of the asm routines. -/
def Params.ValidAddSub (P : Params) : Prop := P.addBlk.Valid ∧ P.subBlk.Valid
instance (P : Params) : Decidable P.ValidAddSub := by unfold Params.ValidAddSub; infer_instance

theorem gen_params_valid_addsub : NB.Gen.P.ValidAddSub := by decide

/-- the asm routine never claims more digits than it was given -/
theorem blk_done_le (p : Blk) (h : p.Valid) (len : Nat) : p.done len ≤ len := by
  unfold Blk.done
  calc p.w * (len / p.d) ≤ p.d * (len / p.d) := Nat.mul_le_mul_right _ h.2
    _ ≤ len := Nat.mul_div_le len p.d

/-- a low stage of weight `P` with carry `c`, then a high stage that takes `c` in -/
theorem add_stages {P H lo hi k c a bl bh : Nat} (hlo : lo + P * c = a + bl) (hhi : hi + H * k = bh + c) :
    lo + P * hi + P * H * k = a + (bl + P * bh) :=
  calc lo + P * hi + P * H * k = lo + P * (hi + H * k) := by ring
    _ = (lo + P * c) + P * bh := by rw [hhi]; ring
    _ = a + (bl + P * bh) := by rw [hlo]; ring

/-- `a += &b`: exact sum, canonical result, for both length orders -/
theorem addAssign_spec (P : Params) (a b : List Nat) (ha : Canon a) (hb : Canon b) :
    addAssign P a b = ofNat (val a + val b) := by
  unfold addAssign
  dsimp only
  by_cases hlt : a.length < b.length
  · -- low part, then the tail of b plus the low carry
    simp only [if_pos hlt]
    have hbt : (b.take a.length).length = a.length := List.length_take_of_le (Nat.le_of_lt hlt)
    obtain ⟨l1, l2, l3, l4⟩ := add2c_spec P a (b.take a.length) (Nat.le_of_eq hbt) ha.1 (hb.1.take _)
    obtain ⟨h1, h2, h3, h4⟩ := add2c_spec P (b.drop a.length) [(add2c P a (b.take a.length)).2]
      (by rw [List.length_drop, List.length_singleton]; omega) (hb.1.drop _)
      (DigitsOk.cons (Nat.lt_of_le_of_lt l4 (by decide)) DigitsOk.nil)
    generalize add2c P (b.drop a.length) [(add2c P a (b.take a.length)).2] = hi at *
    generalize add2c P a (b.take a.length) = lo at *
    rw [val_singleton] at h1
    have hlen : (lo.1 ++ hi.1).length = a.length + (b.drop a.length).length := by
      rw [List.length_append, l2, h2]
    have hbl : (lo.1 ++ hi.1).length = b.length := by rw [hlen, List.length_drop]; omega
    refine push_carry_spec (l3.append h3) h4 ?_ (fun _ => ?_)
    · rw [val_append, l2, hlen, pow_add, val_split_at b a.length]
      exact add_stages l1 h1
    · rw [hbl]
      exact Nat.le_trans (canon_val_ge hb (by rintro rfl; simp at hlt)) (Nat.le_add_left _ _)
  · simp only [if_neg hlt]
    obtain ⟨l1, l2, l3, l4⟩ := add2c_spec P a b (Nat.le_of_not_lt hlt) ha.1 hb.1
    refine push_carry_spec l3 l4 (l2 ▸ l1) (fun hne => ?_)
    rw [l2]
    exact Nat.le_trans (canon_val_ge ha (by rintro rfl; exact hne (List.length_eq_zero_iff.mp l2)))
      (Nat.le_add_right _ _)

/-- `&a + &b` (clone of the longer operand, then `+=`): exact canonical sum -/
theorem addRef_spec (P : Params) (a b : List Nat) (ha : Canon a) (hb : Canon b) :
    addRef P a b = ofNat (val a + val b) := by
  unfold addRef
  split
  · exact addAssign_spec P a b ha hb
  · rw [addAssign_spec P b a hb ha, Nat.add_comm]

/-- proper digits `r` with `val r + vb = va`, normalised, are the outcome of `va - vb` -/
theorem ok_normalize_sub {r : List Nat} {va vb : Nat} (hok : DigitsOk r) (hv : val r + vb = va) :
    (Except.ok (normalize r) : Except Panic (List Nat)) =
      if va < vb then .error .underflow else .ok (ofNat (va - vb)) := by
  rw [if_neg (by omega), canon_eq_ofNat (normalize_canon hok), normalize_val]
  exact congrArg (fun n => Except.ok (ofNat n)) (by omega)

/-- a raw subtraction that underflows exactly when `va < vb` and is exact otherwise, followed by `normalize` -/
theorem map_normalize_sub {X : Except Panic (List Nat)} {va vb : Nat} (h1 : va < vb → X = .error .underflow)
    (h2 : vb ≤ va → ∃ r, X = .ok r ∧ val r = va - vb ∧ DigitsOk r) :
    X.map normalize = if va < vb then .error .underflow else .ok (ofNat (va - vb)) := by
  by_cases hlt : va < vb
  · rw [h1 hlt, if_pos hlt]; rfl
  · obtain ⟨r, hr, hv, hok⟩ := h2 (Nat.le_of_not_lt hlt)
    rw [hr]
    exact ok_normalize_sub hok (by omega)

/-- `a -= &b` / `&a - &b`: panics exactly when a < b, otherwise the exact canonical difference -/
theorem subAssign_spec (P : Params) (a b : List Nat) (ha : Canon a) (hb : Canon b) :
    subAssign P a b = if val a < val b then .error .underflow else .ok (ofNat (val a - val b)) := by
  obtain ⟨h1, h2⟩ := sub2_spec P a b ha.1 hb.1
  exact map_normalize_sub h1 (fun h => let ⟨r, hr, hv, _, hok⟩ := h2 h; ⟨r, hr, hv, hok⟩)

theorem subRef_spec (P : Params) (a b : List Nat) (ha : Canon a) (hb : Canon b) :
    subRef P a b = if val a < val b then .error .underflow else .ok (ofNat (val a - val b)) :=
  subAssign_spec P a b ha hb

/-- `checked_sub` returns `None` exactly when a < b and never panics -/
theorem checkedSub_spec (P : Params) (a b : List Nat) (ha : Canon a) (hb : Canon b) :
    checkedSub P a b = .ok (if val a < val b then none else some (ofNat (val a - val b))) := by
  unfold checkedSub
  rw [cmpSlice_spec ha hb]
  rcases Nat.lt_trichotomy (val a) (val b) with h | h | h
  · rw [Nat.compare_eq_lt.mpr h]; simp [h]
  · rw [Nat.compare_eq_eq.mpr h, h, if_neg (Nat.lt_irrefl _), Nat.sub_self, ofNat_zero]
  · rw [Nat.compare_eq_gt.mpr h]
    have : ¬ val a < val b := by omega
    simp only [this, if_false, subRef_spec P a b ha hb]; rfl

/-- `sub2rev(a, b)` with `a.len() ≤ b.len()`: b := a - b -/
theorem sub2rev_spec (a b : List Nat) (hl : a.length ≤ b.length) (ha : DigitsOk a) (hb : DigitsOk b) :
    (val a < val b → sub2rev a b = .error .underflow) ∧
    (val b ≤ val a → ∃ r, sub2rev a b = .ok r ∧ val r = val a - val b ∧ DigitsOk r) := by
  unfold sub2rev sub2revc
  dsimp only
  rw [Nat.min_eq_left hl, List.take_length, List.drop_length]
  obtain ⟨z1, z2, z3, z4⟩ := sbbZip_spec a (b.take a.length) 0 (List.length_take_of_le hl).symm ha
    (hb.take _) (Nat.zero_le 1)
  rw [Nat.add_zero] at z1
  obtain ⟨k1, k2⟩ := sub_borrow_arith (bh := val (b.drop a.length)) z1
    (Nat.lt_of_lt_of_eq (val_lt z3) (congrArg (B ^ ·) z2)) z4
  rw [← all_zero_val] at k1 k2
  rw [if_neg (by simp), val_split_at b a.length]
  refine ⟨fun hlt => if_neg (k1 hlt), fun hle => ?_⟩
  obtain ⟨h0, hbh, hv⟩ := k2 hle
  refine ⟨_, if_pos ⟨h0, hbh⟩, ?_, z3.append (hb.drop _)⟩
  rw [val_append, z2, hv, all_zero_val.mp hbh, Nat.mul_zero, Nat.add_zero]

/-- a low stage of weight `P` with borrow `k`, made up for by a high part that is `k` smaller -/
theorem sub_stages {P lo hi k b alo ahi : Nat} (hlo : lo + b = alo + P * k) (hhi : hi + k = ahi) :
    lo + P * hi + b = alo + P * ahi :=
  calc lo + P * hi + b = (lo + b) + P * hi := by ring
    _ = alo + P * (hi + k) := by rw [hlo]; ring
    _ = alo + P * ahi := by rw [hhi]

/-- `&a - b` (by value, reusing b's buffer): same outcome as every other form -/
theorem subRefVal_spec (P : Params) (a b : List Nat) (ha : Canon a) (hb : Canon b) :
    subRefVal P a b = if val a < val b then .error .underflow else .ok (ofNat (val a - val b)) := by
  unfold subRefVal
  by_cases hlen : b.length < a.length
  · -- a is longer: its high part is a positive number, which absorbs the borrow of the low part
    rw [if_pos hlen]
    unfold sub2revc
    dsimp only
    have hLa : (a.take b.length).length = b.length := List.length_take_of_le (Nat.le_of_lt hlen)
    obtain ⟨z1, z2, z3, z4⟩ := sbbZip_spec (a.take b.length) b 0 hLa (ha.1.take _) hb.1 (Nat.zero_le 1)
    rw [hLa, Nat.add_zero] at z1
    rw [hLa] at z2
    have hhipos : 0 < val (a.drop b.length) := by
      refine canon_val_pos ⟨ha.1.drop _, ?_⟩ (fun h => by have := congrArg List.length h; simp at this; omega)
      rw [List.getLast?_drop, if_neg (Nat.not_le_of_lt hlen)]
      exact ha.2
    -- whichever digits `hi` replace the high part, they make up for the borrow
    have key : ∀ hi, DigitsOk hi → val hi + (sbbZip 0 (a.take b.length) b).2 = val (a.drop b.length) →
        (Except.ok (normalize ((sbbZip 0 (a.take b.length) b).1 ++ hi)) : Except Panic (List Nat)) =
          if val a < val b then .error .underflow else .ok (ofNat (val a - val b)) := by
      intro hi hok hv
      refine ok_normalize_sub (z3.append hok) ?_
      rw [val_append, z2, val_split_at a b.length]
      exact sub_stages z1 hv
    by_cases hbz : (sbbZip 0 (a.take b.length) b).2 = 0
    · rw [if_neg (by simpa using hbz)]
      exact key _ (ha.1.drop _) (by rw [hbz, Nat.add_zero])
    · have hb1 : (sbbZip 0 (a.take b.length) b).2 = 1 := by omega
      obtain ⟨_, s2⟩ := sub2_spec P (a.drop b.length) [1] (ha.1.drop _) (DigitsOk.cons (by decide) DigitsOk.nil)
      obtain ⟨hi, hhi, hhv, _, hhok⟩ := s2 hhipos
      rw [if_pos hbz, hhi]
      exact key hi hhok (by rw [hhv, hb1]; exact Nat.sub_add_cancel hhipos)
  · rw [if_neg hlen]
    obtain ⟨h1, h2⟩ := sub2rev_spec a b (Nat.le_of_not_lt hlen) ha.1 hb.1
    exact map_normalize_sub h1 h2

/-- `sub2rev`'s assertion `a_hi.is_empty()` is unreachable from `&a - b` -/
theorem sub2rev_no_internal (a b : List Nat) (hl : a.length ≤ b.length) :
    sub2rev a b ≠ .error (.internal "sub2rev a_hi") := by
  unfold sub2rev
  have : a.drop (min a.length b.length) = [] := by simp [Nat.min_eq_left hl]
  simp only [this, ne_eq, not_true_eq_false, if_false]
  split <;> simp

theorem ok_from_plus {m : List Nat} {i : Int} (h : Canon m) (hi : (val m : Int) = i) :
    (Except.ok (BigInt.fromBiguint .plus m) : Except Panic BigInt) = .ok (BigInt.ofInt i) := by
  rw [fromBiguint_plus h, hi]

theorem ok_from_minus {m : List Nat} {i : Int} (h : Canon m) (hi : -(val m : Int) = i) :
    (Except.ok (BigInt.fromBiguint .minus m) : Except Panic BigInt) = .ok (BigInt.ofInt i) := by
  rw [fromBiguint_minus h, hi]

/-- the magnitude-difference arm: exact signed difference, canonical, never panics -/
theorem subMag_spec (P : Params) (ma mb : List Nat) (hca : Canon ma) (hcb : Canon mb) :
    BigInt.subMag P .plus ma mb = .ok (BigInt.ofInt ((val ma : Int) - val mb)) ∧
    BigInt.subMag P .minus ma mb = .ok (BigInt.ofInt ((val mb : Int) - val ma)) := by
  unfold BigInt.subMag
  rw [cmpSlice_spec hca hcb]
  have hs1 := subRef_spec P ma mb hca hcb
  have hs2 := subRef_spec P mb ma hcb hca
  rcases Nat.lt_trichotomy (val ma) (val mb) with h | h | h
  · rw [Nat.compare_eq_lt.mpr h]
    have : ¬ val mb < val ma := by omega
    simp only [hs2, this, if_false, Sign.neg]
    constructor
    · exact ok_from_minus (ofNat_canon _) (by rw [ofNat_val]; omega)
    · exact ok_from_plus (ofNat_canon _) (by rw [ofNat_val]; omega)
  · rw [Nat.compare_eq_eq.mpr h]
    simp [h, BigInt.ofInt]
  · rw [Nat.compare_eq_gt.mpr h]
    have : ¬ val ma < val mb := by omega
    simp only [hs1, this, if_false]
    constructor
    · exact ok_from_plus (ofNat_canon _) (by rw [ofNat_val]; omega)
    · exact ok_from_minus (ofNat_canon _) (by rw [ofNat_val]; omega)

/-- BigInt addition: exact for all nine sign pairs, result canonical, never panics -/
theorem bigint_add_spec (P : Params) (a b : BigInt) (ha : a.Canon) (hb : b.Canon) :
    BigInt.add P a b = .ok (BigInt.ofInt (a.val + b.val)) := by
  obtain ⟨sa, ma⟩ := a
  obtain ⟨sb, mb⟩ := b
  have hA := bigint_canon_eq_ofInt ha
  have hB := bigint_canon_eq_ofInt hb
  obtain ⟨hca, hsa⟩ := ha
  obtain ⟨hcb, hsb⟩ := hb
  simp only at hca hsa hcb hsb
  have hsumC := ofNat_canon (val ma + val mb)
  obtain ⟨hdp, hdm⟩ := subMag_spec P ma mb hca hcb
  cases sa <;> cases sb <;> simp only [BigInt.add, BigInt.val, addRef_spec P ma mb hca hcb, Int.add_zero, Int.zero_add] at hA hB ⊢
  · exact ok_from_minus hsumC (by rw [ofNat_val]; omega)
  · exact congrArg _ hA
  · rw [hdm]; congr 2; omega
  · exact congrArg _ hB
  · exact congrArg _ hA
  · exact congrArg _ hB
  · rw [hdp]; congr 2
  · exact congrArg _ hA
  · exact ok_from_plus hsumC (by rw [ofNat_val]; omega)

/-- BigInt subtraction: exact for all nine sign pairs, result canonical, never panics -/
theorem bigint_sub_spec (P : Params) (a b : BigInt) (ha : a.Canon) (hb : b.Canon) :
    BigInt.sub P a b = .ok (BigInt.ofInt (a.val - b.val)) := by
  obtain ⟨sa, ma⟩ := a
  obtain ⟨sb, mb⟩ := b
  have hA := bigint_canon_eq_ofInt ha
  have hB := bigint_canon_eq_ofInt hb
  have hNB : (BigInt.neg ⟨sb, mb⟩) = BigInt.ofInt (-(BigInt.val ⟨sb, mb⟩)) :=
    (congrArg BigInt.neg hB).trans (neg_ofInt _)
  obtain ⟨hca, hsa⟩ := ha
  obtain ⟨hcb, hsb⟩ := hb
  simp only at hca hsa hcb hsb
  have hsumC := ofNat_canon (val ma + val mb)
  obtain ⟨hdp, hdm⟩ := subMag_spec P ma mb hca hcb
  cases sa <;> cases sb <;> simp only [BigInt.sub, BigInt.val, addRef_spec P ma mb hca hcb, Int.sub_zero, Int.zero_sub] at hA hB hNB ⊢
  · rw [hdm]; congr 2; omega
  · exact congrArg _ hA
  · exact ok_from_minus hsumC (by rw [ofNat_val]; omega)
  · exact congrArg _ hNB
  · exact congrArg _ hA
  · exact congrArg _ hNB
  · exact ok_from_plus hsumC (by rw [ofNat_val]; omega)
  · exact congrArg _ hA
  · rw [hdp]

/- non-vacuity: concrete canonical operands whose carry (borrow) runs through every digit of the longer
   operand and changes the length of the result -/
example : Canon [B - 1, B - 1, B - 1, B - 1, B - 1, B - 1] ∧ Canon [1] := by decide
example : addAssign NB.Gen.P [B - 1, B - 1, B - 1, B - 1, B - 1, B - 1] [1] = [0, 0, 0, 0, 0, 0, 1] := by decide
example : subAssign NB.Gen.P [0, 0, 0, 0, 0, 0, 1] [1] = .ok [B - 1, B - 1, B - 1, B - 1, B - 1, B - 1] := by decide
example : subAssign NB.Gen.P [5] [0, 1] = .error .underflow := by decide

end NB
