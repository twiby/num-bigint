/-
  C15 — unsafe code stays in bounds (the part that is logic).

  Obligations over the two asm programs generated from the source (NB.Gen.AsmProg), under the mini x86
  semantics of NB.Model.Asm.  Nothing in this file depends on the instruction lists: the generated
  programs are accepted by the checker `NB.Asm.checkLoop` (NB.Model.AsmCheck; sound for every program,
  NB.Props.C15G) by `add_checked` / `sub_checked` (`by decide`), and the statements about one iteration,
  the whole routine and the list level (what NB.add2c / NB.sub2 assume about the routine) are instances.
  An edit of the asm (memory operands, `lea`, another unroll factor, reordered independent instructions,
  other scratch registers) re-proves as long as the checker accepts the new instruction list; an edit the
  checker rejects makes `add_checked`/`sub_checked` fail.
  What this cannot show: that the machine code rustc emits honours the operand constraints and
  that real memory behaves like the two bounded arrays — observed by the valgrind run instead.
-/
import NB.Props.C15G
import NB.Model.AsmParams
import NB.Props.C01
namespace NB.Asm
open NB NB.Gen

def addRegs : Regs := ⟨addReg_size, addReg_a, addReg_b, addReg_c, addReg_idx⟩
def subRegs : Regs := ⟨subReg_size, subReg_a, subReg_b, subReg_c, subReg_idx⟩

/-- the checker accepts the generated add program, with the block width the C01 model uses
    (`P.addBlk.w`, read off the `inc`/`lea` instructions by `NB.Gen.idxStep`) -/
theorem add_checked : checkLoop false addProg addRegs addNRegs = some NB.Gen.P.addBlk.w := by decide
/-- the checker accepts the generated sub program -/
theorem sub_checked : checkLoop true subProg subRegs subNRegs = some NB.Gen.P.subBlk.w := by decide

def addLoop : Loop := (splitLoop addProg).getD ⟨[], [], []⟩
def subLoop : Loop := (splitLoop subProg).getD ⟨[], [], []⟩

/-- both generated programs have the shape `pre; L: body; jnz L; post` -/
theorem add_prog_shape : splitLoop addProg = some addLoop := by
  obtain ⟨l, _, hs, _⟩ := checkLoop_inv add_checked
  simp only [addLoop, hs, Option.getD_some]
theorem sub_prog_shape : splitLoop subProg = some subLoop := by
  obtain ⟨l, _, hs, _⟩ := checkLoop_inv sub_checked
  simp only [subLoop, hs, Option.getD_some]

def storesThrough (r : Nat) : Instr → Bool
  | .store base _ _ _ => base == r
  | .storen base _ _ => base == r
  | _ => false

/-- no instruction of either program stores through the read-only pointer `b` -/
theorem asm_b_readonly :
    (addProg.all fun i => !storesThrough addReg_b i) = true ∧
    (subProg.all fun i => !storesThrough subReg_b i) = true := by decide

def addCfg (la lb : Nat) : Cfg := ⟨addReg_a, addReg_b, la, lb⟩
def subCfg (la lb : Nat) : Cfg := ⟨subReg_a, subReg_b, la, lb⟩

/-- the divisor of the Rust wrapper (`size /= 5`) covers the block width of the loop -/
theorem add_width : NB.Gen.P.addBlk.w ≤ addDiv := gen_params_valid_addsub.1.2
theorem sub_width : NB.Gen.P.subBlk.w ≤ subDiv := gen_params_valid_addsub.2.2

/-- one iteration of the add loop: no fault, `b` untouched, `idx += w`, `size -= 1`,
    `a` and CF are exactly the adc chain over `[idx, idx+w)` -/
theorem add_body_spec (la lb : Nat) (regs : Nat → Nat) (cf zf : Bool) (a b : Nat → Nat) (i : Nat)
    (hi : regs addReg_idx = i) (hla : i + NB.Gen.P.addBlk.w ≤ la) (hlb : i + NB.Gen.P.addBlk.w ≤ lb) (hB : la < B) :
    ∃ s', exec (addCfg la lb) addLoop.body ⟨regs, cf, zf, a, b⟩ = some s' ∧
      BodyPost s' b (chainAdd a b cf i NB.Gen.P.addBlk.w) (i + NB.Gen.P.addBlk.w)
        ((regs addReg_size + B - 1) % B) addReg_idx addReg_size := by
  obtain ⟨l, σ, hs, _, _, _, _, hex, hfin⟩ := checkLoop_inv add_checked
  have hl : addLoop = l := by simp only [addLoop, hs, Option.getD_some]
  rw [hl, ← chainG_adc]
  exact checkBody_sound hex hfin la lb regs cf zf a b i hi hla hlb hB

/-- one iteration of the sub loop -/
theorem sub_body_spec (la lb : Nat) (regs : Nat → Nat) (cf zf : Bool) (a b : Nat → Nat) (i : Nat)
    (hi : regs subReg_idx = i) (hla : i + NB.Gen.P.subBlk.w ≤ la) (hlb : i + NB.Gen.P.subBlk.w ≤ lb) (hB : la < B) :
    ∃ s', exec (subCfg la lb) subLoop.body ⟨regs, cf, zf, a, b⟩ = some s' ∧
      BodyPost s' b (chainSub a b cf i NB.Gen.P.subBlk.w) (i + NB.Gen.P.subBlk.w)
        ((regs subReg_size + B - 1) % B) subReg_idx subReg_size := by
  obtain ⟨l, σ, hs, _, _, _, _, hex, hfin⟩ := checkLoop_inv sub_checked
  have hl : subLoop = l := by simp only [subLoop, hs, Option.getD_some]
  rw [hl, ← chainG_sbb]
  exact checkBody_sound hex hfin la lb regs cf zf a b i hi hla hlb hB

/-- the whole add routine: `n ≥ 1` iterations with `w*n` digits available behind both pointers:
    no fault, `b` untouched, `a` = adc chain on `[0, w*n)` (nothing outside is written), returned
    `idx = w*n`, returned `c` = final carry -/
theorem add_run_spec (la lb n : Nat) (hn : 1 ≤ n) (hnB : n < B) (hB : la < B)
    (hla : NB.Gen.P.addBlk.w * n ≤ la) (hlb : NB.Gen.P.addBlk.w * n ≤ lb)
    (regs : Nat → Nat) (cf zf : Bool) (a b : Nat → Nat) (hidx : regs addReg_idx = 0) (hsize : regs addReg_size = n) :
    ∃ s', run (addCfg la lb) addProg (n + 1) ⟨regs, cf, zf, a, b⟩ = some s' ∧
      s'.a = (chainAdd a b false 0 (NB.Gen.P.addBlk.w * n)).1 ∧ s'.b = b ∧
      s'.regs addReg_idx = NB.Gen.P.addBlk.w * n ∧
      s'.regs addReg_c = b2n (chainAdd a b false 0 (NB.Gen.P.addBlk.w * n)).2 := by
  rw [← chainG_adc]
  exact checkLoop_run add_checked la lb n hn hnB hB hla hlb regs cf zf a b hidx hsize

theorem sub_run_spec (la lb n : Nat) (hn : 1 ≤ n) (hnB : n < B) (hB : la < B)
    (hla : NB.Gen.P.subBlk.w * n ≤ la) (hlb : NB.Gen.P.subBlk.w * n ≤ lb)
    (regs : Nat → Nat) (cf zf : Bool) (a b : Nat → Nat) (hidx : regs subReg_idx = 0) (hsize : regs subReg_size = n) :
    ∃ s', run (subCfg la lb) subProg (n + 1) ⟨regs, cf, zf, a, b⟩ = some s' ∧
      s'.a = (chainSub a b false 0 (NB.Gen.P.subBlk.w * n)).1 ∧ s'.b = b ∧
      s'.regs subReg_idx = NB.Gen.P.subBlk.w * n ∧
      s'.regs subReg_c = b2n (chainSub a b false 0 (NB.Gen.P.subBlk.w * n)).2 := by
  rw [← chainG_sbb]
  exact checkLoop_run sub_checked la lb n hn hnB hB hla hlb regs cf zf a b hidx hsize

/-- writes are confined: nothing outside `[0, w*n)` of `a` changes -/
theorem add_run_confined (f g : Nat → Nat) (c : Bool) (m j : Nat) (h : m ≤ j) :
    (chainAdd f g c 0 m).1 j = f j := chainAdd_outside f g c 0 m j (by omega)
theorem sub_run_confined (f g : Nat → Nat) (c : Bool) (m j : Nat) (h : m ≤ j) :
    (chainSub f g c 0 m).1 j = f j := chainSub_outside f g c 0 m j (by omega)

/-- refinement (what NB.add2c assumes about the asm routine): called like the Rust wrapper on
    slices of `size` digits, the generated add program returns carry, `idx = w * (size / d)` and
    the digits of the `adcZip` chain on that prefix, and never faults -/
theorem asm_add_refines (a b : List Nat) (size : Nat) (hsa : size ≤ a.length) (hsb : size ≤ b.length)
    (hB : a.length < B) (ha : DigitsOk a) (hb : DigitsOk b) :
    call addProg addRegs addDiv a b size =
      some (decide ((adcZip 0 (a.take (NB.Gen.P.addBlk.done size)) (b.take (NB.Gen.P.addBlk.done size))).2 > 0),
            NB.Gen.P.addBlk.done size,
            (adcZip 0 (a.take (NB.Gen.P.addBlk.done size)) (b.take (NB.Gen.P.addBlk.done size))).1
              ++ a.drop (NB.Gen.P.addBlk.done size)) :=
  checkLoop_sound_div add_checked addDiv add_width a b size hsa hsb hB ha hb

theorem asm_sub_refines (a b : List Nat) (size : Nat) (hsa : size ≤ a.length) (hsb : size ≤ b.length)
    (hB : a.length < B) (ha : DigitsOk a) (hb : DigitsOk b) :
    call subProg subRegs subDiv a b size =
      some (decide ((sbbZip 0 (a.take (NB.Gen.P.subBlk.done size)) (b.take (NB.Gen.P.subBlk.done size))).2 > 0),
            NB.Gen.P.subBlk.done size,
            (sbbZip 0 (a.take (NB.Gen.P.subBlk.done size)) (b.take (NB.Gen.P.subBlk.done size))).1
              ++ a.drop (NB.Gen.P.subBlk.done size)) :=
  checkLoop_sound_div sub_checked subDiv sub_width a b size hsa hsb hB ha hb

/-- the u64-as-u32 view used by `gen_biguint`: `⌈n/32⌉` u32 words always fit in `⌈n/64⌉` u64 digits -/
theorem rand_view_fits (n : Nat) : (n + 31) / 32 ≤ 2 * ((n + 63) / 64) := by omega

/- non-vacuity: the routine runs, and the checker is not trivially `none`/`some` -/
example : (call addProg addRegs addDiv (List.replicate NB.Gen.P.addBlk.w (B - 1) ++ [7])
      (1 :: List.replicate (NB.Gen.P.addBlk.w - 1) 0 ++ [9]) (NB.Gen.P.addBlk.w + 1)).map (fun r => (r.1, r.2.1))
    = some (true, NB.Gen.P.addBlk.w) := by decide

end NB.Asm
