/-
  C18 — random generation stays within the requested bounds and covers them.

  All theorems are about the model NB.Model.Rand of src/bigrand.rs (64-bit digits), which is
  correspondence-checked against the real crate.  The RNG is a tape of u32 words (NB.Spec.Rand
  states the rand 0.8.8 facts behind that encoding and holds the spec vocabulary: `specLen n` =
  ⌈n/32⌉ words per candidate, `cand`/`discarded`/`encode` for the candidate map and its inverse,
  `belowSpec`, `bigintSpec`, `chunk`, `blockCand/Sign/Val` for the two rejection loops).
  Hypotheses: `WordsOk tape` (each element is a u32), `rp.Valid` (the constants extracted from the
  source), canonical bounds; the statements hold for EVERY such tape, bit size and range.
  Outcomes: `.error p` = the Rust code panics, `.ok none` = the tape ran out, `.ok (some (v, rest))`
  = value and unconsumed tape; `liftU` / `liftI` put a spec-level result into that shape.

  Statements: the `*_spec` theorems (what each entry point returns, as a function of the tape),
  `gen_biguint_uniform_right/left/inj` (the candidate map is a bijection), `below_first` /
  `gen_bigint_first` (what the two rejection loops return), the `*_mem` / `*_bound` theorems (results
  lie in the requested range), `*_panic_iff`, `*_no_internal`, `gen_biguint_no_panic`.  `belowSpec_lt`,
  `range_mem_u/i`, `uniform_*_new_spec`, `uniform_*_new_inclusive_spec`, `uniform_*_sample_spec`,
  `uniform_*_spec_of` are steps towards these.
-/
import NB.Lemmas.RandOps
namespace NB
open NB.Rand

/-- proof obligation over the constants extracted from src/bigrand.rs (NB.Gen.Params) -/
theorem gen_rand_params_valid : NB.Gen.RP.Valid := by decide

/-- `gen_biguint(n)` is a fixed function of the word stream: it consumes exactly ⌈n/32⌉ words and
    returns the canonical digits of `cand n words`; it never panics (in particular the debug
    assertion `native_len * 2 >= len` and the shift `32 - rem` are in range). -/
theorem gen_biguint_spec (rp : RandParams) (hv : rp.Valid) (n : Nat) (tape : Tape) (ht : WordsOk tape) :
    genBiguint rp n tape =
      .ok (if tape.length < specLen n then none
           else some (ofNat (cand n (tape.take (specLen n))), tape.drop (specLen n))) := by
  rw [genBiguint_spec rp hv n tape ht]
  unfold genSpec
  split <;> rfl

/-- whatever `gen_biguint(n)` returns is canonical and below `2^n` -/
theorem gen_biguint_bound (rp : RandParams) (hv : rp.Valid) (n : Nat) (tape : Tape) (ht : WordsOk tape)
    (v : List Nat) (rest : Tape) (h : genBiguint rp n tape = .ok (some (v, rest))) :
    Canon v ∧ val v < 2 ^ n ∧ rest.length + specLen n = tape.length := by
  rw [gen_biguint_spec rp hv n tape ht] at h
  by_cases hs : tape.length < specLen n
  · rw [if_pos hs] at h; cases h
  · rw [if_neg hs] at h
    obtain ⟨rfl, rfl⟩ := Prod.mk.inj (Option.some.inj (Except.ok.inj h))
    have hle := Nat.not_lt.mp hs
    rw [ofNat_val, List.length_drop]
    exact ⟨ofNat_canon _, cand_lt n _ (ht.take _) (List.length_take_of_le hle), Nat.sub_add_cancel hle⟩

/-- surjectivity with an explicit pre-image: every value `v < 2^n` together with every choice `d`
    of the `32·len − n` discarded bits is produced by the word list `encode n v d` -/
theorem gen_biguint_uniform_right (n v d : Nat) (hv : v < 2 ^ n) (hd : d < 2 ^ (WBITS * specLen n - n)) :
    (encode n v d).length = specLen n ∧ WordsOk (encode n v d) ∧
    cand n (encode n v d) = v ∧ discarded n (encode n v d) = d := by
  rw [two_pow_split n] at hv
  unfold encode
  by_cases hr : n % WBITS = 0
  · rw [pad_bits_zero hr] at hd
    rw [hr, Nat.pow_zero, Nat.mul_one, ← specLen_of_rem_zero hr] at hv
    rw [if_pos hr, cand, discarded, if_pos hr, if_pos hr, wordsOf_val, Nat.mod_eq_of_lt hv]
    exact ⟨wordsOf_length _ _, wordsOf_ok _ _, rfl, (Nat.lt_one_iff.mp hd).symm⟩
  · rw [pad_bits hr] at hd
    have hl := wordsOf_length (n / WBITS) (v % WB ^ (n / WBITS))
    have hS : 0 < 2 ^ (WBITS - n % WBITS) := Nat.pow_pos (by decide)
    have htop : v / WB ^ (n / WBITS) * 2 ^ (WBITS - n % WBITS) + d < WB := by
      conv_rhs => rw [WB_split (Nat.mod_lt n (by decide)).le]
      rw [Nat.add_comm, Nat.mul_comm]
      exact add_mul_lt hd (Nat.div_lt_of_lt_mul hv)
    rw [if_neg hr, specLen_of_rem_pos hr, Nat.add_sub_cancel, (cand_snoc hr _ hl).1, (cand_snoc hr _ hl).2]
    refine ⟨by rw [List.length_append, hl]; rfl, (wordsOf_ok _ _).append (.cons htop .nil), ?_, ?_⟩
    · rw [wordsOf_val, Nat.mod_mod, Nat.mul_comm (v / _), Nat.mul_add_div hS, Nat.div_eq_of_lt hd, Nat.add_zero,
        Nat.mod_add_div]
    · rw [Nat.mul_comm (v / _), Nat.mul_add_mod, Nat.mod_eq_of_lt hd]

/-- … and `encode` recovers the words from (value, discarded bits): the map is a bijection -/
theorem gen_biguint_uniform_left (n : Nat) (ws : List Nat) (hok : WordsOk ws) (hl : ws.length = specLen n) :
    encode n (cand n ws) (discarded n ws) = ws ∧
    cand n ws < 2 ^ n ∧ discarded n ws < 2 ^ (WBITS * specLen n - n) := by
  refine ⟨encode_decode n ws hok hl, cand_lt n ws hok hl, ?_⟩
  unfold discarded
  by_cases hr : n % WBITS = 0
  · simp [hr]
  · simp only [hr, if_false]; rw [pad_bits hr]; exact Nat.mod_lt _ (Nat.pow_pos (by decide))

/-- injectivity: two word lists with the same value and the same discarded bits are equal, so
    every value `< 2^n` has exactly `2^(32·len − n)` pre-images -/
theorem gen_biguint_uniform_inj (n : Nat) (ws ws' : List Nat) (hok : WordsOk ws) (hok' : WordsOk ws')
    (hl : ws.length = specLen n) (hl' : ws'.length = specLen n)
    (hc : cand n ws = cand n ws') (hd : discarded n ws = discarded n ws') : ws = ws' := by
  rw [← encode_decode n ws hok hl, ← encode_decode n ws' hok' hl', hc, hd]

/-- `Rand.bits` — bigrand's own reading of `BigUint::bits` (digit count and the leading zeros of the
    top digit), the width of the candidates of `gen_biguint_below` — is the bit length of the value -/
theorem bits_spec (a : List Nat) (ha : Canon a) :
    bits a = natBits (val a) ∧ val a < 2 ^ bits a ∧ (val a ≠ 0 → 2 ^ (bits a - 1) ≤ val a) := by
  rw [bits_eq_natBits ha]
  exact ⟨rfl, natBits_spec _⟩

/-- `gen_biguint_below(bound)`: panics exactly for a zero bound; otherwise rejection sampling of
    `bits(bound)`-bit candidates as described by `belowSpec` -/
theorem below_spec (rp : RandParams) (hv : rp.Valid) (bound : List Nat) (hb : Canon bound)
    (tape : Tape) (ht : WordsOk tape) :
    genBiguintBelow rp bound tape =
      if val bound = 0 then .error .emptyrange else liftU (belowSpec (val bound) tape) := by
  unfold genBiguintBelow
  by_cases hz : bound = []
  · subst hz; simp [val]
  · have hpos := canon_val_pos hb hz
    have hne : val bound ≠ 0 := by omega
    simp only [hz, hne, if_false]
    rw [bits_eq_natBits hb,
      belowLoop_spec rp hv _ (specLen_pos (natBits_pos hne)) bound hb _ tape ht (by omega)]
    unfold liftU belowSpec
    simp

/-- the meaning of `belowSpec`: with `n = bits(bound)` and `len = ⌈n/32⌉`, the result is the
    candidate of the first complete `len`-word chunk that is `< bound` (all earlier chunks are
    `≥ bound`), the tape is consumed up to and including that chunk; `none` iff no complete chunk
    qualifies -/
theorem below_first (bound : Nat) (hb : bound ≠ 0) (tape : List Nat) :
    let n := natBits bound
    (∃ k, (k + 1) * specLen n ≤ tape.length ∧
          cand n (chunk (specLen n) k tape) < bound ∧
          (∀ j, j < k → bound ≤ cand n (chunk (specLen n) j tape)) ∧
          belowSpec bound tape
            = some (cand n (chunk (specLen n) k tape), tape.drop ((k + 1) * specLen n)))
    ∨ ((∀ k, (k + 1) * specLen n ≤ tape.length → bound ≤ cand n (chunk (specLen n) k tape)) ∧
        belowSpec bound tape = none) := by
  simpa only [Nat.not_lt, chunk, belowSpec] using
    firstBlock_char (specLen_pos (natBits_pos hb)) (fun t => cand (natBits bound) (t.take (specLen (natBits bound))) < bound)
      (fun t => cand (natBits bound) (t.take (specLen (natBits bound)))) (belowSpecLoop (natBits bound) bound)
      (fun _ _ => rfl) _ tape (Nat.lt_succ_self _)

theorem belowSpec_lt {bound : Nat} (hb : bound ≠ 0) {tape rest : List Nat} {c : Nat}
    (h : belowSpec bound tape = some (c, rest)) : c < bound := by
  rcases below_first bound hb tape with ⟨k, _, h2, _, h4⟩ | ⟨_, h2⟩
  · rw [h4] at h
    simp only [Option.some.injEq, Prod.mk.injEq] at h
    rw [← h.1]; exact h2
  · rw [h2] at h; cases h

/-- `gen_biguint_below(b) < b`, canonical -/
theorem below_mem (rp : RandParams) (hv : rp.Valid) (bound : List Nat) (hb : Canon bound)
    (tape : Tape) (ht : WordsOk tape) (v : List Nat) (rest : Tape)
    (h : genBiguintBelow rp bound tape = .ok (some (v, rest))) : Canon v ∧ val v < val bound := by
  rw [below_spec rp hv bound hb tape ht] at h
  by_cases hz : val bound = 0
  · rw [if_pos hz] at h; cases h
  · rw [if_neg hz] at h
    obtain ⟨hc, _, hlt⟩ := liftU_mem (fun c t hs => belowSpec_lt hz hs) h
    exact ⟨hc, Nat.zero_add (val bound) ▸ hlt⟩

theorem range_mem_u {lo hi : Nat} {tape rest : Tape} {v : List Nat}
    (h : (if lo < hi then liftU (belowSpec (hi - lo) tape) lo else .error .emptyrange) = .ok (some (v, rest))) :
    Canon v ∧ lo ≤ val v ∧ val v < hi := by
  obtain ⟨hlt, h⟩ := range_ok h
  have := liftU_mem (w := hi - lo) (fun c t hs => belowSpec_lt (Nat.sub_ne_zero_of_lt hlt) hs) h
  rwa [Nat.add_sub_cancel' hlt.le] at this

/-- sampling from a constructed `UniformBigUint` -/
theorem uniform_u_sample_spec (P : Params) (rp : RandParams) (hv : rp.Valid) (u : UniformU)
    (hb : Canon u.base) (hl : Canon u.len) (tape : Tape) (ht : WordsOk tape) :
    u.sample P rp tape =
      if val u.len = 0 then .error .emptyrange else liftU (belowSpec (val u.len) tape) (val u.base) := by
  unfold UniformU.sample
  rw [below_spec rp hv u.len hl tape ht]
  by_cases hz : val u.len = 0
  · simp [hz, R.bindE]
  · simp only [hz, if_false]; exact liftU_bindE_add P _ _ hb

/-- `gen_biguint_range(lo, hi)`: panics exactly when `lo ≥ hi`; otherwise `lo +` the first
    candidate below `hi − lo` (for `lo = 0` this is the special-cased `gen_biguint_below(hi)`) -/
theorem biguint_range_spec (P : Params) (rp : RandParams) (hv : rp.Valid) (lo hi : List Nat)
    (hlo : Canon lo) (hhi : Canon hi) (tape : Tape) (ht : WordsOk tape) :
    genBiguintRange P rp lo hi tape =
      if val lo < val hi then liftU (belowSpec (val hi - val lo) tape) (val lo)
      else .error .emptyrange := by
  unfold genBiguintRange
  rw [cmpSlice_spec hlo hhi]
  by_cases hlt : val lo < val hi
  · rw [if_neg (not_not.mpr (Nat.compare_eq_lt.mpr hlt)), if_pos hlt]
    by_cases hz : lo = []
    · subst hz
      rw [if_pos rfl, below_spec rp hv hi hhi tape ht, if_neg (show val hi ≠ 0 from Nat.ne_of_gt hlt)]; rfl
    · -- the general branch is `UniformBigUint { base: lo, len: hi - lo }.sample`
      rw [if_neg hz, subRef_spec P hi lo hhi hlo, if_neg (Nat.not_lt.mpr hlt.le)]
      show UniformU.sample P rp ⟨lo, ofNat (val hi - val lo)⟩ tape = _
      rw [uniform_u_sample_spec P rp hv _ hlo (ofNat_canon _) tape ht, ofNat_val, if_neg (by omega)]
  · rw [if_pos (mt Nat.compare_eq_lt.mp hlt), if_neg hlt]

/-- `gen_biguint_range(lo, hi) ∈ [lo, hi)`, canonical -/
theorem biguint_range_mem (P : Params) (rp : RandParams) (hv : rp.Valid) (lo hi : List Nat)
    (hlo : Canon lo) (hhi : Canon hi) (tape : Tape) (ht : WordsOk tape) (v : List Nat) (rest : Tape)
    (h : genBiguintRange P rp lo hi tape = .ok (some (v, rest))) :
    Canon v ∧ val lo ≤ val v ∧ val v < val hi := by
  rw [biguint_range_spec P rp hv lo hi hlo hhi tape ht] at h
  exact range_mem_u h

/-- `UniformBigUint::sample_single` is `gen_biguint_range` -/
theorem sample_single_u_spec (P : Params) (rp : RandParams) (lo hi : List Nat) (tape : Tape) :
    UniformU.sampleSingle P rp lo hi tape = genBiguintRange P rp lo hi tape := rfl

/-- `UniformBigUint::new(lo, hi)`: panics exactly when `lo ≥ hi`, else base `lo`, length `hi − lo` -/
theorem uniform_u_new_spec (P : Params) (lo hi : List Nat) (hlo : Canon lo) (hhi : Canon hi) :
    UniformU.new P lo hi =
      if val lo < val hi then .ok ⟨lo, ofNat (val hi - val lo)⟩ else .error .emptyrange := by
  unfold UniformU.new
  rw [cmpSlice_spec hlo hhi]
  by_cases hlt : val lo < val hi
  · rw [if_neg (not_not.mpr (Nat.compare_eq_lt.mpr hlt)), if_pos hlt, subRef_spec P hi lo hhi hlo,
      if_neg (Nat.not_lt.mpr hlt.le)]
    rfl
  · rw [if_pos (mt Nat.compare_eq_lt.mp hlt), if_neg hlt]

/-- `UniformBigUint::new_inclusive(lo, hi)`: panics exactly when `lo > hi`, else length `hi + 1 − lo` -/
theorem uniform_u_new_inclusive_spec (P : Params) (lo hi : List Nat) (hlo : Canon lo) (hhi : Canon hi) :
    UniformU.newInclusive P lo hi =
      if val lo < val hi + 1 then .ok ⟨lo, ofNat (val hi + 1 - val lo)⟩ else .error .emptyrange := by
  unfold UniformU.newInclusive
  rw [cmpSlice_spec hlo hhi]
  by_cases hlt : val lo < val hi + 1
  · rw [if_neg (mt Nat.compare_eq_gt.mp (by omega)), addAssignU32_spec P hi 1 hhi (by decide),
      uniform_u_new_spec P lo _ hlo (ofNat_canon _), ofNat_val]
  · rw [if_pos (Nat.compare_eq_gt.mpr (by omega)), if_neg hlt]

/-- sampling after either constructor, given the half-open range `[lo, hi')` the constructor stands for -/
theorem uniform_u_spec_of (P : Params) (rp : RandParams) (hv : rp.Valid) (incl : Bool) {lo hi : List Nat}
    (hlo : Canon lo) (tape : Tape) (ht : WordsOk tape) {hi' : Nat}
    (hc : (if incl then UniformU.newInclusive P lo hi else UniformU.new P lo hi) =
      if val lo < hi' then .ok ⟨lo, ofNat (hi' - val lo)⟩ else .error .emptyrange) :
    UniformU.newSample P rp incl lo hi tape =
      if val lo < hi' then liftU (belowSpec (hi' - val lo) tape) (val lo) else .error .emptyrange := by
  unfold UniformU.newSample
  rw [hc]
  by_cases hlt : val lo < hi'
  · rw [if_pos hlt, if_pos hlt]
    show UniformU.sample P rp ⟨lo, ofNat (hi' - val lo)⟩ tape = _
    rw [uniform_u_sample_spec P rp hv _ hlo (ofNat_canon _) tape ht, ofNat_val, if_neg (by omega)]
  · rw [if_neg hlt, if_neg hlt]

/-- `Uniform::new(lo, hi).sample` ∈ [lo, hi) and `Uniform::new_inclusive(lo, hi).sample` ∈ [lo, hi]:
    `lo +` the first candidate below the width; panics exactly for empty / inverted ranges -/
theorem uniform_u_spec (P : Params) (rp : RandParams) (hv : rp.Valid) (incl : Bool) (lo hi : List Nat)
    (hlo : Canon lo) (hhi : Canon hi) (tape : Tape) (ht : WordsOk tape) :
    UniformU.newSample P rp incl lo hi tape =
      let hi' := if incl then val hi + 1 else val hi
      if val lo < hi' then liftU (belowSpec (hi' - val lo) tape) (val lo) else .error .emptyrange := by
  refine uniform_u_spec_of P rp hv incl hlo tape ht ?_
  cases incl
  · simp only [Bool.false_eq_true, if_false]; exact uniform_u_new_spec P lo hi hlo hhi
  · simp only [if_true]; exact uniform_u_new_inclusive_spec P lo hi hlo hhi

theorem uniform_u_mem (P : Params) (rp : RandParams) (hv : rp.Valid) (incl : Bool) (lo hi : List Nat)
    (hlo : Canon lo) (hhi : Canon hi) (tape : Tape) (ht : WordsOk tape) (v : List Nat) (rest : Tape)
    (h : UniformU.newSample P rp incl lo hi tape = .ok (some (v, rest))) :
    Canon v ∧ val lo ≤ val v ∧ (if incl then val v ≤ val hi else val v < val hi) := by
  obtain ⟨hc, hge, hlt⟩ := range_mem_u ((uniform_u_spec P rp hv incl lo hi hlo hhi tape ht).symm.trans h)
  cases incl
  · exact ⟨hc, hge, hlt⟩
  · exact ⟨hc, hge, Nat.lt_succ_iff.mp hlt⟩

/-- sampling from a constructed `UniformBigInt` -/
theorem uniform_i_sample_spec (P : Params) (rp : RandParams) (hv : rp.Valid) (u : UniformI)
    (hb : u.base.Canon) (hl : Canon u.len) (tape : Tape) (ht : WordsOk tape) :
    u.sample P rp tape =
      if val u.len = 0 then .error .emptyrange
      else liftI ((belowSpec (val u.len) tape).map fun (c, t) => (u.base.val + (c : Int), t)) := by
  unfold UniformI.sample
  rw [below_spec rp hv u.len hl tape ht]
  by_cases hz : val u.len = 0
  · simp [hz, R.bindE]
  · simp only [hz, if_false]
    exact liftU_bindE_int _ (fun r => BigInt.add P u.base (fromU r)) (fun c => u.base.val + (c : Int))
      (add_fromU P u.base hb)

/-- `gen_bigint_range(lo, hi)`: panics exactly when `lo ≥ hi`; otherwise `lo +` the first candidate
    below `hi − lo`, through each of the three branches (`lo = 0`, `hi = 0`, general) -/
theorem bigint_range_spec (P : Params) (rp : RandParams) (hv : rp.Valid) (lo hi : BigInt)
    (hlo : lo.Canon) (hhi : hi.Canon) (tape : Tape) (ht : WordsOk tape) :
    genBigintRange P rp lo hi tape =
      if lo.val < hi.val then
        liftI ((belowSpec (hi.val - lo.val).toNat tape).map fun (c, t) => (lo.val + (c : Int), t))
      else .error .emptyrange := by
  unfold genBigintRange
  rw [bigintCmp_spec hlo hhi]
  by_cases hlt : lo.val < hi.val
  · rw [if_neg (not_not.mpr (compare_lt_iff_lt.mpr hlt)), if_pos hlt]
    -- two of the branches are `UniformBigInt { base: lo, len: w }.sample` for a canonical `w = hi − lo`
    obtain ⟨hw0, hwa⟩ := toNat_sub_of_lt hlt
    have key : ∀ w, Canon w → val w = (hi.val - lo.val).toNat →
        UniformI.sample P rp ⟨lo, w⟩ tape =
          liftI ((belowSpec (hi.val - lo.val).toNat tape).map fun (c, t) => (lo.val + (c : Int), t)) :=
      fun w hw e => by rw [uniform_i_sample_spec P rp hv _ hlo hw tape ht, e, if_neg hw0]
    by_cases h1 : lo.sign = .nosign
    · have hz := (nosign_iff_zero hlo).mp h1
      rw [if_pos h1, below_spec rp hv _ hhi.1 tape ht, ← bigint_natAbs_val hhi,
        show hi.val.natAbs = (hi.val - lo.val).toNat by rw [← hwa, hz, Int.sub_zero], if_neg hw0]
      exact liftU_bindE_int _ (fun r => .ok (fromU r)) (fun c => lo.val + (c : Int))
        fun c => by rw [fromU_ofNat, hz, Int.zero_add]
    · have hz1 := mt (nosign_iff_zero hlo).mpr h1
      rw [if_neg h1]
      by_cases h2 : hi.sign = .nosign
      · have hz := (nosign_iff_zero hhi).mp h2
        rw [if_pos h2]
        exact key _ hlo.1 (by rw [← bigint_natAbs_val hlo, ← hwa, hz, Int.zero_sub, Int.natAbs_neg])
      · have hd := bigint_ofInt_canon (hi.val - lo.val)
        rw [if_neg h2, bigint_sub_spec P hi lo hhi hlo]
        exact key _ hd.1 (by rw [← bigint_natAbs_val hd, bigint_ofInt_val, hwa])
  · rw [if_pos (mt compare_lt_iff_lt.mp hlt), if_neg hlt]

theorem range_mem_i {lo hi : Int} {tape rest : Tape} {v : BigInt}
    (h : (if lo < hi then liftI ((belowSpec (hi - lo).toNat tape).map fun (c, t) => (lo + (c : Int), t))
          else .error .emptyrange) = .ok (some (v, rest))) :
    v.Canon ∧ lo ≤ v.val ∧ v.val < hi := by
  obtain ⟨hlt, h⟩ := range_ok h
  have := liftI_mem (w := (hi - lo).toNat)
    (fun c t hs => belowSpec_lt (toNat_sub_of_lt hlt).1 hs) h
  rwa [Int.toNat_of_nonneg (Int.sub_nonneg_of_le hlt.le), add_sub_cancel] at this

/-- `gen_bigint_range(lo, hi) ∈ [lo, hi)`, canonical -/
theorem bigint_range_mem (P : Params) (rp : RandParams) (hv : rp.Valid) (lo hi : BigInt)
    (hlo : lo.Canon) (hhi : hi.Canon) (tape : Tape) (ht : WordsOk tape) (v : BigInt) (rest : Tape)
    (h : genBigintRange P rp lo hi tape = .ok (some (v, rest))) :
    v.Canon ∧ lo.val ≤ v.val ∧ v.val < hi.val := by
  rw [bigint_range_spec P rp hv lo hi hlo hhi tape ht] at h
  exact range_mem_i h

/-- `UniformBigInt::sample_single` is `gen_bigint_range` -/
theorem sample_single_i_spec (P : Params) (rp : RandParams) (lo hi : BigInt) (tape : Tape) :
    UniformI.sampleSingle P rp lo hi tape = genBigintRange P rp lo hi tape := rfl

/-- `UniformBigInt::new(lo, hi)`: panics exactly when `lo ≥ hi`, else base `lo`, length `hi − lo` -/
theorem uniform_i_new_spec (P : Params) (lo hi : BigInt) (hlo : lo.Canon) (hhi : hi.Canon) :
    UniformI.new P lo hi =
      if lo.val < hi.val then .ok ⟨lo, ofNat (hi.val - lo.val).toNat⟩ else .error .emptyrange := by
  unfold UniformI.new
  rw [bigintCmp_spec hlo hhi]
  by_cases hlt : lo.val < hi.val
  · rw [if_neg (not_not.mpr (compare_lt_iff_lt.mpr hlt)), if_pos hlt, bigint_sub_spec P hi lo hhi hlo]
    show Except.ok (UniformI.mk lo (BigInt.ofInt (hi.val - lo.val)).mag) = _
    rw [NB.bigint_canon_mag (bigint_ofInt_canon _), bigint_ofInt_val, (toNat_sub_of_lt hlt).2]
  · rw [if_pos (mt compare_lt_iff_lt.mp hlt), if_neg hlt]

/-- `UniformBigInt::new_inclusive(lo, hi)`: panics exactly when `lo > hi` -/
theorem uniform_i_new_inclusive_spec (P : Params) (lo hi : BigInt) (hlo : lo.Canon) (hhi : hi.Canon) :
    UniformI.newInclusive P lo hi =
      if lo.val < hi.val + 1 then .ok ⟨lo, ofNat (hi.val + 1 - lo.val).toNat⟩ else .error .emptyrange := by
  unfold UniformI.newInclusive
  rw [bigintCmp_spec hlo hhi]
  by_cases hlt : lo.val < hi.val + 1
  · rw [if_neg (mt compare_gt_iff_gt.mp (by omega)), bigintAddU32_spec P hi 1 hhi (by decide)]
    show UniformI.new P lo (BigInt.ofInt (hi.val + 1)) = _
    rw [uniform_i_new_spec P lo _ hlo (bigint_ofInt_canon _), bigint_ofInt_val]
  · rw [if_pos (compare_gt_iff_gt.mpr (by omega)), if_neg hlt]

theorem uniform_i_spec_of (P : Params) (rp : RandParams) (hv : rp.Valid) (incl : Bool) {lo hi : BigInt}
    (hlo : lo.Canon) (tape : Tape) (ht : WordsOk tape) {hi' : Int}
    (hc : (if incl then UniformI.newInclusive P lo hi else UniformI.new P lo hi) =
      if lo.val < hi' then .ok ⟨lo, ofNat (hi' - lo.val).toNat⟩ else .error .emptyrange) :
    UniformI.newSample P rp incl lo hi tape =
      if lo.val < hi' then
        liftI ((belowSpec (hi' - lo.val).toNat tape).map fun (c, t) => (lo.val + (c : Int), t))
      else .error .emptyrange := by
  unfold UniformI.newSample
  rw [hc]
  by_cases hlt : lo.val < hi'
  · rw [if_pos hlt, if_pos hlt]
    show UniformI.sample P rp ⟨lo, ofNat (hi' - lo.val).toNat⟩ tape = _
    rw [uniform_i_sample_spec P rp hv _ hlo (ofNat_canon _) tape ht, ofNat_val, if_neg (toNat_sub_of_lt hlt).1]
  · rw [if_neg hlt, if_neg hlt]

/-- `Uniform::new(lo, hi).sample` / `Uniform::new_inclusive(lo, hi).sample` for BigInt -/
theorem uniform_i_spec (P : Params) (rp : RandParams) (hv : rp.Valid) (incl : Bool) (lo hi : BigInt)
    (hlo : lo.Canon) (hhi : hi.Canon) (tape : Tape) (ht : WordsOk tape) :
    UniformI.newSample P rp incl lo hi tape =
      let hi' := if incl then hi.val + 1 else hi.val
      if lo.val < hi' then
        liftI ((belowSpec (hi' - lo.val).toNat tape).map fun (c, t) => (lo.val + (c : Int), t))
      else .error .emptyrange := by
  refine uniform_i_spec_of P rp hv incl hlo tape ht ?_
  cases incl
  · simp only [Bool.false_eq_true, if_false]; exact uniform_i_new_spec P lo hi hlo hhi
  · simp only [if_true]; exact uniform_i_new_inclusive_spec P lo hi hlo hhi

theorem uniform_i_mem (P : Params) (rp : RandParams) (hv : rp.Valid) (incl : Bool) (lo hi : BigInt)
    (hlo : lo.Canon) (hhi : hi.Canon) (tape : Tape) (ht : WordsOk tape) (v : BigInt) (rest : Tape)
    (h : UniformI.newSample P rp incl lo hi tape = .ok (some (v, rest))) :
    v.Canon ∧ lo.val ≤ v.val ∧ (if incl then v.val ≤ hi.val else v.val < hi.val) := by
  obtain ⟨hc, hge, hlt⟩ := range_mem_i ((uniform_i_spec P rp hv incl lo hi hlo hhi tape ht).symm.trans h)
  cases incl
  · exact ⟨hc, hge, hlt⟩
  · exact ⟨hc, hge, Int.lt_add_one_iff.mp hlt⟩

/-- `gen_bigint(n)` = `bigintSpec`: draw a candidate and one sign word (top bit set = Plus); a
    zero candidate with the bit set is drawn again, with the bit clear it is returned -/
theorem gen_bigint_spec (rp : RandParams) (hv : rp.Valid) (n : Nat) (tape : Tape) (ht : WordsOk tape) :
    genBigint rp n tape = liftI (bigintSpec n tape) :=
  genBigintLoop_spec rp hv n _ tape ht (by omega)

/-- the meaning of `bigintSpec`: the tape is read in blocks of ⌈n/32⌉ + 1 words (candidate, sign
    word); blocks with a zero candidate and the sign bit set are redrawn; the first other complete
    block is returned as +candidate (bit set) / −candidate (bit clear) / 0, the tape consumed up
    to and including that block; `none` iff every complete block is a redraw -/
theorem gen_bigint_first (n : Nat) (tape : List Nat) :
    (∃ k, (k + 1) * (specLen n + 1) ≤ tape.length ∧
          (∀ j, j < k → blockCand n j tape = 0 ∧ blockSign n j tape = true) ∧
          ¬ (blockCand n k tape = 0 ∧ blockSign n k tape = true) ∧
          bigintSpec n tape = some (blockVal n k tape, tape.drop ((k + 1) * (specLen n + 1))))
    ∨ ((∀ k, (k + 1) * (specLen n + 1) ≤ tape.length →
            blockCand n k tape = 0 ∧ blockSign n k tape = true) ∧
        bigintSpec n tape = none) := by
  have hS : ∀ k, blockSign n k tape
      = decide (WB / 2 ≤ ((tape.drop (k * (specLen n + 1))).drop (specLen n)).headD 0) :=
    fun k => by rw [List.drop_drop]; rfl
  simp only [blockVal, hS, blockCand]
  rcases firstBlock_char (Nat.succ_pos _) _ _ (bigintSpecLoop n) (bigintSpecLoop_succ n) _ tape (Nat.lt_succ_self _)
    with ⟨k, h1, h2, h3, h4⟩ | ⟨h1, h2⟩
  · exact .inl ⟨k, h1, fun j hj => Decidable.not_not.mp (h3 j hj), h2, h4⟩
  · exact .inr ⟨fun k hk => Decidable.not_not.mp (h1 k hk), h2⟩

/-- `gen_bigint(n) ∈ (−2^n, 2^n)`, canonical -/
theorem gen_bigint_bound (rp : RandParams) (hv : rp.Valid) (n : Nat) (tape : Tape) (ht : WordsOk tape)
    (v : BigInt) (rest : Tape) (h : genBigint rp n tape = .ok (some (v, rest))) :
    v.Canon ∧ -(2 ^ n : Int) < v.val ∧ v.val < 2 ^ n := by
  rw [gen_bigint_spec rp hv n tape ht] at h
  -- the result is `blockVal` of a complete block, whose candidate is below `2^n`
  rcases gen_bigint_first n tape with ⟨k, h1, _, _, h4⟩ | ⟨_, h2⟩
  · rw [h4] at h
    obtain ⟨rfl, _⟩ := Prod.mk.inj (Option.some.inj (Except.ok.inj h))
    rw [Nat.succ_mul] at h1
    have hl : ((tape.drop (k * (specLen n + 1))).take (specLen n)).length = specLen n := by
      rw [List.length_take, List.length_drop]
      exact Nat.min_eq_left (Nat.le_sub_of_add_le (Nat.le_trans (by omega) h1))
    have hc : (blockCand n k tape : Int) < 2 ^ n := by
      have := Int.ofNat_lt.mpr (cand_lt n _ ((ht.drop _).take _) hl)
      rwa [Int.natCast_pow] at this
    have h0 : (0 : Int) ≤ blockCand n k tape := Int.natCast_nonneg _
    have hp : (0 : Int) < 2 ^ n := Int.lt_of_le_of_lt h0 hc
    rw [bigint_ofInt_val]
    refine ⟨bigint_ofInt_canon _, ?_⟩
    unfold blockVal
    split_ifs
    · exact ⟨Int.neg_neg_of_pos hp, hp⟩
    · exact ⟨Int.lt_of_lt_of_le (Int.neg_neg_of_pos hp) h0, hc⟩
    · exact ⟨Int.neg_lt_neg hc, Int.lt_of_le_of_lt (Int.neg_nonpos_of_nonneg h0) hp⟩
  · rw [h2] at h; cases h

/-- `RandomBits` samples are `gen_biguint` / `gen_bigint` -/
theorem random_bits_u_spec (rp : RandParams) (n : Nat) (tape : Tape) :
    randomBitsU rp n tape = genBiguint rp n tape := rfl
theorem random_bits_i_spec (rp : RandParams) (n : Nat) (tape : Tape) :
    randomBitsI rp n tape = genBigint rp n tape := rfl

/-! ### the modelled loops never run out of fuel; no internal assertion is reachable -/

theorem below_no_internal (rp : RandParams) (hv : rp.Valid) (bound : List Nat) (hb : Canon bound)
    (tape : Tape) (ht : WordsOk tape) (tag : String) :
    genBiguintBelow rp bound tape ≠ .error (.internal tag) := by
  rw [below_spec rp hv bound hb tape ht]
  split <;> simp [liftU]

theorem gen_bigint_no_internal (rp : RandParams) (hv : rp.Valid) (n : Nat) (tape : Tape) (ht : WordsOk tape)
    (tag : String) : genBigint rp n tape ≠ .error (.internal tag) := by
  rw [gen_bigint_spec rp hv n tape ht]; simp [liftI]

theorem gen_biguint_no_panic (rp : RandParams) (hv : rp.Valid) (n : Nat) (tape : Tape) (ht : WordsOk tape)
    (p : Panic) : genBiguint rp n tape ≠ .error p := by
  rw [gen_biguint_spec rp hv n tape ht]; simp

/-! ### panics: exactly the documented ones -/

/-- `gen_biguint_below` panics iff the bound is zero (and then with the assertion, class emptyrange) -/
theorem below_panic_iff (rp : RandParams) (hv : rp.Valid) (bound : List Nat) (hb : Canon bound)
    (tape : Tape) (ht : WordsOk tape) (p : Panic) :
    genBiguintBelow rp bound tape = .error p ↔ p = .emptyrange ∧ val bound = 0 := by
  rw [below_spec rp hv bound hb tape ht]
  by_cases h : val bound = 0
  · simp [h, eq_comm]
  · simp [h, liftU]

/-- `gen_biguint_range` / `sample_single` panic iff `hi ≤ lo`; in particular the subtraction
    `ubound - lbound` never underflows -/
theorem biguint_range_panic_iff (P : Params) (rp : RandParams) (hv : rp.Valid) (lo hi : List Nat)
    (hlo : Canon lo) (hhi : Canon hi) (tape : Tape) (ht : WordsOk tape) (p : Panic) :
    genBiguintRange P rp lo hi tape = .error p ↔ p = .emptyrange ∧ val hi ≤ val lo := by
  rw [biguint_range_spec P rp hv lo hi hlo hhi tape ht]
  exact range_error_iff.trans (and_congr_right' Nat.not_lt)

theorem bigint_range_panic_iff (P : Params) (rp : RandParams) (hv : rp.Valid) (lo hi : BigInt)
    (hlo : lo.Canon) (hhi : hi.Canon) (tape : Tape) (ht : WordsOk tape) (p : Panic) :
    genBigintRange P rp lo hi tape = .error p ↔ p = .emptyrange ∧ hi.val ≤ lo.val := by
  rw [bigint_range_spec P rp hv lo hi hlo hhi tape ht]
  exact range_error_iff.trans (and_congr_right' Int.not_lt)

/-- `Uniform::new(..).sample` panics iff `hi ≤ lo`, `Uniform::new_inclusive(..).sample` iff `hi < lo` -/
theorem uniform_u_panic_iff (P : Params) (rp : RandParams) (hv : rp.Valid) (incl : Bool) (lo hi : List Nat)
    (hlo : Canon lo) (hhi : Canon hi) (tape : Tape) (ht : WordsOk tape) (p : Panic) :
    UniformU.newSample P rp incl lo hi tape = .error p ↔
      p = .emptyrange ∧ (if incl then val hi < val lo else val hi ≤ val lo) := by
  rw [uniform_u_spec P rp hv incl lo hi hlo hhi tape ht]
  cases incl
  · exact range_error_iff.trans (and_congr_right' Nat.not_lt)
  · exact range_error_iff.trans (and_congr_right' Nat.not_lt)

theorem uniform_i_panic_iff (P : Params) (rp : RandParams) (hv : rp.Valid) (incl : Bool) (lo hi : BigInt)
    (hlo : lo.Canon) (hhi : hi.Canon) (tape : Tape) (ht : WordsOk tape) (p : Panic) :
    UniformI.newSample P rp incl lo hi tape = .error p ↔
      p = .emptyrange ∧ (if incl then hi.val < lo.val else hi.val ≤ lo.val) := by
  rw [uniform_i_spec P rp hv incl lo hi hlo hhi tape ht]
  cases incl
  · exact range_error_iff.trans (and_congr_right' Int.not_lt)
  · exact range_error_iff.trans (and_congr_right' (Int.not_lt.trans Int.add_one_le_iff))

/-! ### non-vacuity -/
example : WordsOk [1, 0xffffffff, 3] ∧ NB.Gen.RP.Valid := by decide +kernel
example : genBiguint NB.Gen.RP 40 [1, 0xffffffff, 3] = .ok (some ([0xff00000001], [3])) := by decide +kernel
example : genBiguint NB.Gen.RP 96 [1, 2, 3, 4] = .ok (some ([1 + 2 * 4294967296, 3], [4])) := by decide +kernel
example : genBiguintBelow NB.Gen.RP [5] [0xffffffff, 0xa0000000, 0x40000000, 7] = .ok (some ([2], [7])) := by decide +kernel
example : genBiguintBelow NB.Gen.RP [5] [0xffffffff, 0xffffffff] = .ok none := by decide +kernel
example : genBiguintBelow NB.Gen.RP [] [1, 2] = .error .emptyrange := by decide +kernel
example : genBigint NB.Gen.RP 0 [0x80000000, 0x80000000, 0] = .ok (some (⟨.nosign, []⟩, [])) := by decide +kernel
example : genBigint NB.Gen.RP 33 [5, 0xffffffff, 0] = .ok (some (⟨.minus, [4294967301]⟩, [])) := by decide +kernel
example : genBigintRange NB.Gen.P NB.Gen.RP ⟨.minus, [5]⟩ ⟨.plus, [3]⟩ [0xf0000000, 0x60000000, 9]
    = .ok (some (⟨.plus, [1]⟩, [9])) := by decide +kernel
example : genBigintRange NB.Gen.P NB.Gen.RP ⟨.plus, [3]⟩ ⟨.plus, [3]⟩ [1] = .error .emptyrange := by decide +kernel
example : encode 40 0xff00000001 0x123456 = [1, 0xff123456] := by decide +kernel
example : UniformU.newSample NB.Gen.P NB.Gen.RP true [5] [5] [0xffffffff, 7, 9] = .ok (some ([5], [9])) := by decide +kernel
example : UniformU.newSample NB.Gen.P NB.Gen.RP false [5] [5] [0] = .error .emptyrange := by decide +kernel
example : UniformI.newSample NB.Gen.P NB.Gen.RP true ⟨.minus, [5]⟩ ⟨.minus, [3]⟩ [0xc0000000, 0x40000000, 1]
    = .ok (some (⟨.minus, [4]⟩, [1])) := by decide +kernel
example : UniformI.newSample NB.Gen.P NB.Gen.RP true ⟨.minus, [3]⟩ ⟨.minus, [5]⟩ [0] = .error .emptyrange := by decide +kernel

end NB
