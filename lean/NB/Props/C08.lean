/-
  C08 — Primitive integer and float conversions are exact or correctly rounded.

  Every theorem is about the executable model NB.Conv (NB/Model/Convert.lean, NB/Model/Float.lean and, for
  the layer link at the end, NB/Model/FloatD.lean), written from src/biguint/convert.rs,
  src/bigint/convert.rs, src/lib.rs and the num-traits 0.2.19 defaults.  `= .ok …` in a conclusion also
  says that none of the modelled overflow / underflow sites can fire.

  Vocabulary.  A primitive integer is an `Int` with a type tag `PTy` (`minV`, `maxV`, `InRange`); `fitOpt t v`
  is `Some v` when `v` fits `t`.  A float is its IEEE bit pattern in a `Nat`, a format is `f : FFmt`;
  `rneNat p v` rounds to `p` significant bits (nearest, ties to even), `encode f w` is the pattern of an
  exactly representable `w`, `ieeeRne f v = encode f (rneNat f.p v)`; `floatTruncAbs f b` is `⌊|x|⌋` of
  the pattern `b`, `fromFloatSpecU/I` the specifications of `from_f64`/`from_f32`.
  Hypotheses.  Integers: canonicity only.  Floats: formats with `f.Valid` (2 ≤ p, p + 2 ≤ 64, 8 ≤ ebits;
  `f32_valid`, `f64_valid`).  Hardware behaviour that is modelled, not verified, is listed in the header
  of NB/Model/Float.lean (u64→float cast is RNE, powi(2,e) exact, ·2^e exact or ∞, trunc, integer_decode,
  f32→f64 widening).
-/
import NB.Lemmas.Convert
import NB.Lemmas.Float
import NB.Lemmas.FloatD
import NB.Drv.C08
namespace NB
open NB.Conv NB.Drv.C08

theorem natOpt_fit {t : PTy} (hs : t.signed = false) (v : Nat) :
    natOpt (if v < 2 ^ t.bits then some v else none) = fitOpt t (v : Int) := by
  unfold natOpt fitOpt
  by_cases h : v < 2 ^ t.bits
  · rw [if_pos h, if_pos ((PTy.inRange_natCast hs v).mpr h)]; rfl
  · rw [if_neg h, if_neg (mt (PTy.inRange_natCast hs v).mp h)]; rfl

theorem natOpt_fit_u64 (v : Nat) :
    natOpt (if v < 2 ^ 64 then some v else none) = fitOpt .u64 (v : Int) :=
  natOpt_fit (t := .u64) rfl v

/-- a value that fits a type narrower than (or equal to) 64 bits and is non-negative fits `u64` -/
theorem sub_u64 (t : PTy) (v : Int) (hv : 0 ≤ v) (ht : t.bits ≤ 64) :
    t.InRange v → PTy.InRange .u64 v :=
  PTy.InRange.to_unsigned rfl ht hv

/-- `BigUint::to_u64` -/
theorem biguint_toU64_fit {x : List Nat} (h : Canon x) :
    (do let r ← U.toU64 x; pure (natOpt r) : Except Panic (Option Int)) = .ok (fitOpt .u64 (val x)) := by
  rw [toU64_spec h, ok_bind, natOpt_fit_u64]; rfl

theorem biguint_toU128_fit {x : List Nat} (h : Canon x) :
    natOpt (U.toU128 x) = fitOpt .u128 (val x) := by
  rw [toU128_spec h]; exact natOpt_fit (t := .u128) rfl _

/-- the num-traits default for the narrow types: `to_u64`/`to_i64`, then the range macro -/
theorem bind_primTo {a t : PTy} {v : Int} {m : Except Panic (Option Int)} (hm : m = .ok (fitOpt a v))
    (hsub : t.InRange v → a.InRange v) :
    (do let r ← m; pure (r.bind (primTo a t))) = .ok (fitOpt t v) := by
  rw [hm, ok_bind, fitOpt_bind a t v hsub]; rfl

/-- `BigUint::to_i64` -/
theorem biguint_toI64_fit {x : List Nat} (h : Canon x) :
    U.toI64 x = .ok (fitOpt .i64 (val x)) := by
  unfold U.toI64
  rw [toU64_spec h, ok_bind, natOpt_fit_u64,
    fitOpt_bind .u64 .i64 _ (PTy.InRange.to_unsigned rfl (by decide) (Int.natCast_nonneg _))]; rfl

/-- `BigUint::to_i128` -/
theorem biguint_toI128_fit {x : List Nat} (h : Canon x) :
    U.toI128 x = .ok (fitOpt .i128 (val x)) := by
  unfold U.toI128
  rw [biguint_toU128_fit h,
    fitOpt_bind .u128 .i128 _ (PTy.InRange.to_unsigned rfl (by decide) (Int.natCast_nonneg _))]; rfl

/-- for each of the twelve primitive types, `x.to_T()` never panics and is
    `Some(value)` exactly when `T::MIN ≤ value ≤ T::MAX`, `None` otherwise. -/
theorem biguint_to_spec (t : PTy) (x : List Nat) (h : Canon x) :
    U.toPrim t x = .ok (if t.minV ≤ (val x : Int) ∧ (val x : Int) ≤ t.maxV then some (val x : Int) else none) := by
  show U.toPrim t x = .ok (fitOpt t (val x))
  have hv : (0 : Int) ≤ (val x : Int) := Int.natCast_nonneg _
  cases t <;> unfold U.toPrim <;> dsimp only
  case u64 => exact biguint_toU64_fit h
  case u128 => exact congrArg _ (biguint_toU128_fit h)
  case i64 => exact biguint_toI64_fit h
  case i128 => exact biguint_toI128_fit h
  case u8 | u16 | u32 | usize =>
    rw [toU64_spec h, ok_bind, natOpt_fit_u64,
      fitOpt_bind .u64 _ _ (PTy.InRange.to_unsigned rfl (by decide) hv)]; rfl
  case i8 | i16 | i32 | isize =>
    exact bind_primTo (biguint_toI64_fit h) (PTy.InRange.to_signed rfl rfl (by decide))

theorem fitOpt_neg_of_unsigned {t : PTy} (hs : t.signed = false) {v : Int} (hv : v < 0) :
    fitOpt t v = none :=
  if_neg fun h => absurd (h.nonneg hs) (by omega)

theorem fitOpt_zero (t : PTy) : fitOpt t 0 = some 0 := if_pos t.inRange_zero

/-- the `Minus` arm of `BigInt::to_i64` / `to_i128`: the magnitude is compared with `2^(bits-1)` -/
theorem negArm_fit {t : PTy} (hs : t.signed = true) (n : Nat) :
    (if n < 2 ^ t.bits then some n else none).bind (negArm t) = fitOpt t (-(n : Int)) := by
  have hr : t.InRange (-(n : Int)) ↔ n ≤ 2 ^ (t.bits - 1) := by
    have := Nat.two_pow_pos (t.bits - 1)
    rw [PTy.inRange_signed hs, ← Nat.cast_ofNat, ← Nat.cast_pow]; omega
  have hlt : 2 ^ (t.bits - 1) < 2 ^ t.bits := Nat.pow_lt_pow_right (by decide) (by have := t.bits_pos; omega)
  unfold fitOpt
  by_cases h : n < 2 ^ t.bits
  · rw [if_pos h, Option.bind_some]
    unfold negArm
    dsimp only
    rcases Nat.lt_trichotomy n (2 ^ (t.bits - 1)) with c | c | c
    · have : t.InRange (n : Int) := by
        rw [PTy.inRange_signed hs, ← Nat.cast_ofNat, ← Nat.cast_pow]; omega
      rw [Nat.compare_eq_lt.mpr c, if_pos (hr.mpr (by omega)), asCast_of_inRange _ _ this]
    · rw [Nat.compare_eq_eq.mpr c, if_pos (hr.mpr (by omega)), c, PTy.minV, hs, if_pos rfl,
        Nat.cast_pow, Nat.cast_ofNat]
    · rw [Nat.compare_eq_gt.mpr c, if_neg (fun k => by have := hr.mp k; omega)]
  · rw [if_neg h, if_neg (fun k => by have := hr.mp k; omega)]; rfl

theorem bigint_toI64_fit {x : BigInt} (h : x.Canon) : I.toI64 x = .ok (fitOpt .i64 x.val) := by
  obtain ⟨s, m⟩ := x
  have hc : Canon m := h.1
  rcases bigint_canon_cases h with ⟨rfl, -, -⟩ | ⟨rfl, -, rfl⟩ | ⟨rfl, -, -⟩
  · show (do let r ← U.toU64 m; pure (r.bind (negArm .i64))) = _
    rw [toU64_spec hc, ok_bind]; exact congrArg _ (negArm_fit (t := .i64) rfl _)
  · exact congrArg _ (fitOpt_zero _).symm
  · exact biguint_toI64_fit hc

theorem bigint_toI128_fit {x : BigInt} (h : x.Canon) : I.toI128 x = .ok (fitOpt .i128 x.val) := by
  obtain ⟨s, m⟩ := x
  have hc : Canon m := h.1
  rcases bigint_canon_cases h with ⟨rfl, -, -⟩ | ⟨rfl, -, rfl⟩ | ⟨rfl, -, -⟩
  · show pure ((U.toU128 m).bind (negArm .i128)) = _
    rw [toU128_spec hc]; exact congrArg _ (negArm_fit (t := .i128) rfl _)
  · exact congrArg _ (fitOpt_zero _).symm
  · exact biguint_toI128_fit hc

theorem bigint_toU64_fit {x : BigInt} (h : x.Canon) : I.toU64 x = .ok (fitOpt .u64 x.val) := by
  obtain ⟨s, m⟩ := x
  have hc : Canon m := h.1
  rcases bigint_canon_cases h with ⟨rfl, -, (hpos : 0 < val m)⟩ | ⟨rfl, -, rfl⟩ | ⟨rfl, -, -⟩
  · exact congrArg _ (fitOpt_neg_of_unsigned rfl (show -(val m : Int) < 0 by omega)).symm
  · exact congrArg _ (fitOpt_zero _).symm
  · exact biguint_toU64_fit hc

theorem bigint_toU128_fit {x : BigInt} (h : x.Canon) : I.toU128 x = .ok (fitOpt .u128 x.val) := by
  obtain ⟨s, m⟩ := x
  have hc : Canon m := h.1
  rcases bigint_canon_cases h with ⟨rfl, -, (hpos : 0 < val m)⟩ | ⟨rfl, -, rfl⟩ | ⟨rfl, -, -⟩
  · exact congrArg _ (fitOpt_neg_of_unsigned rfl (show -(val m : Int) < 0 by omega)).symm
  · exact congrArg _ (fitOpt_zero _).symm
  · exact congrArg _ (biguint_toU128_fit hc)

/-- for each of the twelve primitive types, `x.to_T()` never panics and is
    `Some(value)` exactly when `T::MIN ≤ value ≤ T::MAX` (including the `MIN` edges), else `None`. -/
theorem bigint_to_spec (t : PTy) (x : BigInt) (h : x.Canon) :
    I.toPrim t x = .ok (if t.minV ≤ x.val ∧ x.val ≤ t.maxV then some x.val else none) := by
  show I.toPrim t x = .ok (fitOpt t x.val)
  cases t <;> unfold I.toPrim <;> dsimp only
  case u64 => exact bigint_toU64_fit h
  case u128 => exact bigint_toU128_fit h
  case i64 => exact bigint_toI64_fit h
  case i128 => exact bigint_toI128_fit h
  case u8 | u16 | u32 | usize =>
    exact bind_primTo (bigint_toU64_fit h) fun k => k.to_unsigned rfl (by decide) (k.nonneg rfl)
  case i8 | i16 | i32 | isize =>
    exact bind_primTo (bigint_toI64_fit h) (PTy.InRange.to_signed rfl rfl (by decide))

/-- `T::try_from(x: BigUint)`: `Ok(value)` iff it fits, otherwise `Err` holding exactly `x` -/
theorem biguint_try_into_spec (t : PTy) (x : List Nat) (h : Canon x) :
    U.tryInto t x = .ok (if t.minV ≤ (val x : Int) ∧ (val x : Int) ≤ t.maxV then .ok (val x : Int) else .err x) := by
  unfold U.tryInto
  rw [biguint_to_spec t x h, ok_bind]
  by_cases c : t.minV ≤ (val x : Int) ∧ (val x : Int) ≤ t.maxV
  · rw [if_pos c, if_pos c]; rfl
  · rw [if_neg c, if_neg c]; rfl

/-- `T::try_from(x: BigInt)`: `Ok(value)` iff it fits, otherwise `Err` holding exactly `x` -/
theorem bigint_try_into_spec (t : PTy) (x : BigInt) (h : x.Canon) :
    I.tryInto t x = .ok (if t.minV ≤ x.val ∧ x.val ≤ t.maxV then .ok x.val else .err x) := by
  unfold I.tryInto
  rw [bigint_to_spec t x h, ok_bind]
  by_cases c : t.minV ≤ x.val ∧ x.val ≤ t.maxV
  · rw [if_pos c, if_pos c]; rfl
  · rw [if_neg c, if_neg c]; rfl

theorem ofInt_natCast_pos (n : Nat) :
    BigInt.ofInt (n : Int) = if n > 0 then ⟨.plus, ofNat n⟩ else ⟨.nosign, []⟩ := by
  rw [ofInt_natCast]
  by_cases h : n = 0
  · rw [if_pos h, if_neg (by omega)]
  · rw [if_neg h, if_pos (by omega)]

theorem I_fromU64_eq (n : Nat) : I.fromU64 n = BigInt.ofInt (n : Int) := by
  rw [ofInt_natCast_pos, ← fromU64_eq_ofNat]; rfl

theorem I_fromU128_eq (n : Nat) : I.fromU128 n = BigInt.ofInt (n : Int) := by
  rw [ofInt_natCast_pos, ← fromU128_eq_ofNat]; rfl

theorem ofInt_neg_toNat {n : Int} (hn : n < 0) : BigInt.ofInt n = ⟨.minus, ofNat (-n).toNat⟩ := by
  rw [ofInt_of_neg hn]
  congr 2; omega

/-- `T::MAX - (n as uT) + 1` is `-n` for a negative `n` of the signed type of the same width, and
    neither overflow check fires -/
theorem negMag_eq {ut st : PTy} (hu : ut.signed = false) (hs : st.signed = true)
    (hb : st.bits = ut.bits) {n : Int} (h : st.InRange n) (hn : n < 0) :
    negMag ut n = .ok (-n).toNat := by
  have hp := ut.half_pos
  rw [PTy.inRange_signed hs, hb] at h
  have e : asCast ut n = n + 2 * 2 ^ (ut.bits - 1) := by
    unfold asCast
    rw [ut.two_pow_bits, hu]
    simp only [Bool.false_eq_true, false_and, if_false]
    rw [← Int.add_mul_emod_self_left n (2 * 2 ^ (ut.bits - 1)) 1, mul_one]
    exact Int.emod_eq_of_lt (by omega) (by omega)
  unfold negMag
  dsimp only
  rw [e, ut.maxV_eq, hu]
  simp only [Bool.false_eq_true, if_false]
  rw [if_neg (by omega), if_neg (by omega)]
  congr 2; omega

/-- `impl From<iN> for BigInt` over the unsigned type `ut` of the same width, whose `From` impls are
    `fromU`/`IfromU`: exact, canonical, neither overflow check can fire (incl. `iN::MIN`) -/
theorem fromSigned_eq {ut st : PTy} (hu : ut.signed = false) (hs : st.signed = true)
    (hb : st.bits = ut.bits) {fromU : Nat → List Nat} (hf : ∀ k, fromU k = ofNat k)
    {IfromU : Nat → BigInt} (hI : ∀ k, IfromU k = BigInt.ofInt (k : Int))
    {n : Int} (h : st.InRange n) :
    (if n ≥ 0 then .ok (IfromU (asCast ut n).toNat)
      else do let u ← negMag ut n; pure ⟨.minus, fromU u⟩ : Except Panic BigInt) =
      .ok (BigInt.ofInt n) := by
  by_cases hn : n ≥ 0
  · rw [if_pos hn, asCast_of_inRange _ _ (h.to_unsigned hu (by omega) hn), hI,
      Int.toNat_of_nonneg hn]
  · rw [if_neg hn, negMag_eq hu hs hb h (by omega), ok_bind, hf, ofInt_neg_toNat (by omega)]; rfl

/-- `impl From<i64> for BigInt` -/
theorem I_fromI64_eq (n : Int) (h : PTy.InRange .i64 n) : I.fromI64 n = .ok (BigInt.ofInt n) :=
  fromSigned_eq (ut := .u64) (st := .i64) rfl rfl rfl fromU64_eq_ofNat I_fromU64_eq h

/-- `impl From<i128> for BigInt` -/
theorem I_fromI128_eq (n : Int) (h : PTy.InRange .i128 n) : I.fromI128 n = .ok (BigInt.ofInt n) :=
  fromSigned_eq (ut := .u128) (st := .i128) rfl rfl rfl fromU128_eq_ofNat I_fromU128_eq h

/-- `BigInt::from(n: T)` is the canonical BigInt of `n`, for all twelve types -/
theorem bigint_from_val (t : PTy) (n : Int) (h : t.InRange n) : I.from t n = .ok (BigInt.ofInt n) := by
  cases t <;> unfold I.from <;> dsimp only
  case i64 => exact I_fromI64_eq n h
  case i128 => exact I_fromI128_eq n h
  case u64 => rw [I_fromU64_eq, Int.toNat_of_nonneg (h.nonneg rfl)]
  case u128 => rw [I_fromU128_eq, Int.toNat_of_nonneg (h.nonneg rfl)]
  case i8 | i16 | i32 | isize =>
    have k : PTy.InRange .i64 n := h.to_signed rfl rfl (by decide)
    rw [asCast_of_inRange _ _ k]; exact I_fromI64_eq n k
  case u8 | u16 | u32 | usize =>
    have k : PTy.InRange .u64 n := h.to_unsigned rfl (by decide) (h.nonneg rfl)
    rw [asCast_of_inRange _ _ k, I_fromU64_eq, Int.toNat_of_nonneg (h.nonneg rfl)]

/-- `<BigInt as FromPrimitive>::from_T(n)` is `Some` of the canonical BigInt of `n` -/
theorem bigint_fromPrim_val (t : PTy) (n : Int) (h : t.InRange n) :
    I.fromPrim t n = .ok (some (BigInt.ofInt n)) := by
  -- `from_T` is `Some(BigInt::from(n))`; `isize`/`usize` first pass through `to_i64`/`to_u64`
  have key : I.fromPrim t n = (do let r ← I.from t n; pure (some r)) := by
    cases t <;> unfold I.fromPrim I.from <;> dsimp only
    case isize => rw [primTo_spec _ _ _ h, if_pos (h.to_signed rfl rfl (by decide)),
      asCast_of_inRange _ _ (h.to_signed rfl rfl (by decide))]
    case usize => rw [primTo_spec _ _ _ h, if_pos (show PTy.InRange .u64 n from h),
      asCast_of_inRange _ _ (show PTy.InRange .u64 n from h)]; rfl
    all_goals rfl
  rw [key, bigint_from_val t n h]; rfl

/-- `BigUint::from(n: T)` (T unsigned) is the canonical digit list of `n` -/
theorem biguint_from_val (t : PTy) (hs : t.signed = false) (n : Int) (h : t.InRange n) :
    U.from t n = some (ofNat n.toNat) := by
  cases t <;> (try exact absurd hs (by decide)) <;> unfold U.from <;> dsimp only
  case u64 => rw [fromU64_eq_ofNat]
  case u128 => rw [fromU128_eq_ofNat]
  case u8 | u16 | u32 | usize =>
    rw [asCast_of_inRange _ _ (h.to_unsigned (b := .u64) rfl (by decide) (h.nonneg rfl)),
      fromU64_eq_ofNat]

/-- `BigUint::from_i64` / `from_i128` over the unsigned type of the same width -/
theorem fromSignedU_eq {ut st : PTy} (hu : ut.signed = false) (hb : st.bits = ut.bits)
    {fromU : Nat → List Nat} (hf : ∀ k, fromU k = ofNat k) {n : Int} (h : st.InRange n) :
    (if n ≥ 0 then some (fromU (asCast ut n).toNat) else none) =
      if n < 0 then none else some (ofNat n.toNat) := by
  by_cases hn : n ≥ 0
  · rw [if_pos hn, if_neg (by omega), asCast_of_inRange _ _ (h.to_unsigned hu (by omega) hn), hf]
  · rw [if_neg hn, if_pos (by omega)]

theorem U_fromI64_eq (n : Int) (h : PTy.InRange .i64 n) :
    U.fromI64 n = if n < 0 then none else some (ofNat n.toNat) :=
  fromSignedU_eq (ut := .u64) (st := .i64) rfl rfl fromU64_eq_ofNat h

theorem U_fromI128_eq (n : Int) (h : PTy.InRange .i128 n) :
    U.fromI128 n = if n < 0 then none else some (ofNat n.toNat) :=
  fromSignedU_eq (ut := .u128) (st := .i128) rfl rfl fromU128_eq_ofNat h

/-- `<BigUint as FromPrimitive>::from_T(n)` (also `TryFrom<T>`, `ToBigUint for T`): a negative
    primitive fails, everything else gives the canonical digit list of `n` -/
theorem biguint_fromPrim_val (t : PTy) (n : Int) (h : t.InRange n) :
    U.fromPrim t n = if n < 0 then none else some (ofNat n.toNat) := by
  cases t <;> unfold U.fromPrim <;> dsimp only
  case i64 => exact U_fromI64_eq n h
  case i128 => exact U_fromI128_eq n h
  case u64 => rw [if_neg (by have := h.nonneg rfl; omega), fromU64_eq_ofNat]
  case u128 => rw [if_neg (by have := h.nonneg rfl; omega), fromU128_eq_ofNat]
  case i8 | i16 | i32 =>
    have k : PTy.InRange .i64 n := h.to_signed rfl rfl (by decide)
    rw [asCast_of_inRange _ _ k]; exact U_fromI64_eq n k
  case isize =>
    have k : PTy.InRange .i64 n := h.to_signed rfl rfl (by decide)
    rw [primTo_spec _ _ _ h, if_pos k, Option.bind_some]; exact U_fromI64_eq n k
  case u8 | u16 | u32 =>
    rw [if_neg (by have := h.nonneg rfl; omega),
      asCast_of_inRange _ _ (h.to_unsigned (b := .u64) rfl (by decide) (h.nonneg rfl)),
      fromU64_eq_ofNat]
  case usize =>
    rw [if_neg (by have := h.nonneg rfl; omega), primTo_spec _ _ _ h,
      if_pos (show PTy.InRange .u64 n from h), Option.bind_some,
      fromU64_eq_ofNat]

theorem from_bool_val (b : Bool) :
    U.fromBool b = ofNat (if b then 1 else 0) ∧ I.fromBool b = BigInt.ofInt (if b then 1 else 0) := by
  cases b
  · simp [U.fromBool, I.fromBool, BigInt.ofInt, ofNat_zero]
  · simp [U.fromBool, I.fromBool, BigInt.ofInt, ofNat_one]

/-- `BigInt::from(x: BigUint)` / `x.to_bigint()` -/
theorem bigint_from_biguint_val {x : List Nat} (h : Canon x) : I.fromBiguint x = BigInt.ofInt (val x) :=
  fromBiguint_plus h

/-- `x.to_biguint()` for a BigInt: `None` exactly for negative values -/
theorem bigint_to_biguint_spec {x : BigInt} (h : x.Canon) :
    I.toBiguint x = if x.val < 0 then none else some (ofNat x.val.toNat) := by
  obtain ⟨s, m⟩ := x
  have hc : Canon m := h.1
  rcases bigint_canon_cases h with ⟨rfl, -, (hpos : 0 < val m)⟩ | ⟨rfl, -, rfl⟩ | ⟨rfl, -, -⟩
  · exact (if_pos (show -(val m : Int) < 0 by omega)).symm
  · exact congrArg some ofNat_zero.symm
  · show some m = if (val m : Int) < 0 then none else some (ofNat (val m : Int).toNat)
    rw [if_neg (by omega), Int.toNat_natCast, ← canon_eq_ofNat hc]

/-- `BigUint::try_from(x: BigInt)`: `Ok(magnitude)` for `x ≥ 0`, otherwise `Err` holding exactly `x` -/
theorem biguint_try_from_bigint_spec {x : BigInt} (h : x.Canon) :
    U.tryFromBigInt x = if x.val < 0 then .err x else .ok (ofNat x.val.toNat) := by
  obtain ⟨s, m⟩ := x
  have hc : Canon m := h.1
  rcases bigint_canon_cases h with ⟨rfl, -, (hpos : 0 < val m)⟩ | ⟨rfl, -, rfl⟩ | ⟨rfl, -, -⟩
  · exact (if_pos (show -(val m : Int) < 0 by omega)).symm
  · exact congrArg TryRes.ok ofNat_zero.symm
  · show TryRes.ok m = if (val m : Int) < 0 then _ else TryRes.ok (ofNat (val m : Int).toNat)
    rw [if_neg (by omega), Int.toNat_natCast, ← canon_eq_ofNat hc]

/-- `BigUint::try_from(&x)` for a `&BigInt` -/
theorem biguint_try_from_bigint_ref_spec {x : BigInt} (h : x.Canon) :
    U.tryFromBigIntRef x = if x.val < 0 then .err () else .ok (ofNat x.val.toNat) := by
  unfold U.tryFromBigIntRef
  rw [bigint_to_biguint_spec h]
  by_cases c : x.val < 0
  · rw [if_pos c, if_pos c]
  · rw [if_neg c, if_neg c]

/-- with at least two digits, `high_bits_to_u64(x)` is the top 64 bits of the value
    with every lower bit or-ed into the LSB: `⌊v / 2^s⌋ ||| [v mod 2^s ≠ 0]`, `s = bits − 64`;
    with at most one digit it is the value itself.  No underflow site is reachable. -/
theorem high_bits_spec {x : List Nat} (h : Canon x) :
    highBitsToU64 x = .ok (if x.length ≤ 1 then val x
      else (val x / 2 ^ (bitsOf x - 64)) ||| (if val x % 2 ^ (bitsOf x - 64) = 0 then 0 else 1)) := by
  by_cases hl : x.length ≤ 1
  · rw [if_pos hl]; exact highBits_small hl
  · rw [if_neg hl, highBits_two_le h (by omega), bitsOf_canon h]
    unfold stickyShift
    split
    · rw [Nat.or_zero]
    · rw [or_one_eq]

/-- for every valid format (in particular `f32`, `f64`) and every
    canonical `x`, `x.to_f()` never panics and its bit pattern is the IEEE encoding of `val x` rounded
    to nearest, ties to even, `+∞` exactly when the rounded value is `≥ 2^MAX_EXP`.
    (`castU64`, `powi2`, `fmulPow2` are the recorded model of the hardware operations.) -/
theorem to_float_spec (f : FFmt) (hf : f.Valid) {x : List Nat} (h : Canon x) :
    U.toFloat f x = .ok (ieeeRne f (val x)) := by
  obtain ⟨hp2, hp64, he8⟩ := hf
  have hM := valid_maxExp ⟨hp2, hp64, he8⟩
  have hp1 : 1 ≤ f.p := by omega
  unfold U.toFloat ieeeRne castU64
  rw [bitsOf_canon h, highBits_all h, ok_bind]
  by_cases hv : val x = 0
  · rw [hv, bitLen_zero, stickyShift_zero, bitLen_zero, if_neg (Nat.lt_irrefl _), Nat.sub_self,
      if_neg (Nat.not_lt_zero _), rneNat_zero, encode_zero, fmul_zero hp1 (by omega)]
    rfl
  · -- the mantissa has `k = min(bits, 64)` bits, the exponent is the number `s` of dropped bits
    have hpos := bitLen_pos hv
    generalize hs : bitLen (val x) - 64 = s
    obtain ⟨k, hk, hn⟩ : ∃ k, 0 < k ∧ bitLen (val x) = k + s := ⟨bitLen (val x) - s, by omega, by omega⟩
    have hmb := stickyShift_bitLen hk hn
    have hm0 : stickyShift (val x) s ≠ 0 := by
      intro e; rw [e, bitLen_zero] at hmb; omega
    rw [hmb, if_neg (by omega), show bitLen (val x) - k = s by omega]
    by_cases hbig : s > f.maxExp
    · have := (rneNat_bitLen hp1 hv (p := f.p)).1
      rw [if_pos hbig, encode_inf (by omega)]; rfl
    · have hwb := (rneNat_bitLen hp1 hm0 (p := f.p)).2
      rw [if_neg hbig, fmul_encode hp1 (by omega) (rneNat_ne_zero hp1 hm0) (by omega),
        ← rneNat_scale hm0]
      by_cases hs0 : s = 0
      · rw [hs0, stickyShift_zero, Nat.pow_zero, Nat.mul_one]; rfl
      · rw [round_to_odd_rne (k := 64) hp64 (by omega)]; rfl
theorem f32_valid : f32.Valid := by decide
theorem f64_valid : f64.Valid := by decide

theorem to_f64_spec {x : List Nat} (h : Canon x) : U.toFloat f64 x = .ok (ieeeRne f64 (val x)) :=
  to_float_spec f64 f64_valid h
theorem to_f32_spec {x : List Nat} (h : Canon x) : U.toFloat f32 x = .ok (ieeeRne f32 (val x)) :=
  to_float_spec f32 f32_valid h

/-- the magnitude is rounded as for `BigUint`, a negative
    value sets the sign bit (so the result is `−∞` exactly when the magnitude rounds to `+∞`) -/
theorem bigint_to_float_spec (f : FFmt) (hf : f.Valid) {x : BigInt} (h : x.Canon) :
    I.toFloat f x = .ok (if x.val < 0 then ieeeRne f x.val.natAbs + f.signBit else ieeeRne f x.val.natAbs) := by
  unfold I.toFloat
  obtain ⟨s, m⟩ := x
  have hc : Canon m := h.1
  rcases bigint_canon_cases h with ⟨rfl, -, (hpos : 0 < val m)⟩ | ⟨rfl, -, rfl⟩ | ⟨rfl, -, -⟩
  · have hlt : ieeeRne f (val m) < f.signBit :=
      encode_lt_signBit (by have := hf.1; omega) (by have := hf.2.2; omega) _
    rw [to_float_spec f hf hc, ok_bind]
    show Except.ok (if ieeeRne f (val m) ≥ f.signBit then _ else _) =
      .ok (if -(val m : Int) < 0 then ieeeRne f (-(val m : Int)).natAbs + f.signBit else _)
    rw [if_neg (Nat.not_le.mpr hlt), if_pos (by omega), Int.natAbs_neg,
      Int.natAbs_natCast]
  · rw [to_float_spec f hf ⟨DigitsOk.nil, by simp⟩, ok_bind]; rfl
  · rw [to_float_spec f hf hc, ok_bind]
    show Except.ok (ieeeRne f (val m)) =
      .ok (if (val m : Int) < 0 then _ else ieeeRne f (val m : Int).natAbs)
    rw [if_neg (by omega), Int.natAbs_natCast]

/-! ### the specification function `rneNat` really is "nearest representable, ties to even" -/

/-- the rounded value is representable -/
theorem rneNat_repr {p : Nat} (hp : 1 ≤ p) (v : Nat) : Repr p (rneNat p v) := by
  by_cases h : bitLen v ≤ p
  · rw [rneNat_small h]
    exact ⟨v, 0, by simp, bitLen_le_iff.mp h⟩
  · have hlt : p < bitLen v := by omega
    have hn : bitLen v = p + (bitLen v - p) := by omega
    obtain ⟨_, hi⟩ := div_pow_bitLen hp hn
    rcases rneNat_cases hlt with ⟨e, _, _⟩ | ⟨e, _, _⟩
    · exact ⟨_, _, e, hi⟩
    · by_cases c : v / 2 ^ (bitLen v - p) + 1 < 2 ^ p
      · exact ⟨_, _, e, c⟩
      · have e2 : v / 2 ^ (bitLen v - p) + 1 = 2 ^ p := by omega
        refine ⟨2 ^ (p - 1), bitLen v - p + 1, ?_, Nat.pow_lt_pow_right (by decide) (by omega)⟩
        rw [e, e2, ← Nat.pow_add, ← Nat.pow_add]; exact congrArg _ (by omega)

/-- of the two multiples of `P` around `v = lo + r`, the one on the side of the smaller remainder is
    at least as close to `v` as anything outside the open interval between them -/
theorem absDiff_neighbour {lo P r v w x : Nat} (hv : v = lo + r) (hr : r < P)
    (hbt : ¬ (lo < w ∧ w < lo + P)) (hx : x = lo ∧ 2 * r ≤ P ∨ x = lo + P ∧ P ≤ 2 * r) :
    absDiff x v ≤ absDiff w v := by
  have hw : w ≤ lo ∨ lo + P ≤ w := by omega
  subst hv
  unfold absDiff
  rcases hx with ⟨rfl, h⟩ | ⟨rfl, h⟩
  · rw [Nat.sub_eq_zero_of_le (Nat.le_add_right _ _), Nat.add_sub_cancel_left]; omega
  · rw [Nat.sub_eq_zero_of_le (Nat.add_le_add_left (Nat.le_of_lt hr) _), Nat.add_sub_add_left]; omega

/-- no representable number is closer to `v` than `rneNat p v` -/
theorem rneNat_nearest {p : Nat} (hp : 1 ≤ p) (v w : Nat) (hw : Repr p w) :
    absDiff (rneNat p v) v ≤ absDiff w v := by
  by_cases h : bitLen v ≤ p
  · rw [rneNat_small h]; unfold absDiff; omega
  · have hn : bitLen v = p + (bitLen v - p) := by omega
    obtain ⟨lo, _⟩ := div_pow_bitLen hp hn
    have hbt := no_repr_between (S := bitLen v - p) hp lo hw
    have hx := rneNat_cases (Nat.lt_of_not_le h)
    have hr := Nat.mod_lt v (Nat.pow_pos (n := bitLen v - p) (by decide : 0 < 2))
    rw [Nat.add_mul, Nat.one_mul] at hbt hx
    exact absDiff_neighbour (Nat.div_add_mod' v _).symm hr hbt
      (hx.imp (fun a => ⟨a.1, a.2.1⟩) (fun a => ⟨a.1, a.2.1⟩))

/-- when `v` is exactly half-way between two neighbours, the chosen significand
    is even -/
theorem rneNat_tie_even {p v : Nat} (h : p < bitLen v)
    (htie : 2 * (v % 2 ^ (bitLen v - p)) = 2 ^ (bitLen v - p)) :
    (rneNat p v / 2 ^ (bitLen v - p)) % 2 = 0 := by
  have hpos : 0 < (2 : Nat) ^ (bitLen v - p) := Nat.two_pow_pos _
  rcases rneNat_cases h with ⟨e, _, c⟩ | ⟨e, _, c⟩
  · rw [e, Nat.mul_div_cancel _ hpos]; exact c htie
  · rw [e, Nat.mul_div_cancel _ hpos]; have := c htie; omega

/-- `BigUint::from_f64` on the bit pattern `b`: `None` for NaN/±∞ and for values `≤ −1`, otherwise the
    magnitude truncated toward zero (`−0.0` and `(−1, 0)` give 0) -/
theorem fromF64_spec (b : Nat) : U.fromF64 b = fromFloatSpecU f64 b := by
  unfold U.fromF64 fromFloatSpecU fIsFinite
  by_cases hfin : fExp f64 b = f64.expAll
  · rw [if_pos hfin, hfin]; rfl
  · rw [if_neg hfin, show (!(fExp f64 b != f64.expAll)) = false by simpa using hfin]
    dsimp only
    obtain ⟨hs, hT, hz⟩ := truncBits_spec (f := f64) (by decide) b
    rw [fromDecoded_decode, hs, hT, hz]
    by_cases hsm : fExp f64 b < f64.bias
    · rw [decide_eq_true hsm, if_neg Bool.false_ne_true, if_pos rfl,
        truncAbs_small (by decide) hsm, if_neg (fun c => c.2 rfl), ofNat_zero]
    · have hpos := truncAbs_pos (f := f64) (by decide) (Nat.le_of_not_lt hsm)
      rw [decide_eq_false hsm, if_neg Bool.false_ne_true, if_neg Bool.false_ne_true]
      by_cases h1 : fSign f64 b = 1
      · rw [if_pos h1, if_pos ⟨h1, hpos⟩]
      · rw [if_neg h1, if_neg (fun c => h1 c.1)]

theorem conv_fromBiguint_ofNat (t : Nat) : I.fromBiguint (ofNat t) = BigInt.ofInt (t : Int) :=
  fromBiguint_ofNat_plus t

theorem conv_neg_ofInt (t : Nat) :
    (⟨(BigInt.ofInt (t : Int)).sign.neg, (BigInt.ofInt (t : Int)).mag⟩ : BigInt) = BigInt.ofInt (-(t : Int)) := by
  rw [ofInt_natCast, ofInt_negNatCast]
  by_cases h : t = 0
  · rw [if_pos h, if_pos h]; rfl
  · rw [if_neg h, if_neg h]; rfl

theorem fromFloatSpecU_of_nonneg {f : FFmt} {b : Nat} (hfin : ¬ fExp f b = f.expAll) (hs : ¬ fSign f b = 1) :
    fromFloatSpecU f b = some (ofNat (floatTruncAbs f b)) := by
  unfold fromFloatSpecU
  rw [if_neg hfin, if_neg (fun c => hs c.1)]

/-- `BigInt::from_f64` on every pattern (the `u64` range of `b` plays no role) -/
theorem bigint_fromF64_eq (b : Nat) : I.fromF64 b = fromFloatSpecI f64 b := by
  unfold I.fromF64 fromFloatSpecI fGeZero fIsNan
  rw [fromF64_spec, fromF64_spec]
  obtain ⟨hne, hnf, hns⟩ := fNeg_fields f64 b
  by_cases hfin : fExp f64 b = f64.expAll
  · -- NaN or ±∞: every path ends in `BigUint::from_f64 … = None`
    have hu : fromFloatSpecU f64 b = none := if_pos hfin
    have hu2 : fromFloatSpecU f64 (fNeg f64 b) = none := if_pos (hne.trans hfin)
    rw [if_pos hfin, hu, hu2]
    split <;> rfl
  · rw [if_neg hfin, show (fExp f64 b == f64.expAll) = false by simpa using hfin]
    simp only [Bool.false_and, Bool.not_false, Bool.true_and]
    by_cases hs : fSign f64 b = 1
    · rw [if_pos hs, hs, show ((1 : Nat) == 0) = false from rfl, Bool.false_or]
      by_cases hz : fIsZero f64 b = true
      · -- `-0.0`
        have he : fExp f64 b = 0 := by
          apply Decidable.byContradiction; intro c
          rw [fIsZero_of_exp c] at hz; exact Bool.false_ne_true hz
        have hT : floatTruncAbs f64 b = 0 := truncAbs_small (by decide) (by rw [he]; decide)
        have hu : fromFloatSpecU f64 b = some (ofNat 0) := by
          unfold fromFloatSpecU
          rw [if_neg hfin, hT, if_neg (fun c => c.2 rfl)]
        rw [if_pos hz, hu, hT]
        show some (I.fromBiguint (ofNat 0)) = _
        rw [conv_fromBiguint_ofNat]; rfl
      · rw [if_neg hz, fromFloatSpecU_of_nonneg (by rw [hne]; exact hfin) (by rw [hns, hs]; decide),
          truncAbs_congr hne hnf]
        show some (⟨(I.fromBiguint (ofNat (floatTruncAbs f64 b))).sign.neg,
          (I.fromBiguint (ofNat (floatTruncAbs f64 b))).mag⟩ : BigInt) = _
        rw [conv_fromBiguint_ofNat, conv_neg_ofInt]
    · have hs0 : fSign f64 b = 0 := by have := fSign_lt f64 b; omega
      rw [if_neg hs, hs0, show ((0 : Nat) == 0) = true from rfl, Bool.true_or, if_pos rfl,
        fromFloatSpecU_of_nonneg hfin hs]
      show some (I.fromBiguint (ofNat (floatTruncAbs f64 b))) = _
      rw [conv_fromBiguint_ofNat]

/-- `BigInt::from_f64`: `None` for NaN/±∞, otherwise the value truncated toward zero -/
theorem bigint_from_f64_spec (b : Nat) (hb : b < 2 ^ 64) : I.fromF64 b = fromFloatSpecI f64 b :=
  bigint_fromF64_eq b

/-- widening preserves class, sign and truncated magnitude, so both specifications agree -/
theorem spec_widen (b : Nat) :
    fromFloatSpecU f64 (f32ToF64 b) = fromFloatSpecU f32 b ∧
    fromFloatSpecI f64 (f32ToF64 b) = fromFloatSpecI f32 b := by
  obtain ⟨hc, hs, hT⟩ := f32ToF64_fields b
  unfold fromFloatSpecU fromFloatSpecI
  by_cases hfin : fExp f32 b = f32.expAll
  · rw [if_pos hfin, if_pos hfin, if_pos (hc.mpr hfin), if_pos (hc.mpr hfin)]
    exact ⟨rfl, rfl⟩
  · rw [if_neg hfin, if_neg hfin, if_neg (mt hc.mp hfin), if_neg (mt hc.mp hfin), hs, hT hfin]
    exact ⟨rfl, rfl⟩

/-- through the num-traits default `from_f64(f64::from(n))` -/
theorem fromF32_spec (b : Nat) : U.fromF32 b = fromFloatSpecU f32 b := by
  unfold U.fromF32
  rw [fromF64_spec, (spec_widen b).1]

/-- `BigInt::from_f32`, through the num-traits default `from_f64(f64::from(n))` -/
theorem bigint_from_f32_spec (b : Nat) : I.fromF32 b = fromFloatSpecI f32 b := by
  unfold I.fromF32
  rw [bigint_fromF64_eq, (spec_widen b).2]

/-- the scaled significand of a representable number is exact: `sig · 2^n = w · 2^p` -/
theorem sig_exact {p w : Nat} (hw : w ≠ 0) (hr : Repr p w) :
    w * 2 ^ p / 2 ^ bitLen w * 2 ^ bitLen w = w * 2 ^ p := by
  obtain ⟨m, e, rfl, hm⟩ := hr
  have hm0 : m ≠ 0 := by intro c; subst c; simp at hw
  have hbl := bitLen_mul_pow hm0 e
  have hmp : bitLen m ≤ p := bitLen_le_iff.mpr hm
  rw [hbl]
  have e1 : m * 2 ^ e * 2 ^ p = m * 2 ^ (p - bitLen m) * 2 ^ (bitLen m + e) := by
    have : (2 : Nat) ^ p = 2 ^ (p - bitLen m) * 2 ^ bitLen m := pow2_split (by omega)
    rw [this, Nat.pow_add]; ring
  rw [e1, Nat.mul_div_cancel _ (Nat.two_pow_pos _)]

/-- for a representable `w` inside the exponent range the pattern
    `encode f w` is finite, non-negative, and the float it denotes truncates to (indeed equals) `w`.
    Together with `to_float_spec` and `rneNat_repr` this says that the pattern returned by `to_f64`
    denotes exactly the correctly rounded value. -/
theorem encode_denotes {f : FFmt} (hp : 1 ≤ f.p) (he : 2 ≤ f.ebits) {w : Nat} (hw : w ≠ 0)
    (hn : bitLen w ≤ f.maxExp) (hr : Repr f.p w) :
    fExp f (encode f w) ≠ f.expAll ∧ fSign f (encode f w) = 0 ∧ floatTruncAbs f (encode f w) = w := by
  obtain ⟨hbias, hall, _, h2p, _⟩ := fmt_consts f (by omega) hp
  have hnpos := bitLen_pos hw
  obtain ⟨hE0, hElt, hEne⟩ := expField_bounds hbias hall (two_le_maxExp he) hnpos hn
  obtain ⟨hdiv, hmod⟩ := encode_div_mod hp hw hn
  obtain ⟨slo, _⟩ := sig_bounds hp hw (p := f.p)
  have hex := sig_exact hw hr
  have h2e : (2 : Nat) ^ f.ebits = 2 * f.maxExp := by
    unfold FFmt.maxExp; rw [← Nat.pow_succ']; exact congrArg _ (by omega)
  have hexp : fExp f (encode f w) = bitLen w - 1 + f.bias := by
    unfold fExp; rw [hdiv, h2e]; exact Nat.mod_eq_of_lt hElt
  have hsig : fFrac f (encode f w) + 2 ^ f.fbits = w * 2 ^ f.p / 2 ^ bitLen w := by
    unfold fFrac; rw [hmod]
    exact Nat.sub_add_cancel (show 2 ^ (f.p - 1) ≤ _ from slo)
  refine ⟨by rw [hexp]; exact hEne, ?_, ?_⟩
  · unfold fSign
    rw [Nat.div_eq_of_lt (encode_lt_signBit hp (by omega) w)]
  · -- `sig · 2^(n−1+bias) / 2^(bias+fbits) = sig · 2^(n−1) / 2^fbits`, and `sig · 2^n = w · 2^p`
    rw [truncAbs_normal (by rw [hexp]; exact hE0), hexp, hsig, Nat.add_comm f.bias, Nat.pow_add,
      Nat.pow_add, ← Nat.mul_assoc, Nat.mul_div_mul_right _ _ (Nat.two_pow_pos _)]
    apply Nat.div_eq_of_eq_mul_left (Nat.two_pow_pos _)
    apply Nat.eq_of_mul_eq_mul_right (show 0 < 2 by decide)
    rw [Nat.mul_assoc, ← Nat.pow_succ]
    show _ * 2 ^ (bitLen w - 1 + 1) = _
    rw [Nat.sub_add_cancel hnpos, hex, h2p, Nat.mul_comm 2, Nat.mul_assoc]

/-- round trip: converting `x` to `f64` and back yields exactly the correctly rounded value
    (whenever that is finite) -/
theorem to_from_f64_roundtrip {x : List Nat} (h : Canon x) (hfin : bitLen (rneNat 53 (val x)) ≤ 1024) :
    (U.toFloat f64 x).toOption.bind U.fromF64 = some (ofNat (rneNat 53 (val x))) := by
  rw [to_f64_spec h]
  show U.fromF64 (ieeeRne f64 (val x)) = _
  rw [fromF64_spec]
  unfold ieeeRne fromFloatSpecU
  have hp : f64.p = 53 := rfl
  rw [hp]
  by_cases hv : val x = 0
  · rw [hv, rneNat_zero, encode_zero]
    have h1 : ¬ fExp f64 0 = f64.expAll := by decide
    have h2 : floatTruncAbs f64 0 = 0 := truncAbs_small (f := f64) (by decide) (by decide)
    rw [if_neg h1, h2, if_neg (fun c => c.2 rfl)]
  · have hw := rneNat_ne_zero (p := 53) (by decide) hv
    obtain ⟨a, b, c⟩ := encode_denotes (f := f64) (by decide) (by decide) hw hfin (rneNat_repr (by decide) _)
    rw [if_neg a, c, b, if_neg (fun k => by have := k.1; omega)]

/-! ## the oracles of the driver (NB.Drv.C08, written independently) ARE the specifications

  so `impl = oracle` on a request is literally `impl = spec`, and `model = oracle` is an instance of
  the theorems above -/

theorem bitLen_half {n : Nat} (hn : n ≠ 0) : bitLen (n / 2) + 1 = bitLen n := by
  -- `n / 2 < 2^k ↔ n < 2^(k+1)`, read through `bitLen_le_iff`
  have key : ∀ k, bitLen (n / 2) ≤ k ↔ bitLen n ≤ k + 1 := fun k => by
    rw [bitLen_le_iff, bitLen_le_iff, Nat.pow_succ, Nat.div_lt_iff_lt_mul (by decide)]
  have h1 := (key (bitLen (n / 2))).mp (Nat.le_refl _)
  have h2 := (key (bitLen n - 1)).mpr (by omega)
  have := bitLen_pos hn
  omega

theorem oLen_go (fuel n acc : Nat) (h : bitLen n ≤ fuel) : oLen.go fuel n acc = acc + bitLen n := by
  induction fuel generalizing n acc with
  | zero =>
    have : bitLen n = 0 := by omega
    simp [oLen.go, this]
  | succ k ih =>
    unfold oLen.go
    by_cases hn : n = 0
    · subst hn; simp [bitLen]
    · rw [if_neg hn]
      have := bitLen_half hn
      rw [ih (n / 2) (acc + 1) (by omega)]; omega

theorem oLen_eq (n : Nat) : oLen n = bitLen n := by
  unfold oLen
  rw [oLen_go n n 0 (by
    apply bitLen_le_iff.mpr
    exact Nat.lt_two_pow_self), Nat.zero_add]

/-- comparing the distances to the two neighbours selects the one `rneNat_cases` describes -/
theorem oRound_core {lo P r q x : Nat} (hr : r < P)
    (hx : (x = lo ∧ 2 * r ≤ P ∧ (2 * r = P → q % 2 = 0)) ∨
      (x = lo + P ∧ P ≤ 2 * r ∧ (2 * r = P → q % 2 = 1))) :
    (if lo + r - lo < lo + P - (lo + r) then lo
      else if lo + P - (lo + r) < lo + r - lo then lo + P
      else if q % 2 = 0 then lo else lo + P) = x := by
  rw [Nat.add_sub_cancel_left, Nat.add_sub_add_left]
  rcases hx with ⟨rfl, h1, h2⟩ | ⟨rfl, h1, h2⟩
  · by_cases c : r < P - r
    · rw [if_pos c]
    · rw [if_neg c, if_neg (by omega), if_pos (h2 (by omega))]
  · by_cases c : P - r < r
    · rw [if_neg (by omega), if_pos c]
    · rw [if_neg (by omega), if_neg c, if_neg (by have := h2 (by omega); omega)]

/-- the driver's rounding oracle (distance comparison with the two neighbours) is `rneNat` -/
theorem oRound_eq (p v : Nat) : oRound p v = rneNat p v := by
  unfold oRound
  rw [oLen_eq]
  dsimp only
  by_cases h : bitLen v ≤ p
  · rw [if_pos h, rneNat_small h]
  · have hpos : 0 < (2 : Nat) ^ (bitLen v - p) := Nat.two_pow_pos _
    have hx := rneNat_cases (Nat.lt_of_not_le h)
    have hr := Nat.mod_lt v hpos
    rw [Nat.add_mul, Nat.one_mul] at hx
    rw [if_neg h, Nat.mul_div_cancel _ hpos]
    have hv := Nat.div_add_mod' v (2 ^ (bitLen v - p))
    generalize rneNat p v = x at hx ⊢
    generalize v / 2 ^ (bitLen v - p) = q at hx hv ⊢
    generalize v % 2 ^ (bitLen v - p) = r at hx hv hr ⊢
    generalize 2 ^ (bitLen v - p) = P at hx hv hr ⊢
    subst hv
    exact oRound_core hr hx

/-- the driver's encoder is `encode` -/
theorem oEncode_eq (f : FFmt) (hp : 1 ≤ f.p) (w : Nat) :
    oEncode f.p f.ebits w = encode f w := by
  unfold oEncode encode
  by_cases hw : w = 0
  · simp [hw]
  · have hnpos := bitLen_pos hw
    have hge : w ≥ 2 ^ f.maxExp ↔ bitLen w > f.maxExp := by
      rw [ge_iff_le, gt_iff_lt, ← Nat.not_le, bitLen_le_iff, Nat.not_lt]
    rw [if_neg hw, if_neg hw, oLen_eq]
    dsimp only
    rw [show (2 : Nat) ^ (f.ebits - 1) = f.maxExp from rfl]
    by_cases hinf : bitLen w > f.maxExp
    · rw [if_pos (hge.mpr hinf), if_pos hinf]; rfl
    · rw [if_neg (mt hge.mp hinf), if_neg hinf, show f.bias = f.maxExp - 1 from rfl,
        show f.fbits = f.p - 1 from rfl]
      congr 2
      -- both significands are `w · 2^(p-1) / 2^(n-1)`
      refine (shift_eq_div w (f.p - 1) (bitLen w - 1)).trans ?_
      rw [pow2_succ (x := f.p) (y := f.p - 1) (by omega),
        pow2_succ (x := bitLen w) (y := bitLen w - 1) (by omega), Nat.mul_left_comm,
        Nat.mul_div_mul_left _ _ (by decide)]

/-- the driver's `to_f64/to_f32` oracle is the specification `ieeeRne` -/
theorem drv_oracle_to_float (f : FFmt) (hp : 1 ≤ f.p) (v : Nat) :
    oToFloat f.p f.ebits v = ieeeRne f v := by
  unfold oToFloat ieeeRne
  rw [oRound_eq, oEncode_eq f hp]

theorem oDecode_eq (f : FFmt) (b : Nat) :
    oDecode f.p f.ebits b =
      if fExp f b = f.expAll then (false, decide (fSign f b = 1), 0)
      else (true, decide (fSign f b = 1), floatTruncAbs f b) := by
  -- the oracle is `floatTruncAbs` and the field projections written with `p`, `ebits` for the format;
  -- only the exponent of the sign bit is summed in the other order
  unfold oDecode fExp fSign floatTruncAbs fExp fFrac FFmt.expAll FFmt.signBit FFmt.bias FFmt.fbits
  dsimp only
  rw [Nat.add_comm (f.p - 1) f.ebits]

/-- the driver's `from_f64/from_f32` oracles are the specifications -/
theorem drv_oracle_from_float (f : FFmt) (b : Nat) :
    oFromFloatU f.p f.ebits b = fromFloatSpecU f b ∧ oFromFloatI f.p f.ebits b = fromFloatSpecI f b := by
  unfold oFromFloatU oFromFloatI fromFloatSpecU fromFloatSpecI
  rw [oDecode_eq]
  by_cases h : fExp f b = f.expAll
  · simp [h]
  · simp only [h, if_false, Bool.not_true, Bool.false_eq_true, Bool.and_eq_true, decide_eq_true_eq, ne_eq,
      decide_not, Bool.not_eq_eq_eq_not, Bool.not_true, decide_eq_false_iff_not]
    exact ⟨trivial, trivial⟩

/-- the driver's `high_bits_to_u64` oracle is the round-to-odd summary of the specification -/
theorem drv_oracle_high_bits (v : Nat) :
    oHighBits v = if bitLen v ≤ 64 then v else stickyShift v (bitLen v - 64) := by
  unfold oHighBits stickyShift orOne
  rw [oLen_eq]

/-- the driver's literal range table is `T::MIN ..= T::MAX` -/
theorem drv_oracle_range (t : PTy) (v : Int) : oFits t v = true ↔ t.minV ≤ v ∧ v ≤ t.maxV := by
  have hr : oRange t = (t.minV, t.maxV) := by cases t <;> decide
  unfold oFits
  rw [hr, Bool.and_eq_true, decide_eq_true_eq, decide_eq_true_eq]

/-! ## non-vacuity: the hypotheses are satisfiable and the edges behave as stated -/

-- an input of the D7 kind (2^128 + 2^75 + 2: a tie at 53 bits decided by a bit two digits down)
example : Canon [2, 0x800, 1] := by decide
example : U.toFloat f64 [2, 0x800, 1] = .ok 0x47f0000000000001 := by decide +kernel
example : highBitsToU64 [2, 0x800, 1] = .ok 0x8000000000000401 := by decide +kernel
example : I.toPrim .i64 ⟨.minus, [2 ^ 63]⟩ = .ok (some (-9223372036854775808)) := by decide +kernel
example : I.toPrim .i64 ⟨.minus, [2 ^ 63 + 1]⟩ = .ok none := by decide +kernel
example : U.fromF64 0xbfe0000000000000 = some [] := by decide +kernel
example : U.fromF64 0xbff0000000000000 = none := by decide +kernel
example : I.fromF64 0xc008000000000000 = some ⟨.minus, [3]⟩ := by decide +kernel
example : U.toFloat f32 [0, 0xffffff8000000000] = .ok 0x7f800000 := by decide +kernel
example : U.toFloat f32 [0, 0xffffff7fffffffff] = .ok 0x7f7fffff := by decide +kernel
example : PTy.InRange .i8 (-128) ∧ ¬ PTy.InRange .i8 (-129) ∧ PTy.InRange .u128 (2 ^ 128 - 1) := by decide
example : f32.Valid ∧ f64.Valid := by decide

/-! ## layer link: the digit-level float conversions (NB.Model.FloatD) refine NB.Model.Float

  `U.toFloatD`, `I.toFloatD`, `U.fromF64D`, … are the same functions with `self.bits()` = `NB.C07.bitsU`,
  `fls` through the `u64::leading_zeros` model `NB.C07.lzDigit`, `ret <<= e` = `NB.C07.biguintShl`,
  `ret >>= e` = `NB.C07.biguintShr` (`Except Panic`: negative amount / capacity overflow propagated).
  Operator theorems used: `shl_spec`, `shr_spec` (C07), `fromU64_eq_ofNat`. -/

/-- `high_bits_to_u64` started from the digit-level `bits()`: same function on every digit vector -/
theorem high_bitsD_refines (v : List Nat) : highBitsToU64D v = highBitsToU64 v := by
  match v with
  | [] => rfl
  | [_] => rfl
  | _ :: _ :: _ => simp only [highBitsToU64D, highBitsToU64, bitsU_eq_bitsOf]

/-- digit-level `to_f32/to_f64` (bits through `bitsU`, `fls` through `leading_zeros`) refines the model -/
theorem to_floatD_refines (f : FFmt) {x : List Nat} (h : Canon x) : U.toFloatD f x = U.toFloat f x := by
  unfold U.toFloatD U.toFloat
  rw [high_bitsD_refines, bitsU_eq_bitsOf]
  cases hm : highBitsToU64 x with
  | error e => rfl
  | ok m =>
    simp only [bind, Except.bind]
    rw [flsU64_eq (highBits_lt h hm)]

/-- the bit pattern is the IEEE encoding of `val x` rounded to nearest even -/
theorem to_floatD_spec (f : FFmt) (hf : f.Valid) {x : List Nat} (h : Canon x) :
    U.toFloatD f x = .ok (ieeeRne f (val x)) := by
  rw [to_floatD_refines f h, to_float_spec f hf h]

theorem to_f64D_spec {x : List Nat} (h : Canon x) : U.toFloatD f64 x = .ok (ieeeRne f64 (val x)) :=
  to_floatD_spec f64 f64_valid h
theorem to_f32D_spec {x : List Nat} (h : Canon x) : U.toFloatD f32 x = .ok (ieeeRne f32 (val x)) :=
  to_floatD_spec f32 f32_valid h

theorem bigint_to_floatD_refines (f : FFmt) {x : BigInt} (h : x.Canon) : I.toFloatD f x = I.toFloat f x := by
  unfold I.toFloatD I.toFloat
  rw [to_floatD_refines f h.1]

theorem bigint_to_floatD_spec (f : FFmt) (hf : f.Valid) {x : BigInt} (h : x.Canon) :
    I.toFloatD f x = .ok (if x.val < 0 then ieeeRne f x.val.natAbs + f.signBit else ieeeRne f x.val.natAbs) := by
  rw [bigint_to_floatD_refines f h, bigint_to_float_spec f hf h]

/-- the tail of `from_f64` with the digit-level `<<=` / `>>=`: for every `u64` mantissa and every exponent
    field the shifts return (no `negshift`, no `capacity overflow`) exactly `* 2^e` resp. `⌊/ 2^e⌋` -/
theorem from_decodedD_refines (mantissa expo : Nat) (neg : Bool) (hm : mantissa < B) (he : expo < B) :
    U.fromDecodedD mantissa expo neg = .ok (U.fromDecoded mantissa expo neg) := by
  unfold U.fromDecodedD U.fromDecoded
  cases neg with
  | true => rfl
  | false =>
    simp only [Bool.false_eq_true, if_false]
    rw [fromU64_eq_ofNat]
    have hc := ofNat_canon mantissa
    cases compare expo (f64.bias + f64.fbits) with
    | eq => rfl
    | gt =>
      dsimp only
      rw [NB.C07.shl_spec (ofNat mantissa) _ hc (Int.natCast_nonneg _)]
      · simp only [Int.toNat_natCast]; rfl
      · intro _
        simp only [Int.toNat_natCast]
        unfold NB.C07.USIZE_RANGE NB.C07.BITS
        have : (expo - (f64.bias + f64.fbits)) / 64 ≤ expo := Nat.le_trans (Nat.div_le_self _ _) (Nat.sub_le _ _)
        omega
    | lt =>
      dsimp only
      rw [NB.C07.shr_spec (ofNat mantissa) _ hc (Int.natCast_nonneg _)]
      · simp only [Int.toNat_natCast]; rfl
      · have := ofNat_length_le mantissa 1 (by rwa [Nat.pow_one])
        unfold NB.C07.USIZE_RANGE B at *
        omega

/-- digit-level `BigUint::from_f64` refines the model on EVERY bit pattern -/
theorem fromF64D_refines (b : Nat) : U.fromF64D b = .ok (U.fromF64 b) := by
  unfold U.fromF64D U.fromF64
  cases fIsFinite f64 b with
  | false => rfl
  | true =>
    simp only [Bool.not_true, Bool.false_eq_true, if_false]
    cases fIsZero f64 (truncBits f64 b) with
    | true => rfl
    | false =>
      simp only [Bool.false_eq_true, if_false]
      exact from_decodedD_refines _ _ _ (integerDecode_lt _).1 (integerDecode_lt _).2

theorem fromF32D_refines (b : Nat) : U.fromF32D b = .ok (U.fromF32 b) := fromF64D_refines _

theorem bigint_from_f64D_refines (b : Nat) : I.fromF64D b = .ok (I.fromF64 b) := by
  unfold I.fromF64D I.fromF64
  cases fGeZero f64 b with
  | true => simp only [if_true]; rw [fromF64D_refines]; rfl
  | false =>
    simp only [Bool.false_eq_true, if_false]
    rw [fromF64D_refines]
    cases U.fromF64 (fNeg f64 b) <;> rfl

theorem bigint_from_f32D_refines (b : Nat) : I.fromF32D b = .ok (I.fromF32 b) := bigint_from_f64D_refines _

/-- `None` for NaN/±∞ and values ≤ −1, else the canonical digits of `⌊x⌋` -/
theorem fromF64D_spec (b : Nat) : U.fromF64D b = .ok (fromFloatSpecU f64 b) := by
  rw [fromF64D_refines, fromF64_spec]
theorem fromF32D_spec (b : Nat) : U.fromF32D b = .ok (fromFloatSpecU f32 b) := by
  rw [fromF32D_refines, fromF32_spec]
theorem bigint_from_f64D_spec (b : Nat) (hb : b < 2 ^ 64) : I.fromF64D b = .ok (fromFloatSpecI f64 b) := by
  rw [bigint_from_f64D_refines, bigint_from_f64_spec b hb]
theorem bigint_from_f32D_spec (b : Nat) : I.fromF32D b = .ok (fromFloatSpecI f32 b) := by
  rw [bigint_from_f32D_refines, bigint_from_f32_spec]

-- non-vacuity of the layer link: the input of the D7 kind from above, a left shift by 971 bits (f64::MAX), a right shift
-- (3.5 → 3), a sub-normal shifted out entirely
example : U.toFloatD f64 [2, 0x800, 1] = .ok 0x47f0000000000001 := by decide +kernel
example : U.toFloatD f32 [0, 0xffffff8000000000] = .ok 0x7f800000 := by decide +kernel
example : (U.fromF64D 0x7fefffffffffffff).map (fun o => o.map List.length) = .ok (some 16) := by decide +kernel
example : U.fromF64D 0x400c000000000000 = .ok (some [3]) := by decide +kernel
example : U.fromF64D 0x0000000000000001 = .ok (some []) := by decide +kernel
example : I.fromF64D 0xc008000000000000 = .ok (some ⟨.minus, [3]⟩) := by decide +kernel
example : I.fromF32D 0xff7fffff = .ok (some ⟨.minus, [0, 0xffffff0000000000]⟩) := by decide +kernel

end NB
