/-
  C03 — Division yields the unique quotient/remainder of each rounding convention; division by
  zero panics; the checked variants return None.

  Every theorem is about the executable model NB.Model.Div (written from
  src/biguint/division.rs, src/bigint/division.rs and the `Integer` impls in src/biguint.rs,
  src/bigint.rs; correspondence-checked against the real crate) and states that the
  model of a code path returns exactly the canonical representation of the mathematical result
  (`Nat` `/ %`, `Int.tdiv/tmod`, `Int.fdiv/fmod`, `Int./ %` (Euclidean), ceiling), that a zero
  divisor gives `attempt to divide by zero` for every unchecked form and `None` for every checked
  form, and — since every result is `.ok _` or `.error .divzero` — that none of the internal
  failure sites (`#DE` of `div`, `u128`/`u64` wrap in the multiply-subtract, the four
  `debug_assert`s of `div_rem_core`, `unreachable!()`) can be reached from canonical operands.

  Hypotheses: `Canon` operands (digits `< B`, no high zero digit; for `BigInt` also `NoSign` exactly for zero);
  `P : Params` is arbitrary.  Statements: `div_rem_spec`, `div_rem_val_spec` and their projections
  (`divRef/divVal/modFloor/remRef/remVal/divCeil_spec`), the `checked*_spec`, and for BigInt
  `bigint_divRem/div/rem_spec`, `bigint_div/rem/divRemEuclid_spec`,
  `bigint_divFloor/modFloor/divModFloor/divCeil_spec`, `bigint_checked*_spec`;
  `euclid/floor/trunc_unique`, `euclid_exists`, `rem_signs`, `cdiv_char`, `ceil_nat_char` say that the specification
  functions are the conventions' unique `(q, r)`; the `*_no_internal` theorems are the reachability corollaries.
  The block "Knuth D" restates, under property-level names, the pieces of the proof of `div_rem_core_spec` that are
  proved in NB.Lemmas.Div.
-/
import NB.Lemmas.Div
import NB.Lemmas.DivInt
import NB.Model.AsmParams
namespace NB

/-- `div_rem_digit`: panics exactly for `b = 0`; otherwise canonical quotient and the remainder.
    `div_wide` never faults because `rem < b` is the loop invariant. -/
theorem div_rem_digit_spec (a : List Nat) (b : Nat) (ha : DigitsOk a) :
    divRemDigit a b = if b = 0 then .error .divzero else .ok (ofNat (val a / b), val a % b) := by
  by_cases hb : b = 0
  · simp [divRemDigit, hb]
  · simp only [hb, if_false]; exact divRemDigit_spec' a b ha hb

theorem rem_digit_spec (a : List Nat) (b : Nat) (ha : DigitsOk a) :
    remDigit a b = if b = 0 then .error .divzero else .ok (val a % b) := by
  by_cases hb : b = 0
  · simp [remDigit, hb]
  · simp only [hb, if_false]; exact remDigit_spec' a b ha hb

/-- `sub_mul_digit_same_len` with the offset-carry trick: `a' + c·b = a + borrow·B^n`,
    `borrow < B`; no `u128` under/overflow and no `u64` underflow is reachable. -/
theorem submul_spec (a b : List Nat) (c : Nat) (hl : a.length = b.length) (ha : DigitsOk a)
    (hb : DigitsOk b) (hc : c < B) :
    ∃ r borrow, subMulDigitSameLen a b c = .ok (r, borrow) ∧
      val r + c * val b = val a + borrow * B ^ a.length ∧ borrow < B ∧
      r.length = a.length ∧ DigitsOk r :=
  subMul_spec a b c hl ha hb hc

/-! ## Knuth D: the quotient-digit estimate

  Notation: window `W = [a0, a1, a2, wl…]` (n+1 digits), divisor `V = [b0, b1, bl…]` (n digits),
  `T3 = a2 + B·(a1 + B·a0)`, `T2 = b1 + B·b0`, `P = B^(n-2)`. -/

/-- the true digit is bounded by the top-3-by-top-2 quotient -/
theorem q_le_top (q V W P T2 T3 bl wl : Nat) (hV : V = bl + P * T2) (hW : W = wl + P * T3)
    (hwl : wl < P) (hq : q * V ≤ W) : q * T2 ≤ T3 :=
  knuth_q_top hV hW hwl hq

/-- `q ≤ q̂` initially: the 2-by-1 estimate (or `MAX` when `a0 = b0`) is never too small, is a
    digit, `div_wide` does not fault and `debug_assert!(a0 == b0)` holds -/
theorem qhat_ge_init (a0 a1 a2 b0 b1 q : Nat) (ha1 : a1 < B) (ha2 : a2 < B) (ha0 : a0 ≤ b0)
    (hq : q * (b1 + B * b0) ≤ a2 + B * (a1 + B * a0)) (hqB : q < B) :
    ∃ qh r, estimate a0 a1 b0 = .ok (qh, r) ∧ r + qh * b0 = a1 + B * a0 ∧ q ≤ qh ∧ qh < B :=
  estimate_spec ha1 ha2 ha0 hq hqB

/-- `q ≤ q̂` is preserved by the 3-by-2 correction loop, which ends with `q̂·T2 ≤ T3` -/
theorem qhat_ge_loop (b0 b1 a0 a1 a2 q qh r : Nat) (hb1 : b1 < B)
    (hq : q * (b1 + B * b0) ≤ a2 + B * (a1 + B * a0))
    (hinv : r + qh * b0 = a1 + B * a0) (hle : q ≤ qh) (hqh : qh < B) :
    q ≤ (corrLoop b0 b1 a2 qh r).1 ∧ (corrLoop b0 b1 a2 qh r).1 ≤ qh ∧
    (corrLoop b0 b1 a2 qh r).1 * (b1 + B * b0) ≤ a2 + B * (a1 + B * a0) :=
  corrLoop_spec hb1 hq qh r hinv hle hqh

/-- `q̂ ≤ q + 1` after the loop (needs only `b0 ≥ 1`, `q̂ < B`) -/
theorem qhat_le (qh V W P bl wl b0 b1 T3 : Nat) (hV : V = bl + P * (b1 + B * b0))
    (hW : W = wl + P * T3) (hbl : bl < P) (hb0 : 1 ≤ b0) (hqh : qh < B) (hVpos : 0 < V)
    (h : qh * (b1 + B * b0) ≤ T3) : qh ≤ W / V + 1 :=
  knuth_qhat_le hV hW hbl hb0 hqh hVpos h

/-- multiply-subtract and add-back: for `q ≤ q̂ ≤ q+1` the step returns the exact digit `q = W / V`
    and window remainder `W % V`; add-back is taken exactly when `q̂ = q+1`; afterwards
    `borrow == a0` (the debug assertion) -/
theorem step_spec (P : Params) (w b : List Nat) (qh a0 : Nat) (hl : w.length = b.length)
    (hw : DigitsOk w) (hb : DigitsOk b) (hqh : qh < B) (hVpos : 0 < val b)
    (hlo : (val w + a0 * B ^ w.length) / val b ≤ qh)
    (hhi : qh ≤ (val w + a0 * B ^ w.length) / val b + 1) :
    ∃ w2, mulSubAddBack P w b qh a0 = .ok ((val w + a0 * B ^ w.length) / val b, w2) ∧
      val w2 = (val w + a0 * B ^ w.length) % val b ∧ w2.length = w.length ∧ DigitsOk w2 :=
  mulSubAddBack_spec P w b qh a0 hl hw hb hqh hVpos hlo hhi

/-- add-back happens exactly when the trial digit is one too large -/
theorem addback_iff (w b : List Nat) (qh a0 : Nat) (hl : w.length = b.length)
    (hw : DigitsOk w) (hb : DigitsOk b) (hqh : qh < B) (hVpos : 0 < val b)
    (hlo : (val w + a0 * B ^ w.length) / val b ≤ qh)
    (hhi : qh ≤ (val w + a0 * B ^ w.length) / val b + 1) :
    ∃ w1 borrow, subMulDigitSameLen w b qh = .ok (w1, borrow) ∧
      (borrow > a0 ↔ qh = (val w + a0 * B ^ w.length) / val b + 1) := by
  obtain ⟨w1, borrow, s1, -, -, h⟩ := subMul_window w b qh a0 hl hw hb hqh hVpos hlo hhi
  refine ⟨w1, borrow, s1, ?_⟩
  rcases h with ⟨e1, e2, -⟩ | ⟨e1, e2, -⟩ <;> omega

/-- one iteration of the main loop of `div_rem_core`: under the invariant `a + a0·B^len < b·B^(j+1)`
    it yields the exact quotient digit, takes `q·b·B^j` off, restores the invariant for `j`, and no
    assertion fails -/
theorem core_step_spec (P : Params) (b : List Nat) (hb : DigitsOk b) (hn : 2 ≤ b.length)
    (hb0 : 1 ≤ b.getLast?.getD 0) (j : Nat) (a : List Nat) (a0 : Nat) (ha : DigitsOk a)
    (hlen : a.length = b.length + j)
    (hinv : val a + a0 * B ^ a.length < val b * B ^ (j + 1)) :
    ∃ q a' a0', coreStep P b (b.getLast?.getD 0) (b.getD (b.length - 2) 0) j a a0 = .ok (q, a', a0') ∧
      q < B ∧ a'.length + 1 = a.length ∧ DigitsOk a' ∧ a0' < B ∧
      (val a' + a0' * B ^ a'.length) + q * val b * B ^ j = val a + a0 * B ^ a.length ∧
      val a' + a0' * B ^ a'.length < val b * B ^ j :=
  coreStep_spec P b hb hn hb0 j a a0 ha hlen hinv

/-- `div_rem_core` on pre-normalised operands (any digit content of `a`, `b` with top bit set):
    `val a = val q · val b + val r ∧ val r < val b` with canonical `q`, `r` — stated as equality
    with the canonical digits of `val a / val b` and `val a % val b` -/
theorem div_rem_core_spec (P : Params) (a b : List Nat) (ha : DigitsOk a) (hb : DigitsOk b)
    (hn : 2 ≤ b.length) (hlen : b.length ≤ a.length) (htop : B / 2 ≤ b.getLast?.getD 0) :
    divRemCore P a b = .ok (ofNat (val a / val b), ofNat (val a % val b)) :=
  divRemCore_spec P a b ha hb hn hlen htop

theorem div_rem_core_euclid (P : Params) (a b : List Nat) (ha : DigitsOk a) (hb : DigitsOk b)
    (hn : 2 ≤ b.length) (hlen : b.length ≤ a.length) (htop : B / 2 ≤ b.getLast?.getD 0) :
    ∃ q r, divRemCore P a b = .ok (q, r) ∧ val a = val q * val b + val r ∧ val r < val b ∧
      Canon q ∧ Canon r := by
  have hVpos : 0 < val b := by
    have hbne : b ≠ [] := by intro h; subst h; simp at hn
    exact canon_val_pos ⟨hb, getLast_ne_zero_of_ge (t := B / 2) (by decide) htop⟩ hbne
  refine ⟨_, _, divRemCore_spec P a b ha hb hn hlen htop, ?_, ?_, ofNat_canon _, ofNat_canon _⟩
  · rw [ofNat_val, ofNat_val, Nat.mul_comm]; exact (Nat.div_add_mod _ _).symm
  · rw [ofNat_val]; exact Nat.mod_lt _ hVpos

/-- `div_rem_ref` (`Integer::div_rem`, `div_mod_floor`, `div_rem_euclid` for BigUint) -/
theorem div_rem_spec (P : Params) (a b : List Nat) (ha : Canon a) (hb : Canon b) :
    divRemRef P a b = if b = [] then .error .divzero
      else .ok (ofNat (val a / val b), ofNat (val a % val b)) :=
  divRemRef_spec' P a b ha hb

/-- `div_rem` by value (`BigUint / BigUint`, `BigUint % BigUint`) -/
theorem div_rem_val_spec (P : Params) (a b : List Nat) (ha : Canon a) (hb : Canon b) :
    divRemVal P a b = if b = [] then .error .divzero
      else .ok (ofNat (val a / val b), ofNat (val a % val b)) :=
  divRemVal_spec' P a b ha hb

/-- `&a / &b`, `a /= &b`, `div_floor`, `div_euclid` for BigUint: the quotient of `div_rem_ref` -/
theorem divRef_spec (P : Params) (a b : List Nat) (ha : Canon a) (hb : Canon b) :
    divRef P a b = if b = [] then .error .divzero else .ok (ofNat (val a / val b)) :=
  map_of_spec (div_rem_spec P a b ha hb) _

/-- `mod_floor` for BigUint: the remainder of `div_rem_ref` -/
theorem modFloor_spec (P : Params) (a b : List Nat) (ha : Canon a) (hb : Canon b) :
    modFloor P a b = if b = [] then .error .divzero else .ok (ofNat (val a % val b)) :=
  map_of_spec (div_rem_spec P a b ha hb) _

/-- `a / b` by value: the quotient of the buffer-reusing `div_rem` -/
theorem divVal_spec (P : Params) (a b : List Nat) (ha : Canon a) (hb : Canon b) :
    divVal P a b = if b = [] then .error .divzero else .ok (ofNat (val a / val b)) :=
  map_of_spec (div_rem_val_spec P a b ha hb) _

/-- the `to_u32` fast path (through `rem_digit`) and the general path agree -/
theorem rem_paths (a b : List Nat) (ha : Canon a) (hb : Canon b)
    (general : Except Panic (List Nat × List Nat))
    (hg : general = if b = [] then .error .divzero else .ok (ofNat (val a / val b), ofNat (val a % val b))) :
    (match toU32 b with
      | some o => (remDigit a o).map fromDigit
      | none => Except.map (fun (p : List Nat × List Nat) => p.2) general) =
      if b = [] then .error .divzero else .ok (ofNat (val a % val b)) := by
  subst hg
  cases b with
  | nil => simp [toU32, remDigit, Except.map]
  | cons d t =>
    cases t with
    | nil =>
      obtain ⟨hd0, hdB⟩ := canon_singleton_iff.mp hb
      have hv : val [d] = d := val_singleton d
      by_cases hd : d < U32
      · simp only [toU32, hd, if_true, remDigit_spec' a d ha.1 hd0, Except.map, hv]
        rw [fromDigit_eq (Nat.lt_trans (Nat.mod_lt _ (Nat.pos_of_ne_zero hd0)) hdB)]
        simp
      · simp [toU32, hd, Except.map]
    | cons e es => simp [toU32, Except.map]

/-- `&a % &b`, `a %= &b`, `rem_euclid` for BigUint, through the `to_u32` fast path or `div_rem_ref` -/
theorem remRef_spec (P : Params) (a b : List Nat) (ha : Canon a) (hb : Canon b) :
    remRef P a b = if b = [] then .error .divzero else .ok (ofNat (val a % val b)) :=
  rem_paths a b ha hb _ (div_rem_spec P a b ha hb)

/-- `a % b` by value, through the `to_u32` fast path or `div_rem` -/
theorem remVal_spec (P : Params) (a b : List Nat) (ha : Canon a) (hb : Canon b) :
    remVal P a b = if b = [] then .error .divzero else .ok (ofNat (val a % val b)) :=
  rem_paths a b ha hb _ (div_rem_val_spec P a b ha hb)

/-- `Integer::div_ceil for BigUint`: the ceiling of `a / b` -/
theorem divCeil_spec (P : Params) (a b : List Nat) (ha : Canon a) (hb : Canon b) :
    divCeil P a b = if b = [] then .error .divzero
      else .ok (ofNat (if val a % val b = 0 then val a / val b else val a / val b + 1)) := by
  unfold divCeil
  rw [div_rem_spec P a b ha hb]
  by_cases hb0 : b = []
  · simp [hb0]
  · simp only [hb0, if_false, ofNat_eq_nil_iff]
    split
    · rfl
    · rw [addDigit_spec P _ 1 (ofNat_canon _) (by decide), ofNat_val]

/-- the ceiling characterised: the least `q` with `a ≤ q·b` -/
theorem ceil_nat_char (a b : Nat) (hb : 0 < b) :
    let q := if a % b = 0 then a / b else a / b + 1
    a ≤ q * b ∧ ∀ q', a ≤ q' * b → q ≤ q' := by
  have hdm := Nat.div_add_mod' a b
  have hlt := Nat.mod_lt a hb
  by_cases h0 : a % b = 0
  · simp only [h0, if_true]
    exact ⟨by omega, fun q' hq' => Nat.div_le_of_le_mul (Nat.mul_comm q' b ▸ hq')⟩
  · simp only [h0, if_false, Nat.succ_mul]
    refine ⟨by omega, fun q' hq' => Nat.lt_of_not_le fun h => ?_⟩
    -- `q' ≤ a / b` would give `a ≤ q'·b ≤ (a / b)·b < a`
    have := Nat.mul_le_mul_right b h
    omega

/-- `checked_div` for BigUint: `None` exactly for a zero divisor, never a panic -/
theorem checkedDiv_spec (P : Params) (a b : List Nat) (ha : Canon a) (hb : Canon b) :
    checkedDiv P a b = .ok (if b = [] then none else some (ofNat (val a / val b))) :=
  checked_of_spec _ _ decide_eq_true_iff _ _ (divRef_spec P a b ha hb)

/-- `checked_div_euclid` for BigUint: `None` exactly for a zero divisor, never a panic -/
theorem checkedDivEuclid_spec (P : Params) (a b : List Nat) (ha : Canon a) (hb : Canon b) :
    checkedDivEuclid P a b = .ok (if b = [] then none else some (ofNat (val a / val b))) :=
  checked_of_spec _ _ decide_eq_true_iff _ _ (divRef_spec P a b ha hb)

/-- `checked_rem_euclid` for BigUint: `None` exactly for a zero divisor, never a panic -/
theorem checkedRemEuclid_spec (P : Params) (a b : List Nat) (ha : Canon a) (hb : Canon b) :
    checkedRemEuclid P a b = .ok (if b = [] then none else some (ofNat (val a % val b))) :=
  checked_of_spec _ _ decide_eq_true_iff _ _ (remRef_spec P a b ha hb)

/-- `checked_div_rem_euclid` for BigUint: `None` exactly for a zero divisor, never a panic -/
theorem checkedDivRemEuclid_spec (P : Params) (a b : List Nat) (ha : Canon a) (hb : Canon b) :
    checkedDivRemEuclid P a b =
      .ok (if b = [] then none else some (ofNat (val a / val b), ofNat (val a % val b))) :=
  checked_of_spec _ _ decide_eq_true_iff _ _ (div_rem_spec P a b ha hb)

/-- `Integer::div_rem for BigInt`: truncated division (`r` has the sign of `a`) -/
theorem bigint_divRem_spec (P : Params) (a b : BigInt) (ha : a.Canon) (hb : b.Canon) :
    BigInt.divRem P a b = if b.val = 0 then .error .divzero
      else .ok (BigInt.ofInt (Int.tdiv a.val b.val), BigInt.ofInt (Int.tmod a.val b.val)) := by
  unfold BigInt.divRem
  rw [div_rem_spec P _ _ ha.1 hb.1]
  simp only [canon_mag_nil_iff hb]
  by_cases hb0 : b.val = 0
  · simp only [hb0, if_true]
  · obtain ⟨hq, hr⟩ := trunc_signs a b (mt (bigint_canon_sign hb).2.1.mp hb0)
    simp only [hb0, if_false, fromBiguint_ofNat, neg_ofInt, hq, hr]
    split <;> rfl

/-- `&a / &b` for BigInt: truncation toward zero -/
theorem bigint_div_spec (P : Params) (a b : BigInt) (ha : a.Canon) (hb : b.Canon) :
    BigInt.div P a b = if b.val = 0 then .error .divzero else .ok (BigInt.ofInt (Int.tdiv a.val b.val)) :=
  map_of_spec (bigint_divRem_spec P a b ha hb) _

/-- `&a % &b` for BigInt: remainder of truncated division (sign of `a`) -/
theorem bigint_rem_spec (P : Params) (a b : BigInt) (ha : a.Canon) (hb : b.Canon) :
    BigInt.rem P a b = if b.val = 0 then .error .divzero else .ok (BigInt.ofInt (Int.tmod a.val b.val)) := by
  rw [bigint_rem_eq P a b ha hb]; exact map_of_spec (bigint_divRem_spec P a b ha hb) _

/-- `Euclid::div_euclid for BigInt` -/
theorem bigint_divEuclid_spec (P : Params) (a b : BigInt) (ha : a.Canon) (hb : b.Canon) :
    BigInt.divEuclid P a b = if b.val = 0 then .error .divzero else .ok (BigInt.ofInt (a.val / b.val)) := by
  unfold BigInt.divEuclid
  rw [bigint_divRem_spec P a b ha hb]
  by_cases hb0 : b.val = 0
  · simp [hb0]
  · simp only [hb0, if_false, ofInt_sign_minus, (bigint_canon_sign hb).2.2, (euclid_from_trunc a.val b.val hb0).1,
      subU_one, addU_one, apply_ite BigInt.ofInt, apply_ite (Except.ok (ε := Panic))]

/-- `Euclid::rem_euclid for BigInt` -/
theorem bigint_remEuclid_spec (P : Params) (a b : BigInt) (ha : a.Canon) (hb : b.Canon) :
    BigInt.remEuclid P a b = if b.val = 0 then .error .divzero else .ok (BigInt.ofInt (a.val % b.val)) := by
  unfold BigInt.remEuclid
  rw [bigint_rem_spec P a b ha hb]
  by_cases hb0 : b.val = 0
  · simp [hb0]
  · simp only [hb0, if_false, ofInt_sign_minus, (bigint_canon_sign hb).2.2, (euclid_from_trunc a.val b.val hb0).2,
      bigint_add_spec P _ b (bigint_ofInt_canon _) hb, bigint_sub_spec P _ b (bigint_ofInt_canon _) hb,
      bigint_ofInt_val, apply_ite BigInt.ofInt, apply_ite (Except.ok (ε := Panic))]

/-- `Euclid::div_rem_euclid for BigInt` -/
theorem bigint_divRemEuclid_spec (P : Params) (a b : BigInt) (ha : a.Canon) (hb : b.Canon) :
    BigInt.divRemEuclid P a b = if b.val = 0 then .error .divzero
      else .ok (BigInt.ofInt (a.val / b.val), BigInt.ofInt (a.val % b.val)) := by
  unfold BigInt.divRemEuclid
  rw [bigint_divRem_spec P a b ha hb]
  by_cases hb0 : b.val = 0
  · simp [hb0]
  · simp only [hb0, if_false, ofInt_sign_minus, (bigint_canon_sign hb).2.2, (euclid_from_trunc a.val b.val hb0).1,
      (euclid_from_trunc a.val b.val hb0).2, subU_one, addU_one, bigint_add_spec P _ b (bigint_ofInt_canon _) hb,
      bigint_sub_spec P _ b (bigint_ofInt_canon _) hb, bigint_ofInt_val, pairOk]
    split
    · split <;> rfl
    · rfl

/-- the ceiling of `a / b` (rounding toward +∞), expressed with floor division -/
def ceilDiv (a b : Int) : Int := -(Int.fdiv (-a) b)

/-- `Integer::div_floor for BigInt` -/
theorem bigint_divFloor_spec (P : Params) (a b : BigInt) (ha : a.Canon) (hb : b.Canon) :
    BigInt.divFloor P a b = if b.val = 0 then .error .divzero else .ok (BigInt.ofInt (Int.fdiv a.val b.val)) := by
  unfold BigInt.divFloor
  rw [div_rem_spec P _ _ ha.1 hb.1]
  simp only [canon_mag_nil_iff hb]
  by_cases hb0 : b.val = 0
  · simp only [hb0, if_true]
  · obtain ⟨M, -, -, ⟨hc, hq, -, -⟩ | ⟨hc, hq, -, -⟩⟩ := floor_classes a b ha hb hb0 rfl rfl
    · simp only [hb0, if_false, hc, fromBU_ofNat, hq]
    · simp only [hb0, if_false, hc, fromBU_ofNat, ofNat_eq_nil_iff, neg_ofInt, subU_one, hq,
        apply_ite BigInt.ofInt, apply_ite (Except.ok (ε := Panic))]

/-- `Integer::mod_floor for BigInt` -/
theorem bigint_modFloor_spec (P : Params) (a b : BigInt) (ha : a.Canon) (hb : b.Canon) :
    BigInt.modFloor P a b = if b.val = 0 then .error .divzero else .ok (BigInt.ofInt (Int.fmod a.val b.val)) := by
  unfold BigInt.modFloor
  rw [modFloor_spec P _ _ ha.1 hb.1]
  simp only [canon_mag_nil_iff hb]
  by_cases hb0 : b.val = 0
  · simp only [hb0, if_true]
  · obtain ⟨M, hM, hM0, ⟨hc, -, -, hr⟩ | ⟨hc, -, -, hr⟩⟩ := floor_classes a b ha hb hb0 rfl rfl
    · simp only [hb0, if_false, hc, hM, hr]
    · simp only [hb0, if_false, hc, hM, ofInt_sign_nosign, hM0, hr, bigint_ofInt_val,
        bigint_sub_spec P b _ hb (bigint_ofInt_canon _), apply_ite BigInt.ofInt,
        apply_ite (Except.ok (ε := Panic))]

/-- `Integer::div_mod_floor for BigInt` -/
theorem bigint_divModFloor_spec (P : Params) (a b : BigInt) (ha : a.Canon) (hb : b.Canon) :
    BigInt.divModFloor P a b = if b.val = 0 then .error .divzero
      else .ok (BigInt.ofInt (Int.fdiv a.val b.val), BigInt.ofInt (Int.fmod a.val b.val)) := by
  unfold BigInt.divModFloor
  rw [div_rem_spec P _ _ ha.1 hb.1]
  simp only [canon_mag_nil_iff hb]
  by_cases hb0 : b.val = 0
  · simp only [hb0, if_true]
  · obtain ⟨M, hM, hM0, ⟨hc, hq, -, hr⟩ | ⟨hc, hq, -, hr⟩⟩ := floor_classes a b ha hb hb0 rfl rfl
    · simp only [hb0, if_false, hc, hM, fromBU_ofNat, hq, hr]
    · simp only [hb0, if_false, hc, hM, fromBU_ofNat, ofInt_sign_nosign, hM0, neg_ofInt, subU_one, hq, hr,
        bigint_ofInt_val, bigint_sub_spec P b _ hb (bigint_ofInt_canon _), pairOk]
      split <;> rfl

/-- `Integer::div_ceil for BigInt`: rounding toward +∞ -/
theorem bigint_divCeil_spec (P : Params) (a b : BigInt) (ha : a.Canon) (hb : b.Canon) :
    BigInt.divCeil P a b = if b.val = 0 then .error .divzero else .ok (BigInt.ofInt (ceilDiv a.val b.val)) := by
  unfold BigInt.divCeil ceilDiv
  rw [div_rem_spec P _ _ ha.1 hb.1]
  simp only [canon_mag_nil_iff hb]
  by_cases hb0 : b.val = 0
  · simp only [hb0, if_true]
  · obtain ⟨M, -, -, ⟨hc, -, hq, -⟩ | ⟨hc, -, hq, -⟩⟩ := floor_classes a b ha hb hb0 rfl rfl
    · simp only [hb0, if_false, hc, fromBU_ofNat, ofNat_eq_nil_iff, addU_one, hq, apply_ite Neg.neg,
        apply_ite BigInt.ofInt, apply_ite (Except.ok (ε := Panic)), neg_neg, Int.neg_sub, sub_neg_eq_add,
        Int.add_comm 1]
    · simp only [hb0, if_false, hc, fromBU_ofNat, neg_ofInt, hq]

/-- `ceilDiv a b` is the ceiling of the rational `a / b`, i.e. `q - 1 < a / b ≤ q`, with the
    denominator cleared: `(q - 1)·b < a ≤ q·b` for `b > 0` and `q·b ≤ a < (q - 1)·b` for `b < 0` -/
theorem cdiv_char (a b : Int) (hb : b ≠ 0) :
    (0 < b → (ceilDiv a b - 1) * b < a ∧ a ≤ ceilDiv a b * b) ∧
    (b < 0 → ceilDiv a b * b ≤ a ∧ a < (ceilDiv a b - 1) * b) := by
  unfold ceilDiv
  -- `c·b = a + m` and `(c - 1)·b = a + m - b` for `m = (-a) fmod b`, which lies between `0` and `b`
  have e : -(Int.fdiv (-a) b) * b = a + Int.fmod (-a) b := by rw [Int.fmod_def]; ring
  have e' : (-(Int.fdiv (-a) b) - 1) * b = a + Int.fmod (-a) b - b := by
    rw [Int.sub_mul, e, Int.one_mul]
  rw [e, e']
  constructor
  · intro hp
    have h1 := Int.fmod_lt_of_pos (-a) hp
    have h2 : 0 ≤ (-a).fmod b := by
      rw [Int.fmod_eq_emod_of_nonneg _ (Int.le_of_lt hp)]; exact Int.emod_nonneg _ hb
    omega
  · intro hn
    have h := ((Int.fdiv_fmod_unique' (a := -a) hn).mp ⟨rfl, rfl⟩).2
    omega

/-- `checked_div` for BigInt: `None` exactly for a zero divisor, never a panic -/
theorem bigint_checkedDiv_spec (P : Params) (a b : BigInt) (ha : a.Canon) (hb : b.Canon) :
    BigInt.checkedDiv P a b = .ok (if b.val = 0 then none else some (BigInt.ofInt (Int.tdiv a.val b.val))) :=
  checked_of_spec _ _ (bigint_isZero_iff hb) _ _ (bigint_div_spec P a b ha hb)

/-- `checked_div_euclid` for BigInt: `None` exactly for a zero divisor, never a panic -/
theorem bigint_checkedDivEuclid_spec (P : Params) (a b : BigInt) (ha : a.Canon) (hb : b.Canon) :
    BigInt.checkedDivEuclid P a b = .ok (if b.val = 0 then none else some (BigInt.ofInt (a.val / b.val))) :=
  checked_of_spec _ _ (bigint_isZero_iff hb) _ _ (bigint_divEuclid_spec P a b ha hb)

/-- `checked_rem_euclid` for BigInt: `None` exactly for a zero divisor, never a panic -/
theorem bigint_checkedRemEuclid_spec (P : Params) (a b : BigInt) (ha : a.Canon) (hb : b.Canon) :
    BigInt.checkedRemEuclid P a b = .ok (if b.val = 0 then none else some (BigInt.ofInt (a.val % b.val))) :=
  checked_of_spec _ _ (bigint_isZero_iff hb) _ _ (bigint_remEuclid_spec P a b ha hb)

/-- `checked_div_rem_euclid` for BigInt: `None` exactly for a zero divisor, never a panic -/
theorem bigint_checkedDivRemEuclid_spec (P : Params) (a b : BigInt) (ha : a.Canon) (hb : b.Canon) :
    BigInt.checkedDivRemEuclid P a b = .ok (if b.val = 0 then none
      else some (BigInt.ofInt (a.val / b.val), BigInt.ofInt (a.val % b.val))) :=
  checked_of_spec _ _ (bigint_isZero_iff hb) _ _ (bigint_divRemEuclid_spec P a b ha hb)

/-! ## the conventions, characterised: existence and uniqueness of `(q, r)` with `a = q·b + r` -/

/-- Euclidean convention: `0 ≤ r < |b|` -/
theorem euclid_unique (a b q r : Int) (_hb : b ≠ 0) (h : a = q * b + r) (h0 : 0 ≤ r)
    (h1 : r < (b.natAbs : Int)) : q = a / b ∧ r = a % b := by
  have hq : r + b * q = a := by rw [h, Int.mul_comm, Int.add_comm]
  rcases Int.lt_or_gt_of_ne _hb with hn | hp
  · exact ((Int.ediv_emod_unique' hn).mpr ⟨hq, h0, by omega⟩).imp Eq.symm Eq.symm
  · exact ((Int.ediv_emod_unique hp).mpr ⟨hq, h0, by omega⟩).imp Eq.symm Eq.symm

theorem euclid_exists (a b : Int) (hb : b ≠ 0) :
    a = (a / b) * b + a % b ∧ 0 ≤ a % b ∧ a % b < (b.natAbs : Int) :=
  ⟨(Int.ediv_mul_add_emod a b).symm, Int.emod_nonneg a hb, Int.emod_lt a hb⟩

/-- flooring convention: `r` has the sign of `b` (`0 ≤ r < b` or `b < r ≤ 0`) -/
theorem floor_unique (a b q r : Int) (h : a = q * b + r)
    (hpos : 0 < b → 0 ≤ r ∧ r < b) (hneg : b < 0 → b < r ∧ r ≤ 0) (hb : b ≠ 0) :
    q = Int.fdiv a b ∧ r = Int.fmod a b := by
  have hq : r + b * q = a := by rw [h, Int.mul_comm, Int.add_comm]
  rcases Int.lt_or_gt_of_ne hb with hn | hp
  · exact ((Int.fdiv_fmod_unique' hn).mpr ⟨hq, hneg hn⟩).imp Eq.symm Eq.symm
  · exact ((Int.fdiv_fmod_unique hp).mpr ⟨hq, hpos hp⟩).imp Eq.symm Eq.symm

/-- truncating convention: `|r| < |b|` and `r` has the sign of `a` -/
theorem trunc_unique (a b q r : Int) (hb : b ≠ 0) (h : a = q * b + r)
    (h1 : (r.natAbs : Int) < (b.natAbs : Int)) (hs : 0 ≤ a → 0 ≤ r) (hs' : a ≤ 0 → r ≤ 0) :
    q = Int.tdiv a b ∧ r = Int.tmod a b := by
  have hq : r + b * q = a := by rw [h, Int.mul_comm, Int.add_comm]
  rcases Int.le_total 0 a with ha | ha
  · exact ((Int.tdiv_tmod_unique ha hb).mpr ⟨hq, hs ha, by have := hs ha; omega⟩).imp Eq.symm Eq.symm
  · exact ((Int.tdiv_tmod_unique' ha hb).mpr ⟨hq, by have := hs' ha; omega, hs' ha⟩).imp Eq.symm Eq.symm

/-- sign and size of the remainder in each convention (facts about `Int.tmod`, `Int.fmod`, `%`) -/
theorem rem_signs (a b : Int) (hb : b ≠ 0) :
    (0 ≤ a → 0 ≤ Int.tmod a b) ∧ (a ≤ 0 → Int.tmod a b ≤ 0) ∧
    (0 < b → 0 ≤ Int.fmod a b ∧ Int.fmod a b < b) ∧ (b < 0 → b < Int.fmod a b ∧ Int.fmod a b ≤ 0) ∧
    (0 ≤ a % b ∧ a % b < (b.natAbs : Int)) := by
  exact ⟨fun h => ((Int.tdiv_tmod_unique h hb).mp ⟨rfl, rfl⟩).2.1,
    fun h => ((Int.tdiv_tmod_unique' h hb).mp ⟨rfl, rfl⟩).2.2,
    fun h => ((Int.fdiv_fmod_unique h).mp ⟨rfl, rfl⟩).2, fun h => ((Int.fdiv_fmod_unique' h).mp ⟨rfl, rfl⟩).2,
    Int.emod_nonneg a hb, Int.emod_lt a hb⟩

/-! ## no internal failure site is reachable from canonical operands -/

/-- `div_wide`'s `#DE`, the `u128`/`u64` wrap sites of the multiply-subtract and the four debug
    assertions of `div_rem_core` are unreachable through `div_rem_ref` -/
theorem div_rem_no_internal (P : Params) (a b : List Nat) (ha : Canon a) (hb : Canon b) (tag : String) :
    divRemRef P a b ≠ .error (.internal tag) :=
  not_internal_of_spec (div_rem_spec P a b ha hb) tag

theorem bigint_divRem_no_internal (P : Params) (a b : BigInt) (ha : a.Canon) (hb : b.Canon) (tag : String) :
    BigInt.divRem P a b ≠ .error (.internal tag) :=
  not_internal_of_spec (bigint_divRem_spec P a b ha hb) tag

/-- no internal error from `div_floor`, `mod_floor`, `div_mod_floor`, `div_ceil` (their `unreachable!()` arms: a
    zero divisor panics in `div_rem_ref` first) nor from `div_rem_euclid` -/
theorem bigint_floor_no_internal (P : Params) (a b : BigInt) (ha : a.Canon) (hb : b.Canon) (tag : String) :
    BigInt.divFloor P a b ≠ .error (.internal tag) ∧ BigInt.modFloor P a b ≠ .error (.internal tag) ∧
    BigInt.divModFloor P a b ≠ .error (.internal tag) ∧ BigInt.divCeil P a b ≠ .error (.internal tag) ∧
    BigInt.divRemEuclid P a b ≠ .error (.internal tag) :=
  ⟨not_internal_of_spec (bigint_divFloor_spec P a b ha hb) tag,
   not_internal_of_spec (bigint_modFloor_spec P a b ha hb) tag,
   not_internal_of_spec (bigint_divModFloor_spec P a b ha hb) tag,
   not_internal_of_spec (bigint_divCeil_spec P a b ha hb) tag,
   not_internal_of_spec (bigint_divRemEuclid_spec P a b ha hb) tag⟩

/-! ## non-vacuity: the hypotheses hold on concrete, non-trivial operands -/

-- an add-back instance (Knuth 4.3.1 step D6): a = [0,0,2^63,2^63-1], b = [MAX,0,2^63]
example : Canon [0, 0, 9223372036854775808, 9223372036854775807] := by decide
example : Canon [18446744073709551615, 0, 9223372036854775808] := by decide
example : B / 2 ≤ ([18446744073709551615, 0, 9223372036854775808] : List Nat).getLast?.getD 0 := by decide
example : divRemRef NB.Gen.P [0, 0, 9223372036854775808, 9223372036854775807]
      [18446744073709551615, 0, 9223372036854775808] =
    .ok (ofNat (val [0, 0, 9223372036854775808, 9223372036854775807] /
                val [18446744073709551615, 0, 9223372036854775808]),
         ofNat (val [0, 0, 9223372036854775808, 9223372036854775807] %
                val [18446744073709551615, 0, 9223372036854775808])) := by
  rw [div_rem_spec _ _ _ (by decide) (by decide)]; simp
example : (⟨.minus, [5, 7]⟩ : BigInt).Canon := by decide
example : (⟨.plus, [3]⟩ : BigInt).Canon := by decide
example : BigInt.divFloor NB.Gen.P ⟨.minus, [5, 7]⟩ ⟨.plus, [3]⟩ =
    .ok (BigInt.ofInt (Int.fdiv (BigInt.val ⟨.minus, [5, 7]⟩) (BigInt.val ⟨.plus, [3]⟩))) := by
  rw [bigint_divFloor_spec _ _ _ (by decide) (by decide)]
  simp [BigInt.val, val]
example : BigInt.checkedDivRemEuclid NB.Gen.P ⟨.minus, [5, 7]⟩ ⟨.nosign, []⟩ = .ok none := by
  rw [bigint_checkedDivRemEuclid_spec _ _ _ (by decide) (by decide)]; simp [BigInt.val]

end NB
