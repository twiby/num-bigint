/-
  C09 — Byte and digit-vector import/export is exact, minimal and order-consistent; the u32/u64
  digit iterators are exact-size double-ended iterators under any interleaving of calls.

  All theorems are about the executable models NB.Model.Bytes / NB.Model.Iter (transcribed from
  src/biguint.rs, src/biguint/{convert,iter}.rs, src/bigint.rs, src/bigint/convert.rs, 64-bit digit
  configuration).  The specs are Mathlib's positional digits `Nat.digits` / `Nat.ofDigits` in base
  2^8, 2^32, 2^64 and the two's-complement value `tcDecode` of a little-endian byte string.

  Hypotheses: canonical values on export; on import ANY byte or word slice (any padding, any length,
  odd word counts, empty).  The iterator theorems are a refinement: abstraction `Iter.abs` (the digits
  still to be yielded), invariant `Iter.Inv`, a theorem for `next`, `next_back`, `nth` and one for the
  observers `len`/`size_hint`/`count`/`last` (`last` is `next_back`), lifted by induction to every
  finite sequence of calls.

  Statements: the property is `to_bytes_le_spec`, `to_bytes_be_spec`, `from_bytes_val`,
  `to_signed_bytes_spec`, `from_signed_bytes_val`, `u32_digits_spec`, `u64_digits_spec`,
  `new_from_slice_val`, `bigint_import_val`, `bigint_export_spec`, `iter32_refines`, `iter64_refines`;
  the padding, round-trip, length-edge and no-panic theorems are their corollaries, the `iter_*`
  theorems the single steps of the refinement.  `to_signed_bytes_full` and `to_signed_bytes_len` are
  the general forms from which `to_signed_bytes_spec` and `to_signed_bytes_len_edge` are read off.
-/
import NB.Lemmas.Bytes
import NB.Lemmas.Iter
namespace NB
open NB.Bytes NB.Iter

/-- `to_bytes_le`: `[0]` for zero, otherwise exactly the base-256 digits (LSB first, no padding) -/
theorem to_bytes_le_spec (u : List Nat) (hc : Canon u) :
    toBytesLe u = .ok (if val u = 0 then [0] else Nat.digits 256 (val u)) := by
  by_cases hne : u = []
  · subst hne; simp [toBytesLe, val]
  · obtain ⟨bytes, h1, h2, h3, _, h5⟩ := toBytesLe_struct hc hne
    have hpos := canon_val_pos hc hne
    have : ¬ (val u = 0) := Nat.ne_of_gt hpos
    simp only [this, if_false]
    rw [h1, ← h5, ← digits_unique (by decide) h2 h3]

/-- `to_bytes_be` is the same digit string, most significant byte first -/
theorem to_bytes_be_spec (u : List Nat) (hc : Canon u) :
    toBytesBe u = .ok (if val u = 0 then [0] else (Nat.digits 256 (val u)).reverse) := by
  unfold toBytesBe
  rw [to_bytes_le_spec u hc]
  by_cases h : val u = 0 <;> simp [h]

/-- `from_bytes_le/be` accept ANY byte slice (empty, all-zero, arbitrary zero padding at the
    significant end) and return the canonical representation of the denoted value -/
theorem from_bytes_val (bs : List Nat) (h : Below 256 bs) :
    fromBytesLe bs = .ok (ofNat (Nat.ofDigits 256 bs)) ∧
    fromBytesBe bs = .ok (ofNat (Nat.ofDigits 256 bs.reverse)) := by
  rw [← valBase_eq_ofDigits, ← valBase_eq_ofDigits]
  exact ⟨fromBytesLe_eq bs h, fromBytesBe_eq bs h⟩

/-- redundant zero padding does not change the imported value -/
theorem from_bytes_padding (bs : List Nat) (k : Nat) (h : Below 256 bs) :
    fromBytesLe (bs ++ List.replicate k 0) = fromBytesLe bs ∧
    fromBytesBe (List.replicate k 0 ++ bs) = fromBytesBe bs := by
  have hp : Below 256 (bs ++ List.replicate k 0) :=
    h.append (Below.replicate (by decide) k)
  have hp' : Below 256 (List.replicate k 0 ++ bs) :=
    (Below.replicate (by decide) k).append h
  constructor
  · rw [(from_bytes_val _ hp).1, (from_bytes_val _ h).1, Nat.ofDigits_append_replicate_zero]
  · rw [(from_bytes_val _ hp').2, (from_bytes_val _ h).2, List.reverse_append, List.reverse_replicate,
      Nat.ofDigits_append_replicate_zero]

/-- export then import is the identity -/
theorem bytes_round_trip (u : List Nat) (hc : Canon u) :
    ∃ bs, toBytesLe u = .ok bs ∧ fromBytesLe bs = .ok u ∧ fromBytesBe bs.reverse = .ok u := by
  refine ⟨_, to_bytes_le_spec u hc, ?_⟩
  have hb : Below 256 (if val u = 0 then [0] else Nat.digits 256 (val u)) := by
    split
    · exact Below.cons (by decide) Below.nil
    · exact Below.digits (by decide) _
  have hv : Nat.ofDigits 256 (if val u = 0 then [0] else Nat.digits 256 (val u)) = val u := by
    split
    · next h => simp [h]
    · exact Nat.ofDigits_digits _ _
  rw [(from_bytes_val _ hb).1, (from_bytes_val _ hb.reverse).2, List.reverse_reverse, hv,
    ← canon_eq_ofNat hc]
  exact ⟨rfl, rfl⟩

/-- `from_signed_bytes_le/be`: ANY byte string (empty, any amount of 0x00… / 0xff… sign-extension
    padding) is read as its two's-complement value, and the result is canonical -/
theorem from_signed_bytes_val (bs : List Nat) (h : Below 256 bs) :
    fromSignedBytesLe bs = .ok (BigInt.ofInt (tcDecode bs)) ∧
    fromSignedBytesBe bs = .ok (BigInt.ofInt (tcDecode bs.reverse)) := by
  have le : ∀ bs, Below 256 bs → fromSignedBytesLe bs = .ok (BigInt.ofInt (tcDecode bs)) := by
    intro bs h
    rcases eq_nil_or_snoc bs with rfl | ⟨init, t, rfl⟩
    · rfl
    · rw [tcDecode_snoc]
      unfold fromSignedBytesLe
      simp only [List.getLast?_append, List.getLast?_singleton, Option.some_or]
      by_cases ht : t > 127
      · obtain ⟨t2, t3⟩ := twosGo_true_spec (init ++ [t]) h
        have hge := (top_gt_iff h.left).mp ht
        have hpos : 0 < 256 ^ init.length := Nat.pow_pos (by decide)
        rw [if_neg (Nat.ne_of_gt (Nat.lt_of_lt_of_le (Nat.mul_pos (by decide) hpos) hge)), List.length_append, List.length_singleton] at t3
        simp only [ht, if_true, twosComplementLe, fromBytesLe_eq _ t2]
        rw [fromBiguint_minus (ofNat_canon _), ofNat_val, ← t3]
        congr 2
        push_cast; ring
      · simp only [ht, if_false, fromBytesLe_eq _ h, reduceCtorEq]
        rw [fromBiguint_plus (ofNat_canon _), ofNat_val]
  refine ⟨le bs h, ?_⟩
  rw [from_signed_bytes_be_eq, le _ h.reverse]

/-- sign-extension padding (0xff… for negative, 0x00… for non-negative values) at the significant
    end does not change the two's-complement value -/
theorem tcDecode_sign_extend (bs : List Nat) (k : Nat) (h : Below 256 bs) (hne : bs ≠ []) :
    tcDecode (bs ++ List.replicate k (if tcDecode bs < 0 then 255 else 0)) = tcDecode bs := by
  induction k with
  | zero => rw [List.replicate_zero, List.append_nil]
  | succ k ih =>
    rw [List.replicate_succ', ← List.append_assoc]
    have hb' : Below 256 (bs ++ List.replicate k (if tcDecode bs < 0 then 255 else 0)) :=
      h.append (Below.replicate (by split <;> decide) k)
    have hstep := tcDecode_extend hb' (List.append_ne_nil_of_left_ne_nil hne _)
    rw [ih] at hstep
    exact hstep

/-- everything the model of `to_signed_bytes_le` guarantees, in one statement: the output encodes
    the value, and if it has `j + 2` bytes the value is outside the range of `j + 1` bytes -/
theorem to_signed_bytes_full (x : BigInt) (hx : x.Canon) :
    ∃ out, toSignedBytesLe x = .ok out ∧
      Below 256 out ∧ out ≠ [] ∧ tcDecode out = x.val ∧
      ∀ j, out.length = j + 2 → (x.val < - ((128 * 256 ^ j : Nat) : Int) ∨
                                  ((128 * 256 ^ j : Nat) : Int) ≤ x.val) := by
  obtain ⟨s, m⟩ := x
  obtain ⟨hc, hs⟩ := hx
  simp only at hc hs
  by_cases hm : m = []
  · subst hm
    obtain rfl : s = .nosign := hs.mpr rfl
    exact ⟨[0], rfl, Below.cons (by decide) Below.nil, List.cons_ne_nil _ _, rfl, fun j hj => by cases hj⟩
  · obtain ⟨bytes, h1, h2, h3, h4, h5⟩ := toBytesLe_struct hc hm
    rcases eq_nil_or_snoc bytes with h0 | ⟨init, t, rfl⟩
    · exact absurd h0 h4
    · have ht0 : t ≠ 0 := by
        rintro rfl; exact h3 (by rw [List.getLast?_append, List.getLast?_singleton]; rfl)
      have hlo : 256 ^ init.length ≤ valBase 256 (init ++ [t]) := by
        rw [valBase_snoc]
        exact Nat.le_add_left_of_le (Nat.le_mul_of_pos_right _ (Nat.pos_of_ne_zero ht0))
      obtain ⟨c1, c2, c3, c4⟩ :=
        signedOut_spec h2 List.length_append hlo _ (s = .minus) (extension_test_iff h2.left _)
      rw [h5] at c3 c4
      refine ⟨_, toSignedBytesLe_snoc s m init t h1, c1, c2, ?_⟩
      rcases bigint_canon_cases (y := ⟨s, m⟩) ⟨hc, hs⟩ with ⟨rfl, _, _⟩ | ⟨_, _, h0⟩ | ⟨rfl, _, _⟩
      · exact ⟨c3, fun j hj => Or.inl (Int.neg_lt_neg (Int.ofNat_lt.mpr ((c4 j hj).2 rfl)))⟩
      · exact absurd h0 hm
      · exact ⟨c3, fun j hj => Or.inr (Int.ofNat_le.mpr (c4 j hj).1)⟩

/-- `to_signed_bytes_le/be`: the output is a two's-complement encoding of the value and no
    (non-empty) encoding of the same value is shorter — including the exception that exactly
    `-2^(8k-1)` needs no extension byte -/
theorem to_signed_bytes_spec (x : BigInt) (hx : x.Canon) :
    ∃ out, toSignedBytesLe x = .ok out ∧ toSignedBytesBe x = .ok out.reverse ∧
      Below 256 out ∧ out ≠ [] ∧ tcDecode out = x.val ∧
      ∀ bs, Below 256 bs → bs ≠ [] → tcDecode bs = x.val → out.length ≤ bs.length := by
  obtain ⟨out, h1, h2, h3, h4, h5⟩ := to_signed_bytes_full x hx
  refine ⟨out, h1, by rw [to_signed_bytes_be_eq, h1]; rfl, h2, h3, h4, fun bs hb hne hv => ?_⟩
  rcases hl : out.length with _ | _ | j
  · exact Nat.zero_le _
  · exact List.length_pos_iff.mpr hne
  · exact minimal_of_outside (h5 j hl) bs hb hne hv

/-- the length rule in closed form: the output has exactly `n + 1` bytes iff `n + 1` is the least
    byte count with `-2^(8n+7) ≤ v < 2^(8n+7)` (written `128·256^n = 2^(8n+7)`) -/
theorem to_signed_bytes_len (x : BigInt) (hx : x.Canon) (n : Nat)
    (hin : - ((128 * 256 ^ n : Nat) : Int) ≤ x.val ∧ x.val < ((128 * 256 ^ n : Nat) : Int))
    (hout : ∀ j, n = j + 1 →
      (x.val < - ((128 * 256 ^ j : Nat) : Int) ∨ ((128 * 256 ^ j : Nat) : Int) ≤ x.val)) :
    ∃ out, toSignedBytesLe x = .ok out ∧ out.length = n + 1 := by
  obtain ⟨out, h1, h2, h3, h4, h5⟩ := to_signed_bytes_full x hx
  obtain ⟨l, hl⟩ := Nat.exists_eq_add_one_of_ne_zero (mt List.length_eq_zero_iff.mp h3)
  have hr := tcDecode_range h2 hl
  rw [h4] at hr
  refine ⟨out, h1, ?_⟩
  rw [hl, Nat.add_right_cancel_iff]
  by_contra hne
  rcases Nat.lt_or_gt_of_ne hne with hlt | hgt
  · obtain ⟨j, rfl⟩ := Nat.exists_eq_add_one_of_ne_zero (Nat.ne_of_gt (Nat.zero_lt_of_lt hlt))
    exact not_outside_of_inside (Nat.le_of_lt_succ hlt) hr (hout j rfl)
  · obtain ⟨j, rfl⟩ := Nat.exists_eq_add_one_of_ne_zero (Nat.ne_of_gt (Nat.zero_lt_of_lt hgt))
    exact not_outside_of_inside (Nat.le_of_lt_succ hgt) hin (h5 j hl)

/-- the edge of the rule: `-2^(8k-1)` takes `k` bytes while `+2^(8k-1)` takes `k+1` -/
theorem to_signed_bytes_len_edge (x : BigInt) (hx : x.Canon) (k : Nat) (hk : 1 ≤ k) :
    (x.val = - ((128 * 256 ^ (k - 1) : Nat) : Int) → ∃ out, toSignedBytesLe x = .ok out ∧ out.length = k) ∧
    (x.val = ((128 * 256 ^ (k - 1) : Nat) : Int) → ∃ out, toSignedBytesLe x = .ok out ∧ out.length = k + 1) := by
  obtain ⟨n, rfl⟩ := Nat.exists_eq_add_one_of_ne_zero (Nat.ne_of_gt hk)
  rw [Nat.add_sub_cancel]
  have hmono : ∀ j, ((128 * 256 ^ j : Nat) : Int) < ((128 * 256 ^ (j + 1) : Nat) : Int) := fun j =>
    Int.ofNat_lt.mpr (Nat.mul_lt_mul_of_pos_left (Nat.pow_lt_pow_right (by decide) (Nat.lt_succ_self j)) (by decide))
  have hpos : (0 : Int) < ((128 * 256 ^ n : Nat) : Int) :=
    Int.ofNat_lt.mpr (Nat.mul_pos (by decide) (Nat.pow_pos (by decide)))
  constructor
  · intro hv
    refine to_signed_bytes_len x hx n ⟨Int.le_of_eq hv.symm, hv ▸ Int.lt_trans (Int.neg_neg_of_pos hpos) hpos⟩ ?_
    rintro j rfl
    exact Or.inl (hv ▸ Int.neg_lt_neg (hmono j))
  · intro hv
    refine to_signed_bytes_len x hx (n + 1) ⟨hv ▸ Int.le_trans (Int.le_of_lt (Int.neg_neg_of_pos ?_)) (Int.le_of_lt hpos), hv ▸ hmono n⟩ ?_
    · exact Int.lt_trans hpos (hmono n)
    · intro j hj
      obtain rfl : n = j := Nat.succ.inj hj
      exact Or.inr (Int.le_of_eq hv.symm)

/-- export then import of the signed encoding is the identity -/
theorem signed_bytes_round_trip (x : BigInt) (hx : x.Canon) :
    ∃ out, toSignedBytesLe x = .ok out ∧ fromSignedBytesLe out = .ok x ∧
      fromSignedBytesBe out.reverse = .ok x := by
  obtain ⟨out, h1, _, h3, _, h5, _⟩ := to_signed_bytes_spec x hx
  refine ⟨out, h1, ?_, ?_⟩
  · rw [(from_signed_bytes_val out h3).1, h5, ← bigint_canon_eq_ofInt hx]
  · rw [(from_signed_bytes_val _ h3.reverse).2, List.reverse_reverse, h5, ← bigint_canon_eq_ofInt hx]

/-- `to_u32_digits` = the base-2^32 digits of the value (LSB first, no high zero, empty for 0) -/
theorem u32_digits_spec (u : List Nat) (hc : Canon u) : toU32Digits u = Nat.digits (2 ^ 32) (val u) := by
  rw [toU32Digits_eq_abs u hc.1, abs_new hc, W_eq]

/-- `to_u64_digits` = the base-2^64 digits of the value -/
theorem u64_digits_spec (u : List Nat) (hc : Canon u) : toU64Digits u = Nat.digits (2 ^ 64) (val u) := by
  rw [toU64Digits_eq, ← B_eq]; exact canon_eq_digits hc

/-- `BigUint::new`, `from_slice`, `assign_from_slice`: ANY u32 word slice (odd word counts,
    trailing zero words, empty, all-zero; any previous contents) yields the canonical
    representation of `Σ wᵢ·2^(32i)` -/
theorem new_from_slice_val (ws : List Nat) (h : Below (2 ^ 32) ws) (old : List Nat) :
    Bytes.new ws = .ok (ofNat (Nat.ofDigits (2 ^ 32) ws)) ∧
    fromSlice ws = .ok (ofNat (Nat.ofDigits (2 ^ 32) ws)) ∧
    assignFromSlice old ws = .ok (ofNat (Nat.ofDigits (2 ^ 32) ws)) := by
  rw [← W_eq] at *
  rw [← valBase_eq_ofDigits]
  exact ⟨assignFromSlice_eq [] ws h, assignFromSlice_eq [] ws h, assignFromSlice_eq old ws h⟩

/-- trailing zero words are redundant -/
theorem from_slice_padding (ws : List Nat) (k : Nat) (h : Below (2 ^ 32) ws) :
    fromSlice (ws ++ List.replicate k 0) = fromSlice ws := by
  have hp : Below (2 ^ 32) (ws ++ List.replicate k 0) :=
    h.append (Below.replicate (by decide) k)
  obtain ⟨_, hpad, _⟩ := new_from_slice_val _ hp []
  obtain ⟨_, hws, _⟩ := new_from_slice_val _ h []
  rw [hpad, hws, Nat.ofDigits_append_replicate_zero]

/-- digits out, digits in: `from_slice (to_u32_digits u) = u` -/
theorem u32_digits_round_trip (u : List Nat) (hc : Canon u) : fromSlice (toU32Digits u) = .ok u := by
  rw [u32_digits_spec u hc]
  have hb : Below (2 ^ 32) (Nat.digits (2 ^ 32) (val u)) := Below.digits (by decide) _
  obtain ⟨_, hfs, _⟩ := new_from_slice_val _ hb []
  rw [hfs, Nat.ofDigits_digits, ← canon_eq_ofNat hc]

/-! ## BigInt forms (sign + the BigUint routine, canonicalised by `from_biguint`) -/

/-- the integer denoted by a `Sign` argument and a magnitude value (NoSign forces zero) -/
def signedOf (s : Sign) (m : Nat) : Int :=
  match s with
  | .minus => - (m : Int) | .nosign => 0 | .plus => (m : Int)

theorem fromBiguint_ofNat_signedOf (s : Sign) (n : Nat) : BigInt.fromBiguint s (ofNat n) = BigInt.ofInt (signedOf s n) := by
  cases s <;> simp only [fromBiguint_ofNat, BigInt.val, signedOf, ofNat_val]

/-- `BigInt::new / from_slice / assign_from_slice / from_bytes_le / from_bytes_be` -/
theorem bigint_import_val (s : Sign) (ws : List Nat) (hw : Below (2 ^ 32) ws) (bs : List Nat) (hb : Below 256 bs)
    (old : BigInt) :
    inew s ws = .ok (BigInt.ofInt (signedOf s (Nat.ofDigits (2 ^ 32) ws))) ∧
    ifromSlice s ws = .ok (BigInt.ofInt (signedOf s (Nat.ofDigits (2 ^ 32) ws))) ∧
    iassignFromSlice old s ws = .ok (BigInt.ofInt (signedOf s (Nat.ofDigits (2 ^ 32) ws))) ∧
    ifromBytesLe s bs = .ok (BigInt.ofInt (signedOf s (Nat.ofDigits 256 bs))) ∧
    ifromBytesBe s bs = .ok (BigInt.ofInt (signedOf s (Nat.ofDigits 256 bs.reverse))) := by
  obtain ⟨h1, h2, h3⟩ := new_from_slice_val ws hw old.mag
  obtain ⟨h4, h5⟩ := from_bytes_val bs hb
  refine ⟨?_, ?_, ?_, ?_, ?_⟩
  · simp only [inew, h1, liftU, fromBiguint_ofNat_signedOf]
  · simp only [ifromSlice, h2, liftU, fromBiguint_ofNat_signedOf]
  · unfold iassignFromSlice
    rw [h3]
    have hf := fromBiguint_ofNat_signedOf s (Nat.ofDigits (2 ^ 32) ws)
    generalize ofNat (Nat.ofDigits (2 ^ 32) ws) = m at *
    rw [← hf]
    cases s <;> (by_cases he : m = [] <;> simp [BigInt.fromBiguint, he])
  · simp only [ifromBytesLe, h4, liftU, fromBiguint_ofNat_signedOf]
  · simp only [ifromBytesBe, h5, liftU, fromBiguint_ofNat_signedOf]

/-- `BigInt::to_bytes_le/be` return the sign together with the byte export of the magnitude; the
    digit vectors of `BigInt::to_u32_digits` / `to_u64_digits` are those of the magnitude (the sign
    they return with them is not modelled) -/
theorem bigint_export_spec (x : BigInt) (hx : x.Canon) :
    itoBytesLe x = .ok (x.sign, if val x.mag = 0 then [0] else Nat.digits 256 (val x.mag)) ∧
    itoBytesBe x = .ok (x.sign, if val x.mag = 0 then [0] else (Nat.digits 256 (val x.mag)).reverse) ∧
    toU32Digits x.mag = Nat.digits (2 ^ 32) (val x.mag) ∧
    toU64Digits x.mag = Nat.digits (2 ^ 64) (val x.mag) := by
  refine ⟨?_, ?_, u32_digits_spec _ hx.1, u64_digits_spec _ hx.1⟩
  · simp only [itoBytesLe, to_bytes_le_spec _ hx.1]
  · simp only [itoBytesBe, to_bytes_be_spec _ hx.1]

/-- the fresh iterator satisfies the invariant (for any proper digit vector) -/
theorem iter_inv_new (d : List Nat) (h : DigitsOk d) : Inv (U32Digits.new d) := new_inv d h

/-- for a canonical value the abstraction of the fresh iterator is its base-2^32 digit list -/
theorem iter_abs_new (d : List Nat) (hc : Canon d) : Iter.abs (U32Digits.new d) = Nat.digits (2 ^ 32) (val d) := by
  rw [abs_new hc, W_eq]

/-- `next` yields the first digit still to come (`None` when there is none), removes it from the
    abstraction and keeps the invariant -/
theorem iter_next_refines (s : U32Digits) (hi : Inv s) :
    s.next.1 = (Iter.abs s).head? ∧ Iter.abs s.next.2 = (Iter.abs s).tail ∧ Inv s.next.2 := next_spec s hi

/-- `next_back` yields the last digit still to come, removes it from the abstraction and keeps the
    invariant -/
theorem iter_next_back_refines (s : U32Digits) (hi : Inv s) :
    s.nextBack.1 = (Iter.abs s).getLast? ∧ Iter.abs s.nextBack.2 = (Iter.abs s).dropLast ∧ Inv s.nextBack.2 :=
  nextBack_spec s hi

/-- `len`, `size_hint`, `count` are the exact remaining length (no `usize` underflow), `last` is `getLast?` -/
theorem iter_observers_refine (s : U32Digits) (hi : Inv s) :
    s.len = .ok (Iter.abs s).length ∧
    s.sizeHint = .ok ((Iter.abs s).length, some (Iter.abs s).length) ∧
    s.count = .ok (Iter.abs s).length ∧
    s.last = (Iter.abs s).getLast? :=
  ⟨len_spec s hi, sizeHint_spec s hi, count_spec s hi, last_spec s hi⟩

/-- `nth n` skips `n` digits and yields the next one -/
theorem iter_nth_refines (n : Nat) (s : U32Digits) (hi : Inv s) :
    (U32Digits.nth n s).1 = ((Iter.abs s).drop n).head? ∧
    Iter.abs (U32Digits.nth n s).2 = (Iter.abs s).drop (n + 1) ∧ Inv (U32Digits.nth n s).2 := nth_spec n s hi

/-- all call sequences: from any state satisfying the invariant the state machine
    answers every finite sequence of calls exactly like a list iterator over `abs` -/
theorem iter32_refines_from (calls : List Call) (s : U32Digits) (hi : Inv s) :
    run32 calls s = specRun calls (Iter.abs s) := run32_spec calls s hi

/-- `x.iter_u32_digits()` of a canonical value behaves, under ANY interleaving of
    `next, next_back, nth, len, size_hint, last, count`, as an exact-size double-ended iterator over
    the base-2^32 digits of the value -/
theorem iter32_refines (d : List Nat) (hc : Canon d) (calls : List Call) :
    run32 calls (U32Digits.new d) = specRun calls (Nat.digits (2 ^ 32) (val d)) := by
  rw [run32_spec calls _ (new_inv d hc.1), abs_new hc, W_eq]

/-- `x.iter_u64_digits()` of a canonical value behaves, under any interleaving of the same calls, as an
    exact-size double-ended iterator over the base-2^64 digits of the value -/
theorem iter64_refines (d : List Nat) (hc : Canon d) (calls : List Call) :
    run64 calls (U64Digits.new d) = specRun calls (Nat.digits (2 ^ 64) (val d)) := by
  unfold U64Digits.new
  rw [run64_spec, ← B_eq, ← canon_eq_digits hc]

/-- no call sequence can make `len`/`size_hint`/`count` underflow -/
theorem iter32_no_panic (d : List Nat) (hc : Canon d) (calls : List Call) :
    ∀ r ∈ run32 calls (U32Digits.new d), ∀ p, r ≠ Res.panic p := by
  -- the specification has no panicking answer
  have key : ∀ (calls : List Call) (l : List Nat) (p : Panic), Res.panic p ∉ specRun calls l := by
    intro calls
    induction calls with
    | nil => intro l p h; cases h
    | cons c cs ih => intro l p; cases c <;> simp [specRun, ih]
  rw [iter32_refines d hc]
  intro r hr p h
  exact key _ _ p (h ▸ hr)

/-- two u32 digits, one taken from each end: the iterator over `0x1_0000_0002` is then exhausted, so
    `len` is 0 and `last` answers `None` (it must not yield a digit a second time) -/
theorem d3_fixed : run32 [.next, .nextBack, .len, .last] (U32Digits.new [0x100000002]) =
    [.item (some 2), .item (some 1), .num 0, .item none] := by decide

/-! ## the oracles used by the driver are the Mathlib notions -/

theorem oracle_digits (b n : Nat) (hb : 2 ≤ b) : digitsBase b n = Nat.digits b n := by
  induction n using Nat.strongRecOn with
  | _ n ih =>
    unfold digitsBase
    by_cases h : n = 0
    · subst h; simp
    · have h' : ¬ (n = 0 ∨ b < 2) := not_or.mpr ⟨h, Nat.not_lt.mpr hb⟩
      simp only [h', dite_false]
      rw [ih (n / b) (Nat.div_lt_self (Nat.pos_of_ne_zero h) hb)]
      rw [Nat.digits_def' hb (Nat.pos_of_ne_zero h)]

theorem oracle_ofDigits (b : Nat) (l : List Nat) : valBase b l = Nat.ofDigits b l := valBase_eq_ofDigits b l

/-! ## non-vacuity -/

example : Canon [0xffffffffffffffff, 0x80000000] := by decide
example : (⟨.minus, [0x8000000000000000]⟩ : BigInt).Canon := by decide
example : Below 256 [0x00, 0x80, 0xff, 0xff] ∧ tcDecode [0x00, 0x80, 0xff, 0xff] = -32768 := by decide
example : Inv (U32Digits.new [5, 0x100000000]) := by decide
example : Iter.abs (U32Digits.new [5, 7]) = [5, 0, 7] := by decide

end NB
