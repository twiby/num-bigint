/-
  C10, one layer down — the digit-level scalar leaves (NB.Model.ScalarD, namespace `NB.SD`) compute the
  value-level leaves of NB.Model.Scalar.

  NB.Props.C10 proves the value-level leaf impls (the case analysis of the Rust source over mathematical
  `+ - * / %`) equal to the canonical big-by-big operations.  Here every leaf is re-stated on digit vectors, with each
  BigUint operator replaced by its digit-level model (C01/C02/C03/C08), and proved to refine the value-level leaf:

      digitLeaf P … a …  =  (valueLeaf … (val a) …).map ofNat            (BigUint; `a` canonical)
      digitLeaf P … a …  =  (valueLeaf … (toV a) …).map ofV              (BigInt;  `a` canonical)

  for every scalar value of the leaf type, under `P.ValidMul` where `mul3` is involved (`gen_params_valid_mul`
  instantiates it).  Headline: `dUScalarForm_refines`, `dIScalarForm_refines` (the whole promotion + leaf routing) and
  the transferred specs `dUScalarForm_spec`, `dIScalarForm_spec`.  The driver
  (NB.Drv.C10) computes the model column of these forms with `NB.SD.uScalarForm` / `NB.SD.iScalarForm` /
  `NB.SD.dRemAssignScalar`.

  Every `X_refines` / `dX_spec` of the first part states `SD.X … a … = (X … (val a | toV a) …).map (ofNat | ofV)`
  for a canonical big operand `a` (the unsigned leaves with the scalar below the digit bound `SD.bound t`, the signed
  ones with `t.signed = true` and `t.InRange s`): same result, same panic.

  Second part — the remaining forms, which the driver also computes on digit vectors (second part of
  NB.Model.ScalarD, NB.Model.PowD).  Statements: shifts by every amount `k : Int` — `dUShl_refines`, `dUShr_refines`,
  `dIShl_refines`, `dIShlAssign_refines`, `dIShr_refines`, `dIShrAssign_refines` (negshift and capacity overflow
  included, `shr_round_down`, the `+ 1u8`, the sign fix of `>>=`) and the transferred `dShift_spec_u`, `dShift_spec_i`;
  Pow (4 operand forms) — `dUPow_refines`, `dIPow_refines`, `dUPowBig_refines`, `dIPowBig_refines`, `dUPow_spec`;
  `&a ∘ &b` — `dUBin_refines` (`+ - * / % & | ^` for BigUint against the value-level `uBin` of NB.Drv.C10),
  `dIBin_refines` (`+ - * / %` against `iBin`), `dIBin_spec` (all eight BigInt operators against `Int`);
  `checked_*` — `dUChecked_spec`, `dIChecked_spec`; the Sum / Product folds over big and scalar items — `dUSum_spec`,
  `dUProduct_spec`, `dISum_spec`, `dIProduct_spec`; `drv_*` are the instances at the generated parameters.
  Hypotheses beyond canonicity: `P.ValidMul` where a multiplication occurs, and for `>>`: the operand has fewer than
  2^64 bits / digits (`hlen`, as `shr_spec` / `bigint_shr_spec` of C07 need — a `Vec` cannot be longer).
  Not linked: the value-level sign-case formulas `iBit` of NB.Drv.C10 for BigInt `& | ^` (no theorem is about them);
  `dIBin_spec` states these three operators directly against Mathlib's `Int.land / lor / xor`.
-/
import NB.Props.C10
import NB.Props.C02
import NB.Props.C03
import NB.Props.C07
import NB.Props.C08
import NB.Props.C12
import NB.Lemmas.Div
import NB.Lemmas.ScalarD
namespace NB
open NB.Conv

/-- `MulAssign<u32|u64|u128> for BigUint` on digits (`scalar_mul`, or `mul3` with the two-digit operand
    `[lo, hi]`) returns the canonical digits of the value-level leaf, i.e. of `a * s` -/
theorem dMulAssign_spec (t : STy) (P : Params) (hP : P.ValidMul) (a : List Nat) (s : Nat) (ha : Canon a)
    (hs : s < SD.bound t) :
    SD.dMulAssign t P a s = .ok (ofNat (uMulAssign t (val a) s)) := by
  rw [uMulAssign_spec]
  unfold SD.dMulAssign
  split
  · split
    · rw [scalar_mul_val a s ha ‹_›]
    · rw [mul3_spec P hP a _ ha.1 (two_digits_ok hs), two_digits_val]
  · rw [scalar_mul_val a s ha (by rwa [SD.bound, if_neg (by assumption)] at hs)]

/-- `div_rem(self, From::from(other))` for a scalar divisor -/
theorem divRemVal_scalar (P : Params) (a : List Nat) (t : STy) (s : Nat) (ha : Canon a) :
    divRemVal P a (SD.uFrom t s) =
      if s = 0 then .error .divzero else .ok (ofNat (val a / s), ofNat (val a % s)) := by
  rw [SD.uFrom_eq, divRemVal_spec' P a _ ha (ofNat_canon s), ofNat_val]
  by_cases h : s = 0
  · subst h; simp [ofNat_zero]
  · simp only [mt (ofNat_eq_nil_iff s).1 h, h, if_false]

/-- `Div<u32> for BigUint` through `div_rem_digit`, `Div<u64|u128>` through `From` + `div_rem` -/
theorem dDiv_spec (t : STy) (P : Params) (a : List Nat) (s : Nat) (ha : Canon a) :
    SD.dDiv t P a s = (uDiv t (val a) s).map ofNat := by
  rw [uDiv_spec]
  have gen : (divRemVal P a (SD.uFrom t s)).map (·.1)
      = (if s = 0 then Except.error Panic.divzero else .ok (val a / s)).map ofNat := by
    rw [divRemVal_scalar P a t s ha]; split <;> rfl
  unfold SD.dDiv
  split
  · by_cases h : s = 0
    · subst h; rfl
    · rw [divRemDigit_spec' a s ha.1 h, if_neg h]; rfl
  · exact gen

/-- `Rem<u32> for &BigUint` through `rem_digit`, `Rem<u64|u128>` through `From` + `div_rem` -/
theorem dRem_spec (t : STy) (P : Params) (a : List Nat) (s : Nat) (ha : Canon a) :
    SD.dRem t P a s = (uRem t (val a) s).map ofNat := by
  rw [uRem_spec]
  have gen : (divRemVal P a (SD.uFrom t s)).map (·.2)
      = (if s = 0 then Except.error Panic.divzero else .ok (val a % s)).map ofNat := by
    rw [divRemVal_scalar P a t s ha]; split <;> rfl
  unfold SD.dRem
  split
  · by_cases h : s = 0
    · subst h; rfl
    · rw [remDigit_spec' a s ha.1 h, if_neg h]
      show Except.ok (U.fromU64 (val a % s)) = _
      rw [fromU64_eq_ofNat]; rfl
  · exact gen

theorem dDivRev_of_ne {t : STy} (ht : t ≠ .u128) (s : Nat) (a : List Nat) :
    SD.dDivRev t s a = match a with
      | [] => .error .divzero
      | [d0] => if d0 = 0 then .error .divzero else .ok (U.fromU64 (s / d0))
      | _ => .ok [] := by
  cases t <;> first | rfl | exact absurd rfl ht

/-- `Div<BigUint> for u32|u64|u128` through the digit-count match: a normalised divisor never hits the
    primitive division-by-zero, more digits than the scalar type holds give quotient zero -/
theorem dDivRev_spec (t : STy) (s : Nat) (a : List Nat) (ha : Canon a) :
    SD.dDivRev t s a = (uDivRev t s (val a)).map ofNat := by
  have h1 : ∀ d0, Canon [d0] → d0 ≠ 0 ∧ val [d0] = d0 := fun d0 h => ⟨(canon_singleton_iff.mp h).1, val_singleton d0⟩
  by_cases ht : t = .u128
  · subst ht
    unfold SD.dDivRev uDivRev
    rw [SD.nd_val ha]
    rcases a with _ | ⟨d0, _ | ⟨d1, _ | ⟨d2, r⟩⟩⟩
    · rfl
    · obtain ⟨hne, hv⟩ := h1 d0 ha
      simp only [hne, if_false, hv, fromU128_eq_ofNat]; rfl
    · have hd1 : d1 ≠ 0 := fun e => ha.2 (by simp [e])
      have hne : d1 * B + d0 ≠ 0 := fun e =>
        hd1 ((Nat.mul_eq_zero.1 (Nat.eq_zero_of_add_eq_zero_right e)).resolve_right B_pos.ne')
      have hv : val [d0, d1] = d1 * B + d0 := by simp only [val, Nat.mul_zero, Nat.add_zero, Nat.mul_comm, Nat.add_comm]
      simp only [hne, if_false, hv, fromU128_eq_ofNat]; rfl
    · exact congrArg _ ofNat_zero.symm
  · rw [dDivRev_of_ne ht, uDivRev_of_ne ht, SD.nd_val ha]
    rcases a with _ | ⟨d0, _ | ⟨d1, r⟩⟩
    · rfl
    · obtain ⟨hne, hv⟩ := h1 d0 ha
      simp only [hne, if_false, hv, fromU64_eq_ofNat]; rfl
    · exact congrArg _ ofNat_zero.symm

/-- `impl_rem_assign_scalar!` on digits (digit-level `to_T`, `BigInt::from(*self).magnitude() == other` as
    digit-vector equality) is the value-level leaf — for all 12 scalar types and every scalar value -/
theorem dRemAssignScalar_spec (t : STy) (s : Int) (a : List Nat) (ha : Canon a) (h : t.InRange s) :
    SD.dRemAssignScalar t s a = remAssignScalar t s (val a) := by
  unfold SD.dRemAssignScalar remAssignScalar toT
  rw [biguint_to_spec (SD.pty t) a ha, SD.pty_minV, SD.pty_maxV]
  have hlo : t.lo ≤ (val a : Int) := le_trans (t.lo_nonpos) (by omega)
  by_cases hfit : (val a : Int) ≤ t.hi
  · simp only [hlo, hfit, and_self, if_true]
    rcases hv : val a with _ | n
    · simp
    · have : ¬ (((n + 1 : Nat) : Int) = 0) := by omega
      simp only [this, if_false]
  · simp only [hlo, hfit, and_false, if_false]
    rw [bigint_from_val (SD.pty t) s ((SD.pty_inRange t s).2 h)]
    simp only [NB.ofInt_mag]
    have he : ofNat s.natAbs = a ↔ magOf s = val a :=
      ⟨fun e => by rw [← e, ofNat_val]; rfl, fun e => by rw [show s.natAbs = val a from e, ← canon_eq_ofNat ha]⟩
    simp only [he]

/-- `Rem<&BigUint> for u32`, `Rem<BigUint> for u64|u128` on digits -/
theorem dRemRev_spec (t : STy) (s : Nat) (a : List Nat) (ha : Canon a) (hs : t.InRange (s : Int)) :
    SD.dRemRev t s a = (uRemRev t s (val a)).map ofNat := by
  unfold SD.dRemRev uRemRev
  rw [dRemAssignScalar_spec t s a ha hs, Except.map_map]
  exact Except.map_congr _ (fun r => SD.uFrom_eq t _)

/-- `Add<u32|u64|u128> for BigInt` on digits: sign match, `cmp_slice` against `From::from(other)`, the
    digit-level `+=`, `-=`, `scalar - big` -/
theorem iAddU_refines (t : STy) (P : Params) (a : BigInt) (u : Nat) (ha : a.Canon) (hu : u < SD.bound t) :
    SD.iAddU t P a u = (iAddU t (SD.toV a) u).map SD.ofV := by
  obtain ⟨sg, m⟩ := a
  have hc : Canon m := ha.1
  unfold SD.iAddU iAddU
  -- every digit-level operation is rewritten to its value-level counterpart; the sign / cmp matches are the same
  simp only [SD.toV, SD.cmpSlice_uFrom hc, dSubRev_spec t u m hc hu, dSubAssign_spec t P m u hc hu,
    dAddAssign_spec t P m u hc hu, SD.iFromU_eq, Except.map_map, SD.iFromBiguint_ofNat, SD.ofV_neg, ← SD.ofV_zero]
  cases sg
  · cases cmpNat (val m) u
    · exact (Except.map_map _ _ _).symm
    · rfl
    · exact (Except.map_map _ _ _).symm
  · rfl
  · rfl

/-- `Sub<u32|u64|u128> for BigInt` on digits -/
theorem iSubU_refines (t : STy) (P : Params) (a : BigInt) (u : Nat) (ha : a.Canon) (hu : u < SD.bound t) :
    SD.iSubU t P a u = (iSubU t (SD.toV a) u).map SD.ofV := by
  obtain ⟨sg, m⟩ := a
  have hc : Canon m := ha.1
  unfold SD.iSubU iSubU
  simp only [SD.toV, SD.cmpSlice_uFrom hc, dSubRev_spec t u m hc hu, dSubAssign_spec t P m u hc hu,
    dAddAssign_spec t P m u hc hu, SD.iFromU_eq, Except.map_map, SD.iFromBiguint_ofNat, SD.ofV_neg, ← SD.ofV_zero]
  cases sg
  · rfl
  · rfl
  · cases cmpNat (val m) u
    · exact (Except.map_map _ _ _).symm
    · rfl
    · exact (Except.map_map _ _ _).symm

/-- `Sub<BigInt> for u32|u64|u128` on digits -/
theorem uSubI_refines (t : STy) (P : Params) (u : Nat) (a : BigInt) (ha : a.Canon) (hu : u < SD.bound t) :
    SD.uSubI t P u a = (uSubI t u (SD.toV a)).map SD.ofV := by
  unfold SD.uSubI uSubI
  rw [iSubU_refines t P a u ha hu, Except.map_map, Except.map_map]
  exact Except.map_congr _ (fun v => SD.ofV_neg v)

theorem iAddS_refines (t : STy) (P : Params) (a : BigInt) (s : Int) (ht : t.signed = true) (h : t.InRange s)
    (ha : a.Canon) : SD.iAddS t P a s = (iAddS t (SD.toV a) s).map SD.ofV := by
  unfold SD.iAddS iAddS
  obtain ⟨u, _, hb, ⟨_, e⟩ | ⟨_, _, e⟩⟩ := uabs_cases t s ht h <;> rw [e] <;> simp only [Int.toNat_natCast]
  · exact iAddU_refines _ P a _ ha hb
  · exact iSubU_refines _ P a _ ha hb

theorem iSubS_refines (t : STy) (P : Params) (a : BigInt) (s : Int) (ht : t.signed = true) (h : t.InRange s)
    (ha : a.Canon) : SD.iSubS t P a s = (iSubS t (SD.toV a) s).map SD.ofV := by
  unfold SD.iSubS iSubS
  obtain ⟨u, _, hb, ⟨_, e⟩ | ⟨_, _, e⟩⟩ := uabs_cases t s ht h <;> rw [e] <;> simp only [Int.toNat_natCast]
  · exact iSubU_refines _ P a _ ha hb
  · exact iAddU_refines _ P a _ ha hb

theorem sSubI_refines (t : STy) (P : Params) (s : Int) (a : BigInt) (ht : t.signed = true) (h : t.InRange s)
    (ha : a.Canon) : SD.sSubI t P s a = (sSubI t s (SD.toV a)).map SD.ofV := by
  unfold SD.sSubI sSubI
  obtain ⟨u, _, hb, ⟨_, e⟩ | ⟨_, _, e⟩⟩ := uabs_cases t s ht h <;> rw [e] <;> simp only [Int.toNat_natCast]
  · exact uSubI_refines _ P _ a ha hb
  · exact iSubU_refines _ P a.neg _ (bigint_neg_canon ha) hb

theorem iMulU_refines (t : STy) (P : Params) (hP : P.ValidMul) (a : BigInt) (u : Nat) (ha : a.Canon)
    (hu : u < SD.bound t) : SD.iMulU t P a u = .ok (SD.ofV (iMulU t (SD.toV a) u)) := by
  unfold SD.iMulU iMulU
  rw [dMulAssign_spec t P hP a.mag u ha.1 hu]
  show Except.ok _ = Except.ok _
  rw [SD.bigFromBiguint_ofNat]; rfl

theorem iMulAssignU_refines (t : STy) (P : Params) (hP : P.ValidMul) (a : BigInt) (u : Nat) (ha : a.Canon)
    (hu : u < SD.bound t) : SD.iMulAssignU t P a u = .ok (SD.ofV (iMulAssignU t (SD.toV a) u)) := by
  unfold SD.iMulAssignU iMulAssignU
  rw [dMulAssign_spec t P hP a.mag u ha.1 hu]
  show Except.ok _ = Except.ok _
  rw [SD.fixZero_ofNat]; rfl

theorem iMulS_refines (t : STy) (P : Params) (hP : P.ValidMul) (a : BigInt) (s : Int) (ht : t.signed = true)
    (h : t.InRange s) (ha : a.Canon) : SD.iMulS t P a s = .ok (SD.ofV (iMulS t (SD.toV a) s)) := by
  unfold SD.iMulS iMulS
  obtain ⟨u, _, hb, ⟨_, e⟩ | ⟨_, _, e⟩⟩ := uabs_cases t s ht h <;> rw [e] <;> simp only [Int.toNat_natCast]
  · exact iMulU_refines _ P hP a _ ha hb
  · exact iMulU_refines _ P hP a.neg _ (bigint_neg_canon ha) hb

theorem iMulAssignS_refines (t : STy) (P : Params) (hP : P.ValidMul) (a : BigInt) (s : Int)
    (ht : t.signed = true) (h : t.InRange s) (ha : a.Canon) :
    SD.iMulAssignS t P a s = .ok (SD.ofV (iMulAssignS t (SD.toV a) s)) := by
  unfold SD.iMulAssignS iMulAssignS
  obtain ⟨u, _, hb, ⟨_, e⟩ | ⟨_, _, e⟩⟩ := uabs_cases t s ht h <;> rw [e] <;> simp only [Int.toNat_natCast]
  · exact iMulAssignU_refines _ P hP a _ ha hb
  · rw [dMulAssign_spec _ P hP a.mag _ ha.1 hb]; rfl

theorem iDivU_refines (t : STy) (P : Params) (a : BigInt) (u : Nat) (ha : a.Canon) :
    SD.iDivU t P a u = (iDivU t (SD.toV a) u).map SD.ofV := by
  unfold SD.iDivU iDivU
  rw [dDiv_spec t P a.mag u ha.1]
  exact SD.map_ofNat_ofV _ _ _ (SD.bigFromBiguint_ofNat a.sign)

theorem iDivAssignU_refines (t : STy) (P : Params) (a : BigInt) (u : Nat) (ha : a.Canon) :
    SD.iDivAssignU t P a u = (iDivAssignU t (SD.toV a) u).map SD.ofV := by
  unfold SD.iDivAssignU iDivAssignU
  rw [dDiv_spec t P a.mag u ha.1]
  exact SD.map_ofNat_ofV _ _ _ (SD.fixZero_ofNat a.sign)

theorem uDivI_refines (t : STy) (u : Nat) (a : BigInt) (ha : a.Canon) :
    SD.uDivI t u a = (uDivI t u (SD.toV a)).map SD.ofV := by
  unfold SD.uDivI uDivI
  rw [dDivRev_spec t u a.mag ha.1]
  exact SD.map_ofNat_ofV _ _ _ (SD.bigFromBiguint_ofNat a.sign)

theorem iDivS_refines (t : STy) (P : Params) (a : BigInt) (s : Int) (ha : a.Canon) :
    SD.iDivS t P a s = (iDivS t (SD.toV a) s).map SD.ofV := by
  unfold SD.iDivS iDivS
  cases checkedUabs t s <;> dsimp only
  · exact iDivU_refines _ P a _ ha
  · exact iDivU_refines _ P a.neg _ (bigint_neg_canon ha)

theorem iDivAssignS_refines (t : STy) (P : Params) (a : BigInt) (s : Int) (ha : a.Canon) :
    SD.iDivAssignS t P a s = (iDivAssignS t (SD.toV a) s).map SD.ofV := by
  unfold SD.iDivAssignS iDivAssignS
  cases checkedUabs t s <;> dsimp only
  · exact iDivAssignU_refines _ P a _ ha
  · exact iDivAssignU_refines _ P a.neg _ (bigint_neg_canon ha)

theorem sDivI_refines (t : STy) (s : Int) (a : BigInt) (ha : a.Canon) :
    SD.sDivI t s a = (sDivI t s (SD.toV a)).map SD.ofV := by
  unfold SD.sDivI sDivI
  cases checkedUabs t s <;> dsimp only
  · exact uDivI_refines _ _ a ha
  · exact uDivI_refines _ _ a.neg (bigint_neg_canon ha)

theorem iRemU_refines (t : STy) (P : Params) (a : BigInt) (u : Nat) (ha : a.Canon) :
    SD.iRemU t P a u = (iRemU t (SD.toV a) u).map SD.ofV := by
  unfold SD.iRemU iRemU
  rw [dRem_spec t P a.mag u ha.1]
  exact SD.map_ofNat_ofV _ _ _ (SD.bigFromBiguint_ofNat a.sign)

theorem iRemAssignU_refines (t : STy) (P : Params) (a : BigInt) (u : Nat) (ha : a.Canon) :
    SD.iRemAssignU t P a u = (iRemAssignU t (SD.toV a) u).map SD.ofV := by
  unfold SD.iRemAssignU iRemAssignU
  rw [dRem_spec t P a.mag u ha.1]
  exact SD.map_ofNat_ofV _ _ _ (SD.fixZero_ofNat a.sign)

theorem uRemI_refines (t : STy) (u : Nat) (a : BigInt) (ha : a.Canon) (hu : t.InRange (u : Int)) :
    SD.uRemI t u a = (uRemI t u (SD.toV a)).map SD.ofV := by
  unfold SD.uRemI uRemI
  rw [dRemRev_spec t u a.mag ha.1 hu]
  exact SD.map_ofNat_ofV _ _ _ SD.iFromBiguint_ofNat

theorem iRemS_refines (t : STy) (P : Params) (a : BigInt) (s : Int) (ha : a.Canon) :
    SD.iRemS t P a s = (iRemS t (SD.toV a) s).map SD.ofV :=
  iRemU_refines _ P a _ ha

theorem iRemAssignS_refines (t : STy) (P : Params) (a : BigInt) (s : Int) (ha : a.Canon) :
    SD.iRemAssignS t P a s = (iRemAssignS t (SD.toV a) s).map SD.ofV :=
  iRemAssignU_refines _ P a _ ha

theorem sRemI_refines (t : STy) (s : Int) (a : BigInt) (ht : t.signed = true) (h : t.InRange s) (ha : a.Canon) :
    SD.sRemI t s a = (sRemI t s (SD.toV a)).map SD.ofV := by
  unfold SD.sRemI sRemI
  obtain ⟨u, hr, _, ⟨_, e⟩ | ⟨_, _, e⟩⟩ := uabs_cases t s ht h <;> rw [e] <;> simp only [Int.toNat_natCast]
  · exact uRemI_refines _ _ a ha hr
  · rw [uRemI_refines _ _ a ha hr, Except.map_map, Except.map_map]
    exact Except.map_congr _ (fun v => SD.ofV_neg v)

/-- every BigUint scalar form on digit vectors (5 operators × 3 positions × 6 unsigned scalar types × every
    value of the type × every canonical big operand) returns the canonical digits of what the value-level
    form returns, or the same panic -/
theorem dUScalarForm_refines (P : Params) (hP : P.ValidMul) (op : AOp) (pos : SPos) (t : STy) (a : List Nat)
    (s : Int) (ha : Canon a) (ht : t.signed = false) (h : t.InRange s) :
    SD.uScalarForm P op pos t a s = (uScalarForm op pos t (val a) s).map ofNat := by
  obtain ⟨hc, hp⟩ := promo_lossless t s h
  have hps : t.promo.signed = false := by rw [STy.promo_signed]; exact ht
  have hb := toNat_lt_bound t.promo hps s hp
  have hr : t.promo.InRange (s.toNat : Int) := by
    rwa [Int.toNat_of_nonneg (inRange_unsigned_nonneg _ s hps hp)]
  unfold SD.uScalarForm uScalarForm
  -- every digit-level leaf is rewritten to its value-level leaf; the routing is the same on both sides
  simp only [hc, dAddAssign_spec _ P a _ ha hb, dMulAssign_spec _ P hP a _ ha hb, dSubRev_spec _ _ a ha hb,
    dSubAssign_spec _ P a _ ha hb, dDivRev_spec _ _ a ha, dDiv_spec _ P a _ ha, dRemRev_spec _ _ a ha hr,
    dRem_spec _ P a _ ha]
  cases op <;> cases pos <;> rfl

/-- every BigInt scalar form on digit vectors (5 operators × 3 positions × 12 scalar types × every value of
    the type × every canonical big operand) returns the canonical BigInt of what the value-level form
    returns, or the same panic -/
theorem dIScalarForm_refines (P : Params) (hP : P.ValidMul) (op : AOp) (pos : SPos) (t : STy) (a : BigInt)
    (s : Int) (ha : a.Canon) (h : t.InRange s) :
    SD.iScalarForm P op pos t a s = (iScalarForm op pos t (SD.toV a) s).map SD.ofV := by
  obtain ⟨hc, hp⟩ := promo_lossless t s h
  unfold SD.iScalarForm iScalarForm
  simp only [hc]
  cases hsg : t.promo.signed
  · have hb := toNat_lt_bound t.promo hsg s hp
    have hr : t.promo.InRange (s.toNat : Int) := by
      rwa [Int.toNat_of_nonneg (inRange_unsigned_nonneg _ s hsg hp)]
    simp only [Bool.false_eq_true, if_false, iAddU_refines _ P a _ ha hb, uSubI_refines _ P _ a ha hb,
      iSubU_refines _ P a _ ha hb, iMulAssignU_refines _ P hP a _ ha hb, iMulU_refines _ P hP a _ ha hb,
      iDivU_refines _ P a _ ha, iDivAssignU_refines _ P a _ ha, uDivI_refines _ _ a ha, iRemU_refines _ P a _ ha,
      iRemAssignU_refines _ P a _ ha, uRemI_refines _ _ a ha hr]
    cases op <;> cases pos <;> rfl
  · simp only [if_true, iAddS_refines _ P a s hsg hp ha, sSubI_refines _ P s a hsg hp ha,
      iSubS_refines _ P a s hsg hp ha, iMulAssignS_refines _ P hP a s hsg hp ha, iMulS_refines _ P hP a s hsg hp ha,
      iDivS_refines _ P a s ha, iDivAssignS_refines _ P a s ha, sDivI_refines _ s a ha, iRemS_refines _ P a s ha,
      iRemAssignS_refines _ P a s ha, sRemI_refines _ s a hsg hp ha]
    cases op <;> cases pos <;> rfl

/-- the canonical `&BigInt ∘ &BigInt` operations with digit-level results (`canonI` through `ofV`) -/
def canonBI (op : AOp) (x y : Int) : Except Panic BigInt :=
  match op with
  | .add => .ok (BigInt.ofInt (x + y))
  | .sub => .ok (BigInt.ofInt (x - y))
  | .mul => .ok (BigInt.ofInt (x * y))
  | .div => if y = 0 then .error .divzero else .ok (BigInt.ofInt (Int.tdiv x y))
  | .rem => if y = 0 then .error .divzero else .ok (BigInt.ofInt (Int.tmod x y))

def placeBI (op : AOp) (pos : SPos) (a s : Int) : Except Panic BigInt :=
  match pos with
  | .scalarBig => canonBI op s a
  | _ => canonBI op a s

theorem canonI_map_ofV (op : AOp) (x y : Int) : (canonI op x y).map SD.ofV = canonBI op x y := by
  cases op <;> simp only [canonI, canonBI]
  · show Except.ok _ = Except.ok _; rw [SD.ofV_ofInt]
  · show Except.ok _ = Except.ok _; rw [SD.ofV_ofInt]
  · show Except.ok _ = Except.ok _; rw [SD.ofV_ofInt]
  · rw [Except.map_ite, SD.ofV_ofInt]
  · rw [Except.map_ite, SD.ofV_ofInt]

theorem placeI_map_ofV (op : AOp) (pos : SPos) (a s : Int) :
    (placeI op pos a s).map SD.ofV = placeBI op pos a s := by
  cases pos <;> exact canonI_map_ofV op _ _

/-- digit-level `uScalarForm_spec`: every BigUint `+ - * / %` form with a primitive scalar, computed on
    digit vectors through the digit-level add/sub/mul/div/convert models, returns the canonical digits of
    the canonical operation on `BigUint::from(s)` — or its panic class (underflow, divzero) -/
theorem dUScalarForm_spec (P : Params) (hP : P.ValidMul) (op : AOp) (pos : SPos) (t : STy) (a : List Nat)
    (s : Int) (ha : Canon a) (ht : t.signed = false) (h : t.InRange s) :
    SD.uScalarForm P op pos t a s = (placeU op pos (val a) s.toNat).map ofNat := by
  rw [dUScalarForm_refines P hP op pos t a s ha ht h, uScalarForm_spec op pos t (val a) s ht h]

/-- digit-level `iScalarForm_spec`: every BigInt `+ - * / %` form with a primitive scalar of any of the 12
    types, computed on (sign, digit vector) through the digit-level models, returns the canonical BigInt of
    the canonical operation on `BigInt::from(s)` (`/ %` truncating) — or divzero -/
theorem dIScalarForm_spec (P : Params) (hP : P.ValidMul) (op : AOp) (pos : SPos) (t : STy) (a : BigInt)
    (s : Int) (ha : a.Canon) (h : t.InRange s) :
    SD.iScalarForm P op pos t a s = placeBI op pos a.val s := by
  rw [dIScalarForm_refines P hP op pos t a s ha h, iScalarForm_spec op pos t (SD.toV a) s h (SD.toV_canon ha),
    SD.toV_val, placeI_map_ofV]

/-- `scalar %= BigUint` on digits: truncated remainder for every scalar type and value (incl. `iN::MIN`) -/
theorem dRemAssignScalar_tmod (t : STy) (s : Int) (a : List Nat) (ha : Canon a) (h : t.InRange s) :
    SD.dRemAssignScalar t s a = if val a = 0 then .error .divzero else .ok (Int.tmod s (val a)) := by
  rw [dRemAssignScalar_spec t s a ha h, remAssignScalar_spec t s (val a) h]

/-- what the driver runs: the forms at the parameters regenerated from the source -/
theorem drv_uScalarForm_spec (op : AOp) (pos : SPos) (t : STy) (a : List Nat) (s : Int) (ha : Canon a)
    (ht : t.signed = false) (h : t.InRange s) :
    SD.uScalarForm NB.Gen.P op pos t a s = (placeU op pos (val a) s.toNat).map ofNat :=
  dUScalarForm_spec NB.Gen.P gen_params_valid_mul op pos t a s ha ht h

theorem drv_iScalarForm_spec (op : AOp) (pos : SPos) (t : STy) (a : BigInt) (s : Int) (ha : a.Canon)
    (h : t.InRange s) :
    SD.iScalarForm NB.Gen.P op pos t a s = placeBI op pos a.val s :=
  dIScalarForm_spec NB.Gen.P gen_params_valid_mul op pos t a s ha h

theorem dUShl_refines (a : List Nat) (k : Int) (ha : Canon a) :
    SD.uShiftForm true a k = (uShl (val a) k).map ofNat := by
  show NB.C07.biguintShl a k = _
  rw [uShl_spec]
  by_cases hk : k < 0
  · rw [C07.shl_negative a k hk, if_pos hk]; rfl
  · have hk0 : 0 ≤ k := Int.not_lt.1 hk
    -- the capacity test of the value-level model (on `Int`) is that of the digit-level one (on `Nat`)
    have hcap : k / 64 ≥ usizeLim ↔ C07.USIZE_RANGE ≤ k.toNat / C07.BITS := by
      unfold usizeLim C07.USIZE_RANGE C07.BITS B; omega
    rw [if_neg hk]
    simp only [canon_val_ne_zero_iff ha, hcap]
    split
    · rename_i h
      rw [C07.shl_capacity a k hk0 h.1 h.2]; rfl
    · rename_i h
      rw [C07.shl_spec a k ha hk0 (fun hne => Nat.lt_of_not_le fun hc => h ⟨hne, hc⟩)]; rfl

theorem dUShr_refines (a : List Nat) (k : Int) (ha : Canon a) (hlen : a.length < C07.USIZE_RANGE) :
    SD.uShiftForm false a k = (uShr (val a) k).map ofNat := by
  show NB.C07.biguintShr a k = _
  rw [uShr_spec]
  by_cases hk : k < 0
  · rw [C07.shr_negative a k hk]; simp only [hk, if_true]; rfl
  · rw [C07.shr_spec a k ha (Int.not_lt.1 hk) hlen]; simp only [hk, if_false]; rfl

theorem dIShl_refines (P : Params) (a : BigInt) (k : Int) (ha : a.Canon) :
    SD.iShiftForm P true false a k = (iShl (SD.toV a) k).map SD.ofV := by
  show NB.C07.BigInt.shl a k = _
  unfold NB.C07.BigInt.shl iShl
  rw [show NB.C07.biguintShl a.mag k = _ from dUShl_refines a.mag k ha.1]
  exact SD.map_ofNat_ofV _ _ _ (fun n => SD.bigFromBiguint_ofNat a.sign n)

theorem dIShlAssign_refines (P : Params) (a : BigInt) (k : Int) (ha : a.Canon) :
    SD.iShiftForm P true true a k = (iShlAssign (SD.toV a) k).map SD.ofV := by
  show NB.C07.BigInt.shlAssign a k = _
  unfold NB.C07.BigInt.shlAssign iShlAssign
  rw [show NB.C07.biguintShl a.mag k = _ from dUShl_refines a.mag k ha.1]
  exact SD.map_ofNat_ofV _ _ _ (fun n => rfl)

theorem bigint_shrAssign_negative (P : Params) (x : BigInt) (k : Int) (hx : x.Canon) (hk : k < 0) :
    C07.BigInt.shrAssign P x k = .error .negshift := by
  unfold C07.BigInt.shrAssign
  obtain ⟨b, hb⟩ := C07.shrRoundDown_no_internal x k hx
  rw [hb, C07.shr_negative _ _ hk]; rfl

/-- `>>` and `>>=` of C07 have the same two outcomes, which are those of the value-level `iShr` -/
theorem shr_refines {a : BigInt} {k : Int} (ha : a.Canon) (hlen : C07.BITS * a.mag.length < C07.U64_RANGE)
    {x : Except Panic BigInt} (hneg : k < 0 → x = .error .negshift)
    (hpos : 0 ≤ k → x = .ok (BigInt.ofInt (a.val / 2 ^ k.toNat))) :
    x = (iShr (SD.toV a) k).map SD.ofV := by
  rw [iShr_spec (SD.toV a) k (SD.toV_canon ha) (hbits_of_len ha.1.1 hlen)]
  by_cases hk : k < 0
  · rw [hneg hk, if_pos hk]; rfl
  · rw [hpos (Int.not_lt.1 hk), if_neg hk]
    show _ = Except.ok (SD.ofV _)
    rw [SD.ofV_ofInt, SD.toV_val]

theorem dIShr_refines (P : Params) (a : BigInt) (k : Int) (ha : a.Canon)
    (hlen : C07.BITS * a.mag.length < C07.U64_RANGE) :
    SD.iShiftForm P false false a k = (iShr (SD.toV a) k).map SD.ofV :=
  shr_refines ha hlen (C07.bigint_shr_negative P a k ha) (fun h => C07.bigint_shr_spec P a k ha h hlen)

theorem dIShrAssign_refines (P : Params) (a : BigInt) (k : Int) (ha : a.Canon)
    (hlen : C07.BITS * a.mag.length < C07.U64_RANGE) :
    SD.iShiftForm P false true a k = (iShrAssign (SD.toV a) k).map SD.ofV := by
  rw [iShrAssign_spec (SD.toV a) k (SD.toV_canon ha)]
  exact shr_refines ha hlen (bigint_shrAssign_negative P a k ha)
    (fun h => C07.bigint_shrAssign_spec P a k ha h hlen)

theorem dUPow_refines (P : Params) (hP : P.ValidMul) (f : Pow.Form) (a : List Nat) (e : Nat) (ha : Canon a) :
    PowD.powPrim P f a e = .ok (ofNat (powPrim (val a) e)) := by
  rw [powD_spec P hP f a e ha, powPrim_eq]

theorem dIPow_refines (P : Params) (hP : P.ValidMul) (f : Pow.Form) (a : BigInt) (e : Nat) (ha : a.Canon) :
    PowD.bigintPow P f a e = .ok (SD.ofV (iPow (SD.toV a) e)) := by
  rw [bigint_powD_spec P hP f a e ha, iPow_spec, SD.ofV_ofInt, SD.toV_val]

theorem dUPowBig_refines (P : Params) (hP : P.ValidMul) (f : Pow.Form) (a e : List Nat) (ha : Canon a)
    (he : Canon e) :
    PowD.powBig P f a e = (uPowBig (val a) (val e)).map ofNat := by
  rw [pow_bigD_spec P hP f a e ha he, uPowBig_spec, two_pow_128]
  split <;> rfl

theorem dIPowBig_refines (P : Params) (hP : P.ValidMul) (f : Pow.Form) (a : BigInt) (e : List Nat)
    (ha : a.Canon) (he : Canon e) :
    PowD.bigintPowBig P f a e = (iPowBig (SD.toV a) (val e)).map SD.ofV := by
  rw [bigint_pow_bigD_spec P hP f a e ha he, iPowBig_spec, two_pow_128, bigint_natAbs_val ha]
  rw [show (SD.toV a).mag = val a.mag from rfl]
  by_cases h : 2 ≤ val a.mag ∧ 340282366920938463463374607431768211456 ≤ val e
  · rw [if_pos h, if_pos h]; rfl
  · rw [if_neg h, if_neg h]
    show _ = Except.ok (SD.ofV _); rw [SD.ofV_ofInt, SD.toV_val]

theorem dUBin_refines (P : Params) (hP : P.ValidMul) (op : Nat) (a b : List Nat) (ha : Canon a) (hb : Canon b) :
    SD.uBinForm P op a b = (Drv.C10.uBin op (val a) (val b)).map ofNat := by
  have hz : b = [] ↔ val b = 0 :=
    ⟨fun h => by subst h; rfl, fun h => by_contra fun c => (canon_val_ne_zero_iff hb).2 c h⟩
  match op with
  | 0 | n + 9 => rfl
  | 1 => exact congrArg Except.ok (addRef_spec P a b ha hb)
  | 2 => exact (subRef_spec P a b ha hb).trans (Except.map_ite _ ofNat _ _).symm
  | 3 => exact NB.mul_spec P hP a b ha hb
  | 4 => exact (divRef_spec P a b ha hb).trans (by simp only [hz]; exact (Except.map_ite _ ofNat _ _).symm)
  | 5 => exact (remRef_spec P a b ha hb).trans (by simp only [hz]; exact (Except.map_ite _ ofNat _ _).symm)
  | 6 => exact congrArg Except.ok (C07.andRef_spec a b ha hb)
  | 7 => exact congrArg Except.ok (C07.orRef_spec a b ha hb)
  | 8 => exact congrArg Except.ok (C07.xorRef_spec a b ha hb)

/-- the mathematical meaning of the canonical `&BigInt ∘ &BigInt` operations (`/ %` truncate; `& | ^` are
    Mathlib's two's-complement `Int.land / lor / xor`) -/
def formSpecI (op : Nat) (x y : Int) : Except Panic BigInt :=
  match op with
  | 1 => .ok (BigInt.ofInt (x + y))
  | 2 => .ok (BigInt.ofInt (x - y))
  | 3 => .ok (BigInt.ofInt (x * y))
  | 4 => if y = 0 then .error .divzero else .ok (BigInt.ofInt (Int.tdiv x y))
  | 5 => if y = 0 then .error .divzero else .ok (BigInt.ofInt (Int.tmod x y))
  | 6 => .ok (BigInt.ofInt (Int.land x y))
  | 7 => .ok (BigInt.ofInt (Int.lor x y))
  | 8 => .ok (BigInt.ofInt (Int.xor x y))
  | _ => .error (.internal "op")

/-- `&BigInt ∘ &BigInt` on (sign, digit vector), operator codes 1 `+` 2 `-` 3 `*` 4 `/` 5 `%` 6 `&` 7 `|` 8 `^`: the
    canonical BigInt of the `Int` operation (`formSpecI`), divzero for a zero divisor, an internal error for any other code -/
theorem dIBin_spec (P : Params) (hP : P.ValidMul) (op : Nat) (a b : BigInt) (ha : a.Canon) (hb : b.Canon) :
    SD.iBinForm P op a b = formSpecI op a.val b.val := by
  match op with
  | 0 => rfl
  | 1 => exact bigint_add_spec P a b ha hb
  | 2 => exact bigint_sub_spec P a b ha hb
  | 3 => exact bigint_mul_spec P hP a b ha hb
  | 4 => exact bigint_div_spec P a b ha hb
  | 5 => exact bigint_rem_spec P a b ha hb
  | 6 => exact C07.bigint_andRef_spec a b ha hb
  | 7 => exact C07.bigint_orRef_spec a b ha hb
  | 8 => exact C07.bigint_xorRef_spec a b ha hb
  | n + 9 => rfl

/-- `&BigInt ∘ &BigInt` for `+ - * / %` on (sign, digit vector) refines the value-level canonical operation -/
theorem dIBin_refines (P : Params) (hP : P.ValidMul) (op : Nat) (hop : ¬ (op = 6 ∨ op = 7 ∨ op = 8))
    (a b : BigInt) (ha : a.Canon) (hb : b.Canon) :
    SD.iBinForm P op a b = (Drv.C10.iBin op (SD.toV a) (SD.toV b)).map SD.ofV := by
  rw [dIBin_spec P hP op a b ha hb, ← SD.toV_val a, ← SD.toV_val b]
  have hy := SD.toV_canon hb
  have hz := VInt.val_eq_zero_iff hy
  generalize SD.toV a = x
  generalize SD.toV b = y at hy hz
  -- `/` and `%`: the zero tests agree (`hz`), the results agree once the divisor is non-zero
  have key : ∀ (r : Int) (v : VInt), (y.mag ≠ 0 → SD.ofV v = BigInt.ofInt r) →
      (if y.val = 0 then Except.error Panic.divzero else .ok (BigInt.ofInt r))
        = Except.map SD.ofV (if y.mag = 0 then .error .divzero else .ok v) := by
    intro r v h
    simp only [hz]
    split
    · rfl
    · exact congrArg Except.ok (h ‹_›).symm
  match op, hop with
  | 0, _ | n + 9, _ => rfl
  | 1, _ | 2, _ => exact congrArg Except.ok (SD.ofV_ofInt _).symm
  | 3, _ => exact congrArg Except.ok (by rw [vint_mul_spec, SD.ofV_ofInt])
  | 4, _ =>
    exact key _ _ fun _ => by
      rw [VInt.fromBiguint_toInt, SD.ofV_ofInt, ← tdiv_sign_both, ← VInt.val_eq_toInt, ← VInt.val_eq_toInt]
  | 5, _ =>
    exact key _ _ fun hm => by
      rw [VInt.fromBiguint_toInt, SD.ofV_ofInt, ← tmod_sign_both _ _ _ _ (fun c => hm (hy.1 c)),
        ← VInt.val_eq_toInt, ← VInt.val_eq_toInt]
  | 6, h => exact absurd (Or.inl rfl) h
  | 7, h => exact absurd (Or.inr (Or.inl rfl)) h
  | 8, h => exact absurd (Or.inr (Or.inr rfl)) h

/-- `checked_add/sub/mul/div` for BigUint on digits: `None` exactly for `a < b` resp. a zero divisor, never a panic -/
theorem dUChecked_spec (P : Params) (hP : P.ValidMul) (op : Nat) (a b : List Nat) (ha : Canon a) (hb : Canon b) :
    SD.uCheckedForm P op a b =
      match op with
      | 1 => .ok (some (ofNat (val a + val b)))
      | 2 => .ok (if val a < val b then none else some (ofNat (val a - val b)))
      | 3 => .ok (some (ofNat (val a * val b)))
      | 4 => .ok (if val b = 0 then none else some (ofNat (val a / val b)))
      | _ => .error (.internal "op") := by
  match op with
  | 0 => rfl
  | 1 => show Except.ok (some (addRef P a b)) = _; rw [addRef_spec P a b ha hb]; rfl
  | 2 => exact checkedSub_spec P a b ha hb
  | 3 => show (Mul.mulRef P a b).map some = _; rw [NB.mul_spec P hP a b ha hb]; rfl
  | 4 =>
    show checkedDiv P a b = _; rw [checkedDiv_spec P a b ha hb]
    have := canon_val_ne_zero_iff hb
    by_cases h : b = []
    · subst h; rfl
    · rw [if_neg h]; show _ = Except.ok (if val b = 0 then _ else _); rw [if_neg (this.2 h)]
  | n + 5 => rfl

theorem dIChecked_spec (P : Params) (hP : P.ValidMul) (op : Nat) (a b : BigInt) (ha : a.Canon) (hb : b.Canon) :
    SD.iCheckedForm P op a b =
      match op with
      | 1 => .ok (some (BigInt.ofInt (a.val + b.val)))
      | 2 => .ok (some (BigInt.ofInt (a.val - b.val)))
      | 3 => .ok (some (BigInt.ofInt (a.val * b.val)))
      | 4 => .ok (if b.val = 0 then none else some (BigInt.ofInt (Int.tdiv a.val b.val)))
      | _ => .error (.internal "op") := by
  match op with
  | 0 => rfl
  | 1 => show (BigInt.add P a b).map some = _; rw [bigint_add_spec P a b ha hb]; rfl
  | 2 => show (BigInt.sub P a b).map some = _; rw [bigint_sub_spec P a b ha hb]; rfl
  | 3 => show (Mul.bigintMul P a b).map some = _; rw [bigint_mul_spec P hP a b ha hb]; rfl
  | 4 => exact bigint_checkedDiv_spec P a b ha hb
  | n + 5 => rfl

/-- the value of an item of a BigUint `Sum` / `Product` -/
def uItemVal : SD.Item (List Nat) → Nat
  | .big b => val b
  | .sc _ s => s.toNat

/-- an admissible item: a canonical big value or an in-range value of an unsigned scalar type -/
def UItemOk : SD.Item (List Nat) → Prop
  | .big b => Canon b
  | .sc t s => t.signed = false ∧ t.InRange s

def iItemVal : SD.Item BigInt → Int
  | .big b => b.val
  | .sc _ s => s

def IItemOk : SD.Item BigInt → Prop
  | .big b => b.Canon
  | .sc t s => t.InRange s

theorem dUIterStep_spec (P : Params) (hP : P.ValidMul) (sum : Bool) (v : Nat) (it : SD.Item (List Nat))
    (hit : UItemOk it) :
    SD.uIterStep P sum (ofNat v) it = .ok (ofNat (if sum then v + uItemVal it else v * uItemVal it)) := by
  have hv := ofNat_canon v
  rcases it with b | ⟨t, s⟩ <;> cases sum <;>
    simp only [SD.uIterStep, uItemVal, if_true, if_false, Bool.false_eq_true]
  · rw [NB.mul_spec P hP _ b hv hit, ofNat_val]
  · rw [addAssign_spec P _ b hv hit, ofNat_val]
  · rw [dUScalarForm_spec P hP .mul .bigScalar t _ s hv hit.1 hit.2, ofNat_val]; rfl
  · rw [dUScalarForm_spec P hP .add .bigScalar t _ s hv hit.1 hit.2, ofNat_val]; rfl

theorem dUIterFold_spec (P : Params) (hP : P.ValidMul) (sum : Bool) :
    ∀ (items : List (SD.Item (List Nat))) (v : Nat), (∀ it ∈ items, UItemOk it) →
      SD.uIterFold P sum (ofNat v) items =
        .ok (ofNat (if sum then v + (items.map uItemVal).sum else v * (items.map uItemVal).prod)) := by
  intro items
  induction items with
  | nil => intro v _; cases sum <;> simp [SD.uIterFold]
  | cons it rest ih =>
    intro v h
    unfold SD.uIterFold
    rw [dUIterStep_spec P hP sum v it (h it (List.mem_cons_self))]
    dsimp only
    rw [ih _ (fun x hx => h x (List.mem_cons_of_mem _ hx))]
    cases sum
    · simp only [Bool.false_eq_true, if_false, List.map_cons, List.prod_cons, Nat.mul_assoc]
    · simp only [if_true, List.map_cons, List.sum_cons, Nat.add_assoc]

/-- `Sum` for BigUint over big and scalar items, on digits: the canonical digits of the sum -/
theorem dUSum_spec (P : Params) (hP : P.ValidMul) (items : List (SD.Item (List Nat))) (h : ∀ it ∈ items, UItemOk it) :
    SD.uIterForm P true items = .ok (ofNat (items.map uItemVal).sum) := by
  have := dUIterFold_spec P hP true items 0 h
  rw [ofNat_zero] at this
  simpa [SD.uIterForm] using this

/-- `Product` for BigUint, on digits: the canonical digits of the product (empty product = 1) -/
theorem dUProduct_spec (P : Params) (hP : P.ValidMul) (items : List (SD.Item (List Nat))) (h : ∀ it ∈ items, UItemOk it) :
    SD.uIterForm P false items = .ok (ofNat (items.map uItemVal).prod) := by
  have := dUIterFold_spec P hP false items 1 h
  rw [ofNat_one] at this
  simpa [SD.uIterForm] using this

theorem dIIterStep_spec (P : Params) (hP : P.ValidMul) (sum : Bool) (v : Int) (it : SD.Item BigInt)
    (hit : IItemOk it) :
    SD.iIterStep P sum (BigInt.ofInt v) it = .ok (BigInt.ofInt (if sum then v + iItemVal it else v * iItemVal it)) := by
  have hv := bigint_ofInt_canon v
  rcases it with b | ⟨t, s⟩ <;> cases sum <;>
    simp only [SD.iIterStep, iItemVal, if_true, if_false, Bool.false_eq_true]
  · rw [bigint_mul_spec P hP _ b hv hit, bigint_ofInt_val]
  · rw [bigint_add_spec P _ b hv hit, bigint_ofInt_val]
  · rw [dIScalarForm_spec P hP .mul .bigScalar t _ s hv hit, bigint_ofInt_val]; rfl
  · rw [dIScalarForm_spec P hP .add .bigScalar t _ s hv hit, bigint_ofInt_val]; rfl

theorem dIIterFold_spec (P : Params) (hP : P.ValidMul) (sum : Bool) :
    ∀ (items : List (SD.Item BigInt)) (v : Int), (∀ it ∈ items, IItemOk it) →
      SD.iIterFold P sum (BigInt.ofInt v) items =
        .ok (BigInt.ofInt (if sum then v + (items.map iItemVal).sum else v * (items.map iItemVal).prod)) := by
  intro items
  induction items with
  | nil => intro v _; cases sum <;> simp [SD.iIterFold]
  | cons it rest ih =>
    intro v h
    unfold SD.iIterFold
    rw [dIIterStep_spec P hP sum v it (h it (List.mem_cons_self))]
    dsimp only
    rw [ih _ (fun x hx => h x (List.mem_cons_of_mem _ hx))]
    cases sum
    · simp only [Bool.false_eq_true, if_false, List.map_cons, List.prod_cons, mul_assoc]
    · simp only [if_true, List.map_cons, List.sum_cons, add_assoc]

theorem dISum_spec (P : Params) (hP : P.ValidMul) (items : List (SD.Item BigInt)) (h : ∀ it ∈ items, IItemOk it) :
    SD.iIterForm P true items = .ok (BigInt.ofInt (items.map iItemVal).sum) := by
  have := dIIterFold_spec P hP true items 0 h
  rw [ofInt_zero] at this
  simpa [SD.iIterForm] using this

theorem dIProduct_spec (P : Params) (hP : P.ValidMul) (items : List (SD.Item BigInt)) (h : ∀ it ∈ items, IItemOk it) :
    SD.iIterForm P false items = .ok (BigInt.ofInt (items.map iItemVal).prod) := by
  have := dIIterFold_spec P hP false items 1 h
  rw [ofInt_one] at this
  simpa [SD.iIterForm] using this

/-- BigUint `<<` / `>>` (and `<<=`, `>>=`) by any amount of any of the 12 primitive types, on digits -/
theorem dShift_spec_u (left : Bool) (a : List Nat) (k : Int) (ha : Canon a) (hlen : a.length < C07.USIZE_RANGE) :
    SD.uShiftForm left a k =
      if k < 0 then .error .negshift
      else if left then
        (if val a ≠ 0 ∧ k / 64 ≥ usizeLim then .error .capacity else .ok (ofNat (val a * 2 ^ k.toNat)))
      else .ok (ofNat (val a / 2 ^ k.toNat)) := by
  cases left
  · rw [dUShr_refines a k ha hlen, uShr_spec]
    simp only [apply_ite (Except.map ofNat), Bool.false_eq_true, if_false]
    simp only [Except.map]
  · rw [dUShl_refines a k ha, uShl_spec]
    simp only [apply_ite (Except.map ofNat), if_true]
    simp only [Except.map]

/-- BigInt `<< <<= >> >>=` on (sign, digits): `x·2^k`, `⌊x / 2^k⌋` toward −∞, negative amounts panic -/
theorem dShift_spec_i (P : Params) (left assign : Bool) (a : BigInt) (k : Int) (ha : a.Canon)
    (hlen : C07.BITS * a.mag.length < C07.U64_RANGE) :
    SD.iShiftForm P left assign a k =
      if k < 0 then .error .negshift
      else if left then
        (if a.val ≠ 0 ∧ k / 64 ≥ usizeLim then .error .capacity else .ok (BigInt.ofInt (a.val * 2 ^ k.toNat)))
      else .ok (BigInt.ofInt (a.val / 2 ^ k.toNat)) := by
  have hc := SD.toV_canon ha
  have hb := hbits_of_len ha.1.1 hlen
  cases left <;> cases assign
  · rw [dIShr_refines P a k ha hlen, iShr_spec _ k hc hb]
    simp only [apply_ite (Except.map SD.ofV), Bool.false_eq_true, if_false]
    simp only [Except.map, SD.ofV_ofInt, SD.toV_val]
  · rw [dIShrAssign_refines P a k ha hlen, iShrAssign_spec _ k hc, iShr_spec _ k hc hb]
    simp only [apply_ite (Except.map SD.ofV), Bool.false_eq_true, if_false]
    simp only [Except.map, SD.ofV_ofInt, SD.toV_val]
  · rw [dIShl_refines P a k ha, iShl_spec _ k hc]
    simp only [apply_ite (Except.map SD.ofV), if_true]
    simp only [Except.map, SD.ofV_ofInt, SD.toV_val]
  · rw [dIShlAssign_refines P a k ha, iShlAssign_spec _ k hc, iShl_spec _ k hc]
    simp only [apply_ite (Except.map SD.ofV), if_true]
    simp only [Except.map, SD.ofV_ofInt, SD.toV_val]

/-- digit-level `Pow` by a primitive exponent: `x^e`, every operand form, no multiplication panic -/
theorem dUPow_spec (P : Params) (hP : P.ValidMul) (f : Pow.Form) (a : List Nat) (e : Nat) (ha : Canon a) :
    PowD.powPrim P f a e = .ok (ofNat (val a ^ e)) := powD_spec P hP f a e ha

/-- what the driver runs: the forms at the parameters regenerated from the source -/
theorem drv_uBin_refines (op : Nat) (a b : List Nat) (ha : Canon a) (hb : Canon b) :
    SD.uBinForm NB.Gen.P op a b = (Drv.C10.uBin op (val a) (val b)).map ofNat :=
  dUBin_refines NB.Gen.P gen_params_valid_mul op a b ha hb

theorem drv_iBin_spec (op : Nat) (a b : BigInt) (ha : a.Canon) (hb : b.Canon) :
    SD.iBinForm NB.Gen.P op a b = formSpecI op a.val b.val :=
  dIBin_spec NB.Gen.P gen_params_valid_mul op a b ha hb

theorem drv_uPow_refines (f : Pow.Form) (a : List Nat) (e : Nat) (ha : Canon a) :
    PowD.powPrim NB.Gen.P f a e = .ok (ofNat (powPrim (val a) e)) :=
  dUPow_refines NB.Gen.P gen_params_valid_mul f a e ha

theorem drv_iPow_refines (f : Pow.Form) (a : BigInt) (e : Nat) (ha : a.Canon) :
    PowD.bigintPow NB.Gen.P f a e = .ok (SD.ofV (iPow (SD.toV a) e)) :=
  dIPow_refines NB.Gen.P gen_params_valid_mul f a e ha

/-! ## non-vacuity: concrete digit-level runs (two-digit scalar through `mul3`, Knuth division by `[lo, hi]`,
    the digit-count match, `MIN %= 2^(N-1)`, the sign/cmp match).
    `decide +kernel`: `ofNat`, `From<u64>` are well-founded recursions, which only the kernel unfolds. -/

example : SD.dMulAssign .u128 NB.Gen.P [3, 5] (2 * B + 7) = .ok [21, 41, 10] := by decide +kernel
example : SD.dDiv .u128 NB.Gen.P [0, 0, 1] (B + 1) = .ok [18446744073709551615] := by decide +kernel
example : SD.dRem .u32 NB.Gen.P [1, 1] 10 = .ok [7] := by decide +kernel
example : SD.dDivRev .u128 (5 * B) [0, 2] = .ok [2] := by decide +kernel
example : SD.dDivRev .u64 5 [0, 2] = .ok [] := by decide +kernel
example : SD.dRemAssignScalar .i8 (-128) [128] = .ok 0 := by decide +kernel
example : SD.dRemAssignScalar .i64 (-9223372036854775808) [9223372036854775808] = .ok 0 := by decide +kernel
example : SD.iScalarForm NB.Gen.P .add .bigScalar .i8 ⟨.plus, [128]⟩ (-128) = .ok ⟨.nosign, []⟩ := by decide +kernel
example : SD.iScalarForm NB.Gen.P .sub .scalarBig .u64 ⟨.plus, [0, 1]⟩ 5 = .ok ⟨.minus, [18446744073709551611]⟩ := by
  decide +kernel
example : SD.uScalarForm NB.Gen.P .sub .bigScalar .u8 [254] 255 = .error .underflow := by decide +kernel
example : SD.uScalarForm NB.Gen.P .div .assign .u64 [1, 2, 3] 0 = .error .divzero := by decide +kernel
-- second part: a 65-bit left shift, the negative-amount panic, `-3 >> 1 = -2` (round down), `>>=` to zero,
-- 3^5 by value/reference, (-2)^3, the capacity panic of a BigUint exponent ≥ 2^128, big ∘ big, Sum
example : SD.uShiftForm true [B - 1] 65 = .ok [0, B - 2, 1] := by decide +kernel
example : SD.uShiftForm false [1] (-1) = .error .negshift := by decide +kernel
example : SD.iShiftForm NB.Gen.P false false ⟨.minus, [3]⟩ 1 = .ok ⟨.minus, [2]⟩ := by decide +kernel
example : SD.iShiftForm NB.Gen.P false true ⟨.plus, [3]⟩ 2 = .ok ⟨.nosign, []⟩ := by decide +kernel
example : SD.iShiftForm NB.Gen.P false true ⟨.minus, [3]⟩ (-128) = .error .negshift := by decide +kernel
example : PowD.powPrim NB.Gen.P .rv [3] 5 = .ok [243] := by decide +kernel
example : PowD.bigintPow NB.Gen.P .vv ⟨.minus, [2]⟩ 3 = .ok ⟨.minus, [8]⟩ := by decide +kernel
example : PowD.powBig NB.Gen.P .rr [2] [0, 0, 1] = .error .capacity := by decide +kernel
example : SD.uBinForm NB.Gen.P 2 [0, 1] [1] = .ok [B - 1] := by decide +kernel
example : SD.uBinForm NB.Gen.P 2 [1] [0, 1] = .error .underflow := by decide +kernel
example : SD.iBinForm NB.Gen.P 5 ⟨.minus, [7]⟩ ⟨.plus, [0, 1]⟩ = .ok ⟨.minus, [7]⟩ := by decide +kernel
example : SD.iBinForm NB.Gen.P 6 ⟨.minus, [B - 1]⟩ ⟨.minus, [2]⟩ = .ok ⟨.minus, [0, 1]⟩ := by decide +kernel
example : SD.uCheckedForm NB.Gen.P 4 [5] [] = .ok none := by decide +kernel
example : SD.uIterForm NB.Gen.P true [.big [B - 1], .sc .u8 1, .big [0, 1]] = .ok [0, 2] := by decide +kernel
example : UItemOk (.sc .u8 255) := ⟨rfl, by decide⟩
example : UItemOk (.big [0, 1]) := by show Canon _; decide
example : IItemOk (.sc .i8 (-128)) := by show STy.InRange _ _; decide

end NB
