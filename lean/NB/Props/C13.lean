/-
  C13 — GCD, LCM, Bézout coefficients and multiple-of helpers are exact.

  Model: NB.Model.Gcd (value-level transcription of the gcd family of `impl Integer for BigUint` /
  `impl Integer for BigInt` and of num-integer 0.1.47's default `extended_gcd` loop;
  correspondence-checked against the crate).  Specs are `Nat.gcd`, `Nat.lcm`, `Int.gcd`,
  `Int.lcm`, `∣`, `Int.fmod`.  Every loop takes fuel and the fuel the model passes is proved
  sufficient; every internal panic site of the model (`m -= &n` underflow, division by the gcd,
  `unreachable!()`) is shown unreachable by the equalities below (the result is `.ok …`).

  The `bigint_…` theorems are the same statements for `impl Integer for BigInt`: values in `Int`, specs `Int.gcd`,
  `Int.lcm`, `∣` on `Int`, `Int.fmod`; `next/prev_multiple_of` round towards the sign of `b` as the code does.

  Digit level: NB.Model.GcdD, which is what the driver's model column runs.
  `GcdD.*` mirrors the Rust functions on digit vectors / BigInt records with the digit-level operator
  models (`trailingZerosU`, `biguintShr/Shl`, `cmpSlice`, `subAssign`, `divRef`, `mulRef`, `remRef`,
  `modFloor`, `subRefVal`, `addAssign`, `addAssignU32/subAssignU32`, `BigInt.div/sub/add/modFloor/addU/subU`,
  `bigintMul`, `Core.BigInt.cmp`) and propagates their panics.  The `…D_refines` theorems say that on
  canonical inputs it computes exactly what the value-level model computes on the values (outcome
  for outcome, including every panic), so the specifications above transfer (`…D_spec`).

  Hypotheses that are not "operands canonical":
  * `GcdD.Small a` (`a.length < usize range`, true of every `Vec`): only where `>>`/`<<` are used
    (the gcd family), because `biguint_shr` saturates and `biguint_shl` panics beyond `usize::MAX` digits;
  * `P.ValidMul` (obligation `gen_params_valid_mul`, C02): only where a `*` is used.

  Statements: the property is `gcd_spec`, `lcm_spec`, `gcd_lcm_spec`, `egcd_spec`, `egcd_lcm_spec`,
  `is_multiple_of_spec`, `next_multiple_spec`, `prev_multiple_spec`, `bigint_mod_floor_spec`, their `bigint_…`
  forms and, on digits, the `…D_spec` theorems; `…_char` theorems characterise a result already computed,
  `…_refines`, `…_gen` and `drv_operand_canon…` support the digit-level statements.

  A theorem below that is a one-line term restates, under the name DESIGN.md §4 uses, the lemma of
  NB/Lemmas/Gcd.lean and GcdD.lean it cites; the proofs are there.
-/
import NB.Lemmas.Gcd
import NB.Lemmas.GcdD
import NB.Model.AsmParams
import NB.Drv.C13
namespace NB
open NB.Gcd NB.IntVal

/-- `twos` is the 2-adic valuation -/
theorem twos_valuation {x : Nat} (hx : x ≠ 0) : 2 ^ twos x ∣ x ∧ (x / 2 ^ twos x) % 2 = 1 := twos_spec hx

/-- the loop of Stein's algorithm: for odd `n` and fuel `> m + n` it returns `gcd m n`
    (in particular the in-loop subtraction never underflows and the loop terminates) -/
theorem stein_loop_spec (fuel m n : Nat) (hn : n % 2 = 1) (hf : m + n < fuel) :
    steinLoop fuel m n = .ok (Nat.gcd m n) := steinLoop_spec fuel m n hn hf

/-- `BigUint::gcd` is the greatest common divisor, all operands -/
theorem gcd_spec (a b : Nat) : gcd a b = .ok (Nat.gcd a b) := gcd_ok a b

theorem gcd_zero_cases (a : Nat) : gcd 0 a = .ok a ∧ gcd a 0 = .ok a ∧ gcd 0 0 = .ok 0 := by
  simp [gcd_ok]

/-- `BigUint::lcm`: the division by the gcd never fails -/
theorem lcm_spec (a b : Nat) : lcm a b = .ok (Nat.lcm a b) := lcm_ok a b

/-- `lcm(a,b) = a·b / gcd(a,b)`, and `0` if either operand is `0` -/
theorem lcm_formula (a b : Nat) : Nat.lcm a b = a * b / Nat.gcd a b ∧ Nat.lcm a 0 = 0 ∧ Nat.lcm 0 b = 0 :=
  ⟨rfl, Nat.lcm_zero_right a, Nat.lcm_zero_left b⟩

theorem gcd_lcm_spec (a b : Nat) : gcdLcm a b = .ok (Nat.gcd a b, Nat.lcm a b) := gcdLcm_ok a b

theorem bigint_gcd_spec (a b : Int) : bigintGcd a b = .ok (Int.gcd a b : Int) := by
  simp only [bigintGcd, gcd_ok, ofMag]; rfl

theorem bigint_lcm_spec (a b : Int) : bigintLcm a b = .ok (Int.lcm a b : Int) := by
  simp only [bigintLcm, lcm_ok, ofMag]; rfl

theorem bigint_gcd_lcm_spec (a b : Int) : bigintGcdLcm a b = .ok ((Int.gcd a b : Int), (Int.lcm a b : Int)) := by
  simp only [bigintGcdLcm, gcdLcm_ok, ofMag]; rfl

/-! ### Bézout coefficients (num-integer's default `extended_gcd` on BigInt) -/

/-- loop invariant `a·sᵢ + b·tᵢ = rᵢ`, gcd preserved, `|r.0|` strictly decreasing -/
theorem egcd_loop_spec (a b : Int) (fuel : Nat) (s0 s1 t0 t1 r0 r1 : Int)
    (h0 : a * s0 + b * t0 = r0) (h1 : a * s1 + b * t1 = r1) (hf : r0.natAbs < fuel) :
    ∃ g x y, egcdLoop fuel s0 s1 t0 t1 r0 r1 = .ok (g, x, y) ∧ a * x + b * y = g ∧ g.natAbs = Int.gcd r0 r1 :=
  egcdLoop_spec a b fuel s0 s1 t0 t1 r0 r1 h0 h1 hf

/-- `extended_gcd` returns `(g, x, y)` with `a·x + b·y = g` and `g = gcd(a, b) ≥ 0`, all signs -/
theorem egcd_spec (a b : Int) :
    ∃ g x y, extendedGcd a b = .ok (g, x, y) ∧ a * x + b * y = g ∧ g = (Int.gcd a b : Int) := by
  obtain ⟨x, y, e, h⟩ := extendedGcd_ok a b
  exact ⟨_, x, y, e, h, rfl⟩

/-- `BigInt::extended_gcd_lcm`: same identities plus the lcm -/
theorem egcd_lcm_spec (a b : Int) :
    ∃ g x y l, extendedGcdLcm a b = .ok ((g, x, y), l) ∧ a * x + b * y = g ∧ g = (Int.gcd a b : Int) ∧
      l = (Int.lcm a b : Int) := by
  obtain ⟨x, y, e, h⟩ := extendedGcd_ok a b
  unfold extendedGcdLcm
  rw [e]
  simp only
  by_cases hg : ((Int.gcd a b : Nat) : Int) = 0
  · rw [if_pos hg]
    refine ⟨_, x, y, _, rfl, h, rfl, ?_⟩
    have : Int.gcd a b = 0 := by exact_mod_cast hg
    obtain ⟨rfl, rfl⟩ := Int.gcd_eq_zero_iff.mp this
    simp
  · rw [if_neg hg]
    have hn : Nat.gcd a.natAbs b.natAbs ≠ 0 := by
      intro h0; apply hg; show ((Nat.gcd a.natAbs b.natAbs : Nat) : Int) = 0; rw [h0]; rfl
    have e2 : ((Int.gcd a b : Nat) : Int).natAbs = Nat.gcd a.natAbs b.natAbs := by
      rw [Int.natAbs_natCast]; rfl
    simp only [udiv, e2, hn, if_false, div_gcd_mul, ofMag]
    exact ⟨_, x, y, _, rfl, h, rfl, rfl⟩

/-- `BigUint::is_multiple_of` is divisibility; only zero is a multiple of zero -/
theorem is_multiple_of_spec (a b : Nat) : isMultipleOf a b = .ok (decide (b ∣ a)) := isMultipleOf_ok a b

theorem multiple_of_zero (a : Nat) : isMultipleOf a 0 = .ok (decide (a = 0)) := by
  simp [isMultipleOf]

theorem bigint_is_multiple_of_spec (a b : Int) : bigintIsMultipleOf a b = .ok (decide (b ∣ a)) := by
  unfold bigintIsMultipleOf
  rw [isMultipleOf_ok]
  congr 1
  exact decide_eq_decide.mpr Int.natAbs_dvd_natAbs

theorem bigint_multiple_of_zero (a : Int) : bigintIsMultipleOf a 0 = .ok (decide (a = 0)) := by
  rw [bigint_is_multiple_of_spec]
  congr 1
  exact decide_eq_decide.mpr Int.zero_dvd

/-- `BigUint::next_multiple_of`: panics (division by zero) iff `b = 0`; otherwise the least multiple `≥ a` -/
theorem next_multiple_spec (a b : Nat) :
    nextMultipleOf a b = if b = 0 then .error .divzero else .ok ((a + b - 1) / b * b) := by
  unfold nextMultipleOf umod usub
  by_cases hb : b = 0
  · rw [if_pos hb, if_pos hb]
  · have hlt := Nat.mod_lt a (Nat.pos_of_ne_zero hb)
    simp only [hb, if_false, Nat.lt_asymm hlt, ceil_mul_eq a (Nat.pos_of_ne_zero hb)]
    by_cases hm : a % b = 0
    · rw [if_pos hm, if_pos hm]
    · rw [if_neg hm, if_neg hm]

/-- characterisation: the result is the least multiple of `b` that is `≥ a` -/
theorem next_multiple_char (a b : Nat) (hb : b ≠ 0) :
    b ∣ (a + b - 1) / b * b ∧ a ≤ (a + b - 1) / b * b ∧ (a + b - 1) / b * b < a + b := by
  refine ⟨Nat.dvd_mul_left _ _, ?_⟩
  rw [ceil_mul_eq a (Nat.pos_of_ne_zero hb)]
  by_cases hm : a % b = 0
  · rw [if_pos hm]; exact ⟨Nat.le_refl a, Nat.lt_add_of_pos_right (Nat.pos_of_ne_zero hb)⟩
  · rw [if_neg hm]
    exact ⟨Nat.le_add_right _ _, Nat.add_lt_add_left (Nat.sub_lt (Nat.pos_of_ne_zero hb) (Nat.pos_of_ne_zero hm)) a⟩

/-- `BigUint::prev_multiple_of`: panics iff `b = 0` (and never underflows); otherwise the greatest multiple `≤ a` -/
theorem prev_multiple_spec (a b : Nat) :
    prevMultipleOf a b = if b = 0 then .error .divzero else .ok (a / b * b) := by
  unfold prevMultipleOf umod usub
  by_cases hb : b = 0
  · rw [if_pos hb, if_pos hb]
  · simp only [hb, if_false, Nat.not_lt.mpr (Nat.mod_le a b), Nat.div_mul_self_eq_mod_sub_self]

theorem prev_multiple_char (a b : Nat) (hb : b ≠ 0) : b ∣ a / b * b ∧ a / b * b ≤ a ∧ a < a / b * b + b :=
  ⟨Nat.dvd_mul_left _ _, Nat.div_mul_le_self a b, Nat.lt_div_mul_add (Nat.pos_of_ne_zero hb)⟩

/-- `BigInt::mod_floor` (as coded: magnitude remainder, sign table, `other - m`) is `Int.fmod` -/
theorem bigint_mod_floor_spec (a b : Int) :
    bigintModFloor a b = if b = 0 then .error .divzero else .ok (Int.fmod a b) := by
  by_cases hb : b = 0
  · subst hb; rw [if_pos rfl]; exact bigintModFloor_zero a
  · rw [if_neg hb]; exact bigintModFloor_ok a hb

/-- `BigInt::next_multiple_of` as coded: `a + ((-a) fmod b)` — the nearest multiple of `b` at or above
    `a` for `b > 0`, at or below `a` for `b < 0`; panics iff `b = 0` -/
theorem bigint_next_multiple_spec (a b : Int) :
    bigintNextMultipleOf a b = if b = 0 then .error .divzero else .ok (a + Int.fmod (-a) b) := by
  unfold bigintNextMultipleOf
  rw [bigint_mod_floor_spec]
  by_cases hb : b = 0
  · rw [if_pos hb, if_pos hb]
  · simp only [hb, if_false, fmod_neg_left a hb]
    by_cases h0 : Int.fmod a b = 0
    · rw [if_pos h0, if_pos h0, Int.add_zero]
    · rw [if_neg h0, if_neg h0]

theorem bigint_next_multiple_char (a b : Int) (hb : b ≠ 0) :
    b ∣ a + Int.fmod (-a) b ∧ (0 < b → a ≤ a + Int.fmod (-a) b ∧ a + Int.fmod (-a) b < a + b) ∧
    (b < 0 → a + b < a + Int.fmod (-a) b ∧ a + Int.fmod (-a) b ≤ a) := by
  obtain ⟨-, h2, h3⟩ := fmod_decomp (-a) b
  exact ⟨⟨- Int.fdiv (-a) b, by rw [Int.fmod_def]; ring⟩,
    fun h => ⟨Int.le_add_of_nonneg_right (h2 h).1, Int.add_lt_add_left (h2 h).2 a⟩,
    fun h => ⟨Int.add_lt_add_left (h3 h).1 a, by simpa using Int.add_le_add_left (h3 h).2 a⟩⟩

/-- `BigInt::prev_multiple_of` as coded: `a - (a fmod b)`; panics iff `b = 0` -/
theorem bigint_prev_multiple_spec (a b : Int) :
    bigintPrevMultipleOf a b = if b = 0 then .error .divzero else .ok (a - Int.fmod a b) := by
  unfold bigintPrevMultipleOf
  rw [bigint_mod_floor_spec]
  by_cases hb : b = 0
  · rw [if_pos hb, if_pos hb]
  · rw [if_neg hb, if_neg hb]

theorem bigint_prev_multiple_char (a b : Int) (hb : b ≠ 0) :
    b ∣ a - Int.fmod a b ∧ (0 < b → a - b < a - Int.fmod a b ∧ a - Int.fmod a b ≤ a) ∧
    (b < 0 → a ≤ a - Int.fmod a b ∧ a - Int.fmod a b < a - b) := by
  obtain ⟨-, h2, h3⟩ := fmod_decomp a b
  exact ⟨⟨Int.fdiv a b, by rw [Int.fmod_def, sub_sub_cancel]⟩,
    fun h => ⟨sub_lt_sub_left (h2 h).2 a, sub_le_self a (h2 h).1⟩,
    fun h => ⟨(le_sub_self_iff a).mpr (h3 h).2, sub_lt_sub_left (h3 h).1 a⟩⟩

/-- `is_even` (first digit only) is the parity of the value -/
theorem is_even_spec (ds : List Nat) : isEven ds = decide (val ds % 2 = 0) := isEven_ok ds

theorem is_odd_spec (ds : List Nat) : isOdd ds = decide (val ds % 2 = 1) := isOdd_ok ds

theorem inc_spec (a : Nat) : inc a = .ok (a + 1) := rfl

/-- `dec` on BigUint zero is the subtraction-underflow panic -/
theorem dec_spec (a : Nat) : dec a = if a = 0 then .error .underflow else .ok (a - 1) := by
  unfold dec usub
  by_cases h : a = 0
  · rw [if_pos h, if_pos (by rw [h]; exact Nat.one_pos)]
  · rw [if_neg h, if_neg (Nat.not_lt.mpr (Nat.pos_of_ne_zero h))]

theorem bigint_inc_dec_spec (a : Int) : bigintInc a = .ok (a + 1) ∧ bigintDec a = .ok (a - 1) := ⟨rfl, rfl⟩

/-- trailing zeros on the digits = the 2-adic valuation used by the value-level model -/
theorem twosD_spec (a : List Nat) (ha : Canon a) : GcdD.twos a = twos (val a) := GcdD.twos_eq ha.1

/-- the digit-level Stein loop refines the value-level loop step for step, for every fuel -/
theorem steinLoopD_refines (P : Params) (fuel : Nat) (m n : List Nat) (hm : Canon m) (hn : Canon n)
    (hsm : GcdD.Small m) (hsn : GcdD.Small n) :
    GcdD.steinLoop P fuel m n = (steinLoop fuel (val m) (val n)).map ofNat :=
  canon_lift₂_of (p := GcdD.Small) (GcdD.steinLoop_ofNat P fuel) hm hn hsm hsn

theorem gcdD_refines (P : Params) (a b : List Nat) (ha : Canon a) (hb : Canon b)
    (hsa : GcdD.Small a) (hsb : GcdD.Small b) :
    GcdD.gcd P a b = (gcd (val a) (val b)).map ofNat := GcdD.gcd_refines P a b ha hb hsa hsb

/-- digit-level `BigUint::gcd`: the canonical digits of `Nat.gcd`; no operator panics, the loop terminates -/
theorem gcdD_spec (P : Params) (a b : List Nat) (ha : Canon a) (hb : Canon b)
    (hsa : GcdD.Small a) (hsb : GcdD.Small b) :
    GcdD.gcd P a b = .ok (ofNat (Nat.gcd (val a) (val b))) := by
  rw [gcdD_refines P a b ha hb hsa hsb, gcd_ok]; rfl

theorem lcmD_refines (P : Params) (hP : P.ValidMul) (a b : List Nat) (ha : Canon a) (hb : Canon b)
    (hsa : GcdD.Small a) (hsb : GcdD.Small b) :
    GcdD.lcm P a b = (lcm (val a) (val b)).map ofNat :=
  canon_lift₂_of (p := GcdD.Small) (GcdD.lcm_ofNat P hP) ha hb hsa hsb

/-- digit-level `BigUint::lcm`: the canonical digits of `Nat.lcm` -/
theorem lcmD_spec (P : Params) (hP : P.ValidMul) (a b : List Nat) (ha : Canon a) (hb : Canon b)
    (hsa : GcdD.Small a) (hsb : GcdD.Small b) :
    GcdD.lcm P a b = .ok (ofNat (Nat.lcm (val a) (val b))) := by
  rw [lcmD_refines P hP a b ha hb hsa hsb, lcm_ok]; rfl

theorem gcdLcmD_spec (P : Params) (hP : P.ValidMul) (a b : List Nat) (ha : Canon a) (hb : Canon b)
    (hsa : GcdD.Small a) (hsb : GcdD.Small b) :
    GcdD.gcdLcm P a b = .ok (ofNat (Nat.gcd (val a) (val b)), ofNat (Nat.lcm (val a) (val b))) := by
  rw [canon_lift₂_of (p := GcdD.Small) (GcdD.gcdLcm_ofNat P hP) ha hb hsa hsb, gcdLcm_ok]; rfl

/-- digit-level `is_multiple_of` (through `%` with its `to_u32` fast path) is divisibility -/
theorem is_multiple_ofD_spec (P : Params) (a b : List Nat) (ha : Canon a) (hb : Canon b) :
    GcdD.isMultipleOf P a b = .ok (decide (val b ∣ val a)) := by
  rw [canon_lift₂ (GcdD.isMultipleOf_ofNat P) ha hb, isMultipleOf_ok]

theorem next_multipleD_refines (P : Params) (a b : List Nat) (ha : Canon a) (hb : Canon b) :
    GcdD.nextMultipleOf P a b = (nextMultipleOf (val a) (val b)).map ofNat :=
  canon_lift₂ (GcdD.nextMultipleOf_ofNat P) ha hb

/-- digit-level `next_multiple_of`: division-by-zero panic iff `b = 0`, else the least multiple `≥ a` -/
theorem next_multipleD_spec (P : Params) (a b : List Nat) (ha : Canon a) (hb : Canon b) :
    GcdD.nextMultipleOf P a b =
      if val b = 0 then .error .divzero else .ok (ofNat ((val a + val b - 1) / val b * val b)) := by
  rw [next_multipleD_refines P a b ha hb, next_multiple_spec]
  split <;> rfl

theorem prev_multipleD_refines (P : Params) (a b : List Nat) (ha : Canon a) (hb : Canon b) :
    GcdD.prevMultipleOf P a b = (prevMultipleOf (val a) (val b)).map ofNat :=
  canon_lift₂ (GcdD.prevMultipleOf_ofNat P) ha hb

theorem prev_multipleD_spec (P : Params) (a b : List Nat) (ha : Canon a) (hb : Canon b) :
    GcdD.prevMultipleOf P a b =
      if val b = 0 then .error .divzero else .ok (ofNat (val a / val b * val b)) := by
  rw [prev_multipleD_refines P a b ha hb, prev_multiple_spec]
  split <;> rfl

theorem incD_spec (P : Params) (a : List Nat) (ha : Canon a) : GcdD.inc P a = .ok (ofNat (val a + 1)) :=
  canon_lift (GcdD.inc_ofNat P) ha

theorem decD_spec (P : Params) (a : List Nat) (ha : Canon a) :
    GcdD.dec P a = if val a = 0 then .error .underflow else .ok (ofNat (val a - 1)) := by
  rw [canon_lift (GcdD.dec_ofNat P) ha, dec_spec]
  split <;> rfl

theorem bigint_gcdD_spec (P : Params) (a b : BigInt) (ha : a.Canon) (hb : b.Canon)
    (hsa : GcdD.Small a.mag) (hsb : GcdD.Small b.mag) :
    GcdD.bigintGcd P a b = .ok (BigInt.ofInt (Int.gcd a.val b.val : Int)) := by
  rw [bigint_lift₂_of (p := fun x => GcdD.Small x.mag) (GcdD.bigintGcd_ofInt P) ha hb hsa hsb, bigint_gcd_spec]; rfl

theorem bigint_lcmD_spec (P : Params) (hP : P.ValidMul) (a b : BigInt) (ha : a.Canon) (hb : b.Canon)
    (hsa : GcdD.Small a.mag) (hsb : GcdD.Small b.mag) :
    GcdD.bigintLcm P a b = .ok (BigInt.ofInt (Int.lcm a.val b.val : Int)) := by
  rw [bigint_lift₂_of (p := fun x => GcdD.Small x.mag) (GcdD.bigintLcm_ofInt P hP) ha hb hsa hsb, bigint_lcm_spec]; rfl

theorem bigint_gcd_lcmD_spec (P : Params) (hP : P.ValidMul) (a b : BigInt) (ha : a.Canon) (hb : b.Canon)
    (hsa : GcdD.Small a.mag) (hsb : GcdD.Small b.mag) :
    GcdD.bigintGcdLcm P a b =
      .ok (BigInt.ofInt (Int.gcd a.val b.val : Int), BigInt.ofInt (Int.lcm a.val b.val : Int)) := by
  rw [bigint_lift₂_of (p := fun x => GcdD.Small x.mag) (GcdD.bigintGcdLcm_ofInt P hP) ha hb hsa hsb, bigint_gcd_lcm_spec]; rfl

/-- the digit-level Euclid loop (BigInt `/ * -` through `BigInt.div`, `bigintMul`, `BigInt.sub`) refines
    the value-level loop for every fuel and every state -/
theorem egcdLoopD_refines (P : Params) (hP : P.ValidMul) (fuel : Nat) (s0 s1 t0 t1 r0 r1 : BigInt)
    (h1 : s0.Canon) (h2 : s1.Canon) (h3 : t0.Canon) (h4 : t1.Canon) (h5 : r0.Canon) (h6 : r1.Canon) :
    GcdD.egcdLoop P fuel s0 s1 t0 t1 r0 r1 =
      (egcdLoop fuel s0.val s1.val t0.val t1.val r0.val r1.val).map GcdD.ofInt3 := by
  have e := GcdD.egcdLoop_ofInt P hP fuel s0.val s1.val t0.val t1.val r0.val r1.val
  rwa [← bigint_canon_eq_ofInt h1, ← bigint_canon_eq_ofInt h2, ← bigint_canon_eq_ofInt h3,
    ← bigint_canon_eq_ofInt h4, ← bigint_canon_eq_ofInt h5, ← bigint_canon_eq_ofInt h6] at e

theorem egcdD_refines (P : Params) (hP : P.ValidMul) (a b : BigInt) (ha : a.Canon) (hb : b.Canon) :
    GcdD.extendedGcd P a b = (extendedGcd a.val b.val).map GcdD.ofInt3 :=
  bigint_lift₂ (GcdD.extendedGcd_ofInt P hP) ha hb

/-- digit-level `extended_gcd` on BigInt: canonical `(g, x, y)` with `a·x + b·y = g = gcd(a, b) ≥ 0`;
    no operator panics (in particular no division by zero), the loop terminates -/
theorem egcdD_spec (P : Params) (hP : P.ValidMul) (a b : BigInt) (ha : a.Canon) (hb : b.Canon) :
    ∃ g x y, GcdD.extendedGcd P a b = .ok (g, x, y) ∧ g.Canon ∧ x.Canon ∧ y.Canon ∧
      a.val * x.val + b.val * y.val = g.val ∧ g.val = (Int.gcd a.val b.val : Int) := by
  obtain ⟨g, x, y, e, h1, h2⟩ := egcd_spec a.val b.val
  refine ⟨BigInt.ofInt g, BigInt.ofInt x, BigInt.ofInt y, ?_, bigint_ofInt_canon _, bigint_ofInt_canon _,
    bigint_ofInt_canon _, ?_, ?_⟩
  · rw [egcdD_refines P hP a b ha hb, e]; rfl
  · simp only [bigint_ofInt_val]; exact h1
  · simp only [bigint_ofInt_val]; exact h2

theorem egcd_lcmD_spec (P : Params) (hP : P.ValidMul) (a b : BigInt) (ha : a.Canon) (hb : b.Canon) :
    ∃ g x y l, GcdD.extendedGcdLcm P a b = .ok ((g, x, y), l) ∧ g.Canon ∧ x.Canon ∧ y.Canon ∧
      a.val * x.val + b.val * y.val = g.val ∧ g.val = (Int.gcd a.val b.val : Int) ∧
      l = BigInt.ofInt (Int.lcm a.val b.val : Int) := by
  obtain ⟨g, x, y, l, e, h1, h2, h3⟩ := egcd_lcm_spec a.val b.val
  refine ⟨BigInt.ofInt g, BigInt.ofInt x, BigInt.ofInt y, BigInt.ofInt l, ?_, bigint_ofInt_canon _,
    bigint_ofInt_canon _, bigint_ofInt_canon _, ?_, ?_, ?_⟩
  · rw [bigint_lift₂ (GcdD.extendedGcdLcm_ofInt P hP) ha hb, e]; rfl
  · simp only [bigint_ofInt_val]; exact h1
  · simp only [bigint_ofInt_val]; exact h2
  · rw [h3]

theorem bigint_is_multiple_ofD_spec (P : Params) (a b : BigInt) (ha : a.Canon) (hb : b.Canon) :
    GcdD.bigintIsMultipleOf P a b = .ok (decide (b.val ∣ a.val)) := by
  rw [bigint_lift₂ (GcdD.bigintIsMultipleOf_ofInt P) ha hb, bigint_is_multiple_of_spec]

/-- digit-level `BigInt::next_multiple_of` (`mod_floor`, `other - m`, `self + …` on BigInt records) -/
theorem bigint_next_multipleD_spec (P : Params) (a b : BigInt) (ha : a.Canon) (hb : b.Canon) :
    GcdD.bigintNextMultipleOf P a b =
      if b.val = 0 then .error .divzero else .ok (BigInt.ofInt (a.val + Int.fmod (-a.val) b.val)) := by
  rw [bigint_lift₂ (GcdD.bigintNextMultipleOf_ofInt P) ha hb, bigint_next_multiple_spec]
  split <;> rfl

theorem bigint_prev_multipleD_spec (P : Params) (a b : BigInt) (ha : a.Canon) (hb : b.Canon) :
    GcdD.bigintPrevMultipleOf P a b =
      if b.val = 0 then .error .divzero else .ok (BigInt.ofInt (a.val - Int.fmod a.val b.val)) := by
  rw [bigint_lift₂ (GcdD.bigintPrevMultipleOf_ofInt P) ha hb, bigint_prev_multiple_spec]
  split <;> rfl

theorem bigint_inc_decD_spec (P : Params) (a : BigInt) (ha : a.Canon) :
    GcdD.bigintInc P a = .ok (BigInt.ofInt (a.val + 1)) ∧ GcdD.bigintDec P a = .ok (BigInt.ofInt (a.val - 1)) := by
  rw [bigint_lift (GcdD.bigintInc_ofInt P) ha, bigint_lift (GcdD.bigintDec_ofInt P) ha]
  exact ⟨rfl, rfl⟩

/-- instantiations at the parameters extracted from the source -/
theorem lcmD_spec_gen (a b : List Nat) (ha : Canon a) (hb : Canon b) (hsa : GcdD.Small a) (hsb : GcdD.Small b) :
    GcdD.lcm NB.Gen.P a b = .ok (ofNat (Nat.lcm (val a) (val b))) :=
  lcmD_spec NB.Gen.P gen_params_valid_mul a b ha hb hsa hsb

theorem egcdD_spec_gen (a b : BigInt) (ha : a.Canon) (hb : b.Canon) :
    ∃ g x y, GcdD.extendedGcd NB.Gen.P a b = .ok (g, x, y) ∧ g.Canon ∧ x.Canon ∧ y.Canon ∧
      a.val * x.val + b.val * y.val = g.val ∧ g.val = (Int.gcd a.val b.val : Int) :=
  egcdD_spec NB.Gen.P gen_params_valid_mul a b ha hb

/-- every operand the driver hands to the digit-level model is canonical (it normalises exactly like the
    harness's constructors `BigUint::new` / `BigInt::from_biguint`), so the `…D_spec` theorems apply to
    every evaluation of the driver's model column -/
theorem drv_operand_canon_c13 (s : String) (a : List Nat) (h : NB.Drv.C13.pU s = some a) : Canon a :=
  checked_normalize_canon h

theorem drv_operand_canon_i_c13 (s : String) (x : BigInt) (h : NB.Drv.C13.pI s = some x) : x.Canon :=
  checked_fromBiguint_canon h

/-! ### non-vacuity / concrete evaluations of the model -/

example : gcd 48 180 = .ok 12 := by decide +kernel
example : gcd (3 * 2 ^ 70) (5 * 2 ^ 67) = .ok (2 ^ 67) := by decide +kernel
example : extendedGcd 240 (-46) = .ok (2, -9, -47) := by decide +kernel
example : (240 : Int) * (-9) + (-46) * (-47) = 2 := by decide
example : bigintNextMultipleOf 23 (-8) = .ok 16 := by decide +kernel
example : bigintModFloor (-7) 3 = .ok 2 := by decide +kernel

/-! ### non-vacuity of the digit-level layer: concrete evaluations at the generated parameters -/

example : GcdD.Small [0, 0, 3] ∧ Canon [0, 0, 3] := by
  unfold GcdD.Small; decide
example : GcdD.gcd NB.Gen.P [0, 12] [0, 0, 18] = .ok [0, 12] := by decide +kernel
example : GcdD.gcd NB.Gen.P [6, 12] [0, 9] = .ok [18] := by decide +kernel
example : GcdD.lcm NB.Gen.P [4] [6] = .ok [12] := by decide +kernel
example : GcdD.extendedGcd NB.Gen.P ⟨.plus, [240]⟩ ⟨.minus, [46]⟩ = .ok (⟨.plus, [2]⟩, ⟨.minus, [9]⟩, ⟨.minus, [47]⟩) := by
  decide +kernel
example : GcdD.bigintNextMultipleOf NB.Gen.P ⟨.plus, [23]⟩ ⟨.minus, [8]⟩ = .ok ⟨.plus, [16]⟩ := by decide +kernel
example : GcdD.dec NB.Gen.P [] = .error .underflow := by decide +kernel

end NB
