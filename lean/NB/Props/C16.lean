/-
  C16 — all documented feature configurations build and compute identical results.

  The part that is logic: no model function takes a feature/configuration parameter — the model is
  configuration-free by construction — so two configurations can only differ where the Rust
  source is `cfg(feature = …)`-conditional.  There are exactly two such computations:
    (1) `Vec::with_capacity` estimates in radix output (biguint/convert.rs) — capacity is not an
        input of any model function (and not observable through the API);
    (2) the initial guess of the Newton iteration for roots (f64-based with `std`, bit-length
        based without) — handled by C11's theorem that the result is the floor root for EVERY
        initial guess ≥ 1 (`roots_same_in_std_and_no_std` below).
  Compile success and transcript identity are observed by tools/special.py (c16_special).
  Statements: `documented_count` and `roots_same_in_std_and_no_std`.
-/
import NB.Props.C11
namespace NB
open NB.Roots NB.IntVal

/-- configurations as the CI script enumerates them -/
structure FeatureSet where
  std : Bool
  rand : Bool
  serde : Bool
  quickcheck : Bool
  arbitrary : Bool
  deriving DecidableEq, Repr

/-- std-only features are excluded without std (ci/test_full.sh) -/
def FeatureSet.Documented (f : FeatureSet) : Prop := f.std = true ∨ (f.quickcheck = false ∧ f.arbitrary = false)
instance (f : FeatureSet) : Decidable f.Documented := by unfold FeatureSet.Documented; infer_instance

def allFeatureSets : List FeatureSet :=
  [true, false].flatMap fun s => [true, false].flatMap fun r => [true, false].flatMap fun se =>
    [true, false].flatMap fun q => [true, false].map fun a => ⟨s, r, se, q, a⟩

/-- the documented configuration set has exactly the 20 members the check enumerates -/
theorem documented_count : (allFeatureSets.filter (fun f => decide f.Documented)).length = 20 := by decide +kernel

/-- the only feature-conditional *computation* that can influence a result: the initial guess of the
    root iteration.  With `std` the guess comes from an f64 evaluation (any evaluator satisfying
    `F64.Valid`), without it from the bit length; the three root functions return the same outcome
    in both configurations, for every operand and degree (restated from C11). -/
theorem roots_same_in_std_and_no_std {Fl : F64} (hF : Fl.Valid) (d x n : Nat) (hd : 2 ≤ d) :
    nthRootG (stdSrc Fl d) x n = nthRootG nostdSrc x n ∧ sqrtG (stdSrc Fl d) x = sqrtG nostdSrc x ∧
    cbrtG (stdSrc Fl d) x = cbrtG nostdSrc x :=
  root_config_independent hF d x n hd

end NB
