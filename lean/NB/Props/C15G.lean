/-
  C15 (generic part) — soundness of the checker `NB.Asm.checkLoop` (NB.Model.AsmCheck) for every
  instruction list of the subset of NB.Model.AsmDefs, under the mini x86 semantics of NB.Model.Asm:
  one instruction, one iteration of an accepted body, the loop by induction over the iterations, the
  whole routine, and the list-level statement in the terms of the Rust wrapper
  (`Asm.call prog regs d a b size` with `size /= d`).  No program text occurs in this file;
  NB.Props.C15 instantiates it with the generated programs by two `by decide` facts.
-/
import NB.Lemmas.Asm
import NB.Model.AsmCheck
namespace NB.Asm

/-- one iteration: digit operation, memories / CF / `idx` / `size` at the loop label, unroll factor -/
structure Ctx where
  op : Bool → Nat → Nat → Nat × Bool
  a0 : Nat → Nat
  b0 : Nat → Nat
  cf0 : Bool
  i : Nat
  n0 : Nat
  w : Nat

/-- carry entering chain position `t` -/
def Ctx.cy (X : Ctx) (t : Nat) : Bool := (chainG X.op X.a0 X.b0 X.cf0 X.i t).2
/-- result digit of chain position `t` -/
def Ctx.rs (X : Ctx) (t : Nat) : Nat := (X.op (X.cy t) (X.a0 (X.i + t)) (X.b0 (X.i + t))).1

theorem Ctx.cy_succ (X : Ctx) (t : Nat) :
    X.cy (t + 1) = (X.op (X.cy t) (X.a0 (X.i + t)) (X.b0 (X.i + t))).2 := rfl

/-- concrete register value `x` is described by the symbolic value -/
def Sat (X : Ctx) : SVal → Nat → Prop
  | .unk, _ => True
  | .idx c, x => x = X.i + c
  | .size0, x => x = X.n0
  | .size1, x => x = (X.n0 + B - 1) % B
  | .aDig t, x => x = X.a0 (X.i + t)
  | .bDig t, x => x = X.b0 (X.i + t)
  | .res t, x => x = X.rs t

/-- the symbolic state `σ` describes the concrete state `s` -/
structure Inv (X : Ctx) (σ : Sym) (s : St) : Prop where
  regs : ∀ r, Sat X (σ.regs r) (s.regs r)
  cf : ∀ t, σ.cf = .chain t → s.cf = X.cy t
  zf : σ.zfOk = true → s.zf = decide ((X.n0 + B - 1) % B = 0)
  b : s.b = X.b0
  wrT : ∀ p, σ.wr p = true → p < X.w ∧ s.a (X.i + p) = X.rs p
  wrF : ∀ p, σ.wr p = false → s.a (X.i + p) = X.a0 (X.i + p)
  out : ∀ j, (j < X.i ∨ X.i + X.w ≤ j) → s.a j = X.a0 j

theorem sat_upd {X : Ctx} {σr : Nat → SVal} {sr : Nat → Nat} (h : ∀ r, Sat X (σr r) (sr r))
    (r : Nat) {v : SVal} {x : Nat} (hv : Sat X v x) : ∀ r', Sat X (updS σr r v r') (upd sr r x r') := by
  intro r'
  unfold updS upd
  by_cases e : r' = r
  · simp only [e, if_true]; exact hv
  · simp only [e, if_false]; exact h r'

theorem sat_unk (X : Ctx) (x : Nat) : Sat X .unk x := trivial

section step
variable {X : Ctx} {R : Regs} {la lb : Nat} {σ σ' : Sym} {s : St}

theorem symAddr_sound {idxr off p : Nat} (h : symAddr σ X.w idxr off = some p) (hinv : Inv X σ s) :
    s.regs idxr + off = X.i + p ∧ p < X.w := by
  unfold symAddr at h
  split at h
  · rename_i c hc
    split at h
    · rename_i hlt
      obtain rfl := Option.some.inj h
      have hs : s.regs idxr = X.i + c := by have := hinv.regs idxr; rwa [hc] at this
      exact ⟨by omega, hlt⟩
    · cases h
  · cases h

theorem symRead_sound {base idxr off : Nat} {v : SVal} (h : symRead R σ X.w base idxr off = some v)
    (hinv : Inv X σ s) (hla : X.i + X.w ≤ la) (hlb : X.i + X.w ≤ lb) :
    ∃ y, rd ⟨R.a, R.b, la, lb⟩ s base (s.regs idxr + off) = some y ∧ Sat X v y := by
  unfold symRead at h
  cases ha : symAddr σ X.w idxr off with
  | none => rw [ha] at h; cases h
  | some p =>
    rw [ha] at h
    obtain ⟨e, hp⟩ := symAddr_sound ha hinv
    rw [e, rd]
    dsimp only at h ⊢
    split at h
    · rename_i hb1
      obtain rfl := Option.some.inj h
      rw [if_pos hb1, if_pos (show X.i + p < la by omega)]
      refine ⟨_, rfl, ?_⟩
      split
      · rename_i hw; exact (hinv.wrT p hw).2
      · rename_i hw; exact hinv.wrF p (Bool.eq_false_iff.mpr hw)
    · rename_i hb1
      split at h
      · rename_i hb2
        obtain rfl := Option.some.inj h
        rw [if_neg hb1, if_pos hb2, if_pos (show X.i + p < lb by omega)]
        exact ⟨_, rfl, congrFun hinv.b _⟩
      · cases h

/-- register write that touches no flag -/
theorem inv_setReg (hinv : Inv X σ s) (r : Nat) {v : SVal} {x : Nat} (hv : Sat X v x) :
    Inv X { σ with regs := updS σ.regs r v } { s with regs := upd s.regs r x } :=
  ⟨sat_upd hinv.regs r hv, hinv.cf, hinv.zf, hinv.b, hinv.wrT, hinv.wrF, hinv.out⟩

theorem symSet_sound {dst : Nat} {v : SVal} (h : symSet R σ dst v = some σ') (hinv : Inv X σ s)
    {x : Nat} (hv : Sat X v x) :
    ¬ (dst = R.a ∨ dst = R.b) ∧ Inv X σ' { s with regs := upd s.regs dst x } := by
  unfold symSet at h
  split at h
  · simp at h
  · rename_i hp
    simp only [Option.some.injEq] at h
    subst h
    exact ⟨hp, inv_setReg hinv dst hv⟩

/-- the chain step on the concrete side: `dst := op(cf, dst, y)` -/
theorem symChain_sound {isSub : Bool} {dst : Nat} {sv : SVal} {y : Nat}
    (hop : X.op = opOf isSub)
    (h : symChain isSub R σ dst sv = some σ') (hinv : Inv X σ s) (hy : Sat X sv y) (zf' : Bool) :
    ¬ (dst = R.a ∨ dst = R.b) ∧
    Inv X σ' { s with regs := upd s.regs dst (opOf isSub s.cf (s.regs dst) y).1,
                      cf := (opOf isSub s.cf (s.regs dst) y).2, zf := zf' } := by
  unfold symChain at h
  split at h
  · simp at h
  rename_i hp
  refine ⟨hp, ?_⟩
  cases hc : σ.cf with
  | clob => rw [hc] at h; simp at h
  | chain t =>
    rw [hc] at h
    simp only at h
    split at h
    · rename_i hcond
      simp only [Option.some.injEq] at h
      subst h
      have hcf := hinv.cf t hc
      have hd := hinv.regs dst
      -- the concrete operation is the chain operation of position t
      have key : opOf isSub s.cf (s.regs dst) y = X.op (X.cy t) (X.a0 (X.i + t)) (X.b0 (X.i + t)) := by
        rw [hop, hcf]
        rcases hcond with ⟨h1, h2⟩ | ⟨h0, h1, h2⟩
        · rw [h1] at hd; rw [h2] at hy
          simp only [Sat] at hd hy
          rw [hd, hy]
        · rw [h1] at hd; rw [h2] at hy
          simp only [Sat] at hd hy
          rw [hd, hy, h0]
          simp only [opOf, Bool.false_eq_true, if_false, adcI]
          rw [Nat.add_comm (X.b0 (X.i + t)) (X.a0 (X.i + t))]
      rw [key]
      refine ⟨sat_upd hinv.regs dst (by simp only [Sat, Ctx.rs]), ?_, ?_, hinv.b, hinv.wrT, hinv.wrF, hinv.out⟩
      · intro t' ht'
        simp only [SCF.chain.injEq] at ht'
        subst ht'
        exact (X.cy_succ t).symm
      · intro hz; simp at hz
    · simp at h

theorem doAdc_eq (k : Cfg) (s : St) (dst y : Nat) (hp : ¬ (dst = k.aReg ∨ dst = k.bReg)) :
    doAdc k s dst y = some { s with regs := upd s.regs dst (adcI s.cf (s.regs dst) y).1,
                                    cf := (adcI s.cf (s.regs dst) y).2,
                                    zf := decide ((adcI s.cf (s.regs dst) y).1 = 0) } := by
  unfold doAdc
  simp only [hp, if_false, adcI]
  rfl

theorem doSbb_eq (k : Cfg) (s : St) (dst y : Nat) (hp : ¬ (dst = k.aReg ∨ dst = k.bReg)) :
    doSbb k s dst y = some { s with regs := upd s.regs dst (sbbI s.cf (s.regs dst) y).1,
                                    cf := (sbbI s.cf (s.regs dst) y).2,
                                    zf := decide ((sbbI s.cf (s.regs dst) y).1 = 0) } := by
  unfold doSbb
  simp only [hp, if_false, sbbI]
  rfl

/-- register write together with a ZF write -/
theorem inv_setReg_zf (hinv : Inv X σ s) (r : Nat) {v : SVal} {x : Nat} (hv : Sat X v x) (z : Bool) :
    Inv X { σ with regs := updS σ.regs r v, zfOk := false } { s with regs := upd s.regs r x, zf := z } :=
  ⟨sat_upd hinv.regs r hv, hinv.cf, fun hz => by simp at hz, hinv.b, hinv.wrT, hinv.wrF, hinv.out⟩

/-- register write together with a CF and ZF write -/
theorem inv_setReg_clob (hinv : Inv X σ s) (r : Nat) {v : SVal} {x : Nat} (hv : Sat X v x) (c z : Bool) :
    Inv X { σ with regs := updS σ.regs r v, cf := .clob, zfOk := false }
          { s with regs := upd s.regs r x, cf := c, zf := z } :=
  ⟨sat_upd hinv.regs r hv, fun t ht => by simp at ht, fun hz => by simp at hz, hinv.b, hinv.wrT, hinv.wrF, hinv.out⟩

/-- `idx` advanced by `d` stays inside the block, so the 64-bit addition does not wrap -/
theorem sat_idx_add (hinv : Inv X σ s) {r c d : Nat} (hc : σ.regs r = .idx c) (hcw : c + d ≤ X.w)
    (hla : X.i + X.w ≤ la) (hB : la < B) : Sat X (.idx (c + d)) ((s.regs r + d) % B) := by
  have hs : s.regs r = X.i + c := by have := hinv.regs r; rwa [hc] at this
  show _ = X.i + (c + d)
  rw [hs, Nat.mod_eq_of_lt (by omega)]
  omega

/-- storing result digit `p` at `a[i+p]` -/
theorem inv_store (hinv : Inv X σ s) {src p : Nat} (hsrc : σ.regs src = .res p) (hp : p < X.w) :
    Inv X { σ with wr := updB σ.wr p true } { s with a := upd s.a (X.i + p) (s.regs src) } := by
  have hs : s.regs src = X.rs p := by have := hinv.regs src; rwa [hsrc] at this
  refine ⟨hinv.regs, hinv.cf, hinv.zf, hinv.b, fun q hq => ?_, fun q hq => ?_, fun j hj => ?_⟩
  · by_cases e : q = p
    · subst e; exact ⟨hp, (upd_same _ _ _).trans hs⟩
    · have hq' : σ.wr q = true := by simpa only [updB, if_neg e] using hq
      exact ⟨(hinv.wrT q hq').1, (upd_ne (by omega)).trans (hinv.wrT q hq').2⟩
  · by_cases e : q = p
    · subst e; simp [updB] at hq
    · have hq' : σ.wr q = false := by simpa only [updB, if_neg e] using hq
      exact (upd_ne (by omega)).trans (hinv.wrF q hq')
  · exact (upd_ne (by omega)).trans (hinv.out j hj)

/-- `adc`/`sbb` of `dst` with the value `y`, whichever the checker's flag selects -/
theorem doChain_sound {isSub : Bool} {dst : Nat} {sv : SVal} {y : Nat} (hop : X.op = opOf isSub)
    (h : symChain isSub R σ dst sv = some σ') (hinv : Inv X σ s) (hy : Sat X sv y) :
    ∃ s', (if isSub then doSbb ⟨R.a, R.b, la, lb⟩ s dst y else doAdc ⟨R.a, R.b, la, lb⟩ s dst y) = some s' ∧
      Inv X σ' s' := by
  obtain ⟨hp, hinv'⟩ := symChain_sound hop h hinv hy (decide ((opOf isSub s.cf (s.regs dst) y).1 = 0))
  cases isSub with
  | false => exact ⟨_, doAdc_eq _ _ _ _ hp, hinv'⟩
  | true => exact ⟨_, doSbb_eq _ _ _ _ hp, hinv'⟩

/-- one instruction: if the checker accepts it, the interpreter does not fault and the symbolic
    state still describes the concrete one -/
theorem symStep_sound {isSub : Bool} {ins : Instr} (hop : X.op = opOf isSub)
    (hla : X.i + X.w ≤ la) (hlb : X.i + X.w ≤ lb) (hB : la < B)
    (h : symStep isSub R X.w ins σ = some σ') (hinv : Inv X σ s) :
    ∃ s', step ⟨R.a, R.b, la, lb⟩ ins s = some s' ∧ Inv X σ' s' := by
  cases ins with
  | clc =>
    simp only [symStep, Option.some.injEq] at h
    subst h
    exact ⟨_, rfl, ⟨hinv.regs, fun t ht => by simp at ht, hinv.zf, hinv.b, hinv.wrT, hinv.wrF, hinv.out⟩⟩
  | label n => cases h
  | jnz n => cases h
  | loadn _ _ _ => cases h
  | storen _ _ _ => cases h
  | adcmn _ _ _ => cases h
  | sbbmn _ _ _ => cases h
  | load dst base idx off =>
    simp only [symStep] at h
    cases hr : symRead R σ X.w base idx off with
    | none => rw [hr] at h; simp at h
    | some v =>
      rw [hr] at h
      simp only at h
      obtain ⟨y, hy, hsat⟩ := symRead_sound (la := la) (lb := lb) hr hinv hla hlb
      obtain ⟨hp, hinv'⟩ := symSet_sound h hinv hsat
      refine ⟨_, ?_, hinv'⟩
      simp only [step, doLoad, hp, if_false, hy]
  | store base idx off src =>
    simp only [symStep] at h
    split at h
    · rename_i hb
      cases ha : symAddr σ X.w idx off with
      | none => rw [ha] at h; cases h
      | some p =>
        rw [ha] at h
        dsimp only at h
        split at h
        · rename_i hsrc
          obtain rfl := Option.some.inj h
          obtain ⟨e, hp⟩ := symAddr_sound ha hinv
          have hlt : X.i + p < la := by omega
          exact ⟨_, by simp only [step, doStore, hb, if_true, e, hlt], inv_store hinv hsrc hp⟩
        · cases h
    · cases h
  | adc dst src =>
    cases isSub with
    | true => cases h
    | false => exact doChain_sound (isSub := false) hop h hinv (hinv.regs src)
  | sbb dst src =>
    cases isSub with
    | false => cases h
    | true => exact doChain_sound (isSub := true) hop h hinv (hinv.regs src)
  | adcm dst base idx off =>
    cases isSub with
    | true => cases h
    | false =>
      simp only [symStep, Bool.false_eq_true, if_false] at h
      cases hr : symRead R σ X.w base idx off with
      | none => rw [hr] at h; cases h
      | some v =>
        rw [hr] at h
        obtain ⟨y, hy, hsat⟩ := symRead_sound (la := la) (lb := lb) hr hinv hla hlb
        obtain ⟨s', hs', hinv'⟩ := doChain_sound (la := la) (lb := lb) (isSub := false) hop h hinv hsat
        exact ⟨s', by simp only [step, hy]; exact hs', hinv'⟩
  | sbbm dst base idx off =>
    cases isSub with
    | false => cases h
    | true =>
      simp only [symStep, if_true] at h
      cases hr : symRead R σ X.w base idx off with
      | none => rw [hr] at h; cases h
      | some v =>
        rw [hr] at h
        obtain ⟨y, hy, hsat⟩ := symRead_sound (la := la) (lb := lb) hr hinv hla hlb
        obtain ⟨s', hs', hinv'⟩ := doChain_sound (la := la) (lb := lb) (isSub := true) hop h hinv hsat
        exact ⟨s', by simp only [step, hy]; exact hs', hinv'⟩
  | inc r =>
    simp only [symStep] at h
    split at h
    · cases h
    rename_i hp
    refine ⟨_, by rw [step, if_neg hp], ?_⟩
    split at h
    · rename_i c hc
      split at h
      · rename_i hcw
        obtain rfl := Option.some.inj h
        exact inv_setReg_zf hinv r (sat_idx_add hinv hc hcw hla hB) _
      · cases h
    · obtain rfl := Option.some.inj h
      exact inv_setReg_zf hinv r (sat_unk X _) _
  | dec r =>
    simp only [symStep] at h
    split at h
    · cases h
    rename_i hp
    refine ⟨_, by rw [step, if_neg hp], ?_⟩
    split at h
    · rename_i hc
      obtain rfl := Option.some.inj h
      have hs : s.regs r = X.n0 := by have := hinv.regs r; rwa [hc] at this
      refine ⟨sat_upd hinv.regs r (by simp only [Sat, hs]), hinv.cf, fun _ => ?_, hinv.b, hinv.wrT, hinv.wrF, hinv.out⟩
      simp only [hs]
    · obtain rfl := Option.some.inj h
      exact inv_setReg_zf hinv r (sat_unk X _) _
  | lea dst src imm =>
    simp only [symStep] at h
    split at h
    · cases h
    rename_i hp
    refine ⟨_, by rw [step, if_neg hp], ?_⟩
    split at h
    · rename_i c hc
      split at h
      · rename_i hcw
        obtain rfl := Option.some.inj h
        exact inv_setReg hinv dst (sat_idx_add hinv hc hcw hla hB)
      · cases h
    · obtain rfl := Option.some.inj h
      exact inv_setReg hinv dst (sat_unk X _)
  | setc r =>
    obtain ⟨hp, hinv'⟩ := symSet_sound h hinv (sat_unk X (b2n s.cf))
    exact ⟨_, by rw [step, if_neg hp], hinv'⟩
  | addi r imm =>
    simp only [symStep] at h
    split at h
    · cases h
    rename_i hp
    obtain rfl := Option.some.inj h
    exact ⟨_, by rw [step, if_neg hp], inv_setReg_clob hinv r (sat_unk X _) _ _⟩
  | subi r imm =>
    simp only [symStep] at h
    split at h
    · cases h
    rename_i hp
    obtain rfl := Option.some.inj h
    exact ⟨_, by rw [step, if_neg hp], inv_setReg_clob hinv r (sat_unk X _) _ _⟩

end step

/-- what one iteration / the whole loop must establish about the final state -/
structure BodyPost (s' : St) (b : Nat → Nat) (ch : (Nat → Nat) × Bool) (idx' size' : Nat) (rIdx rSize : Nat) : Prop where
  cf : s'.cf = ch.2
  a : s'.a = ch.1
  b : s'.b = b
  zf : s'.zf = decide (s'.regs rSize = 0)
  idx : s'.regs rIdx = idx'
  size : s'.regs rSize = size'

theorem symExec_sound {X : Ctx} {R : Regs} {la lb : Nat} {isSub : Bool} (hop : X.op = opOf isSub)
    (hla : X.i + X.w ≤ la) (hlb : X.i + X.w ≤ lb) (hB : la < B) :
    ∀ (body : List Instr) (σ σ' : Sym) (s : St), symExec isSub R X.w body σ = some σ' → Inv X σ s →
      ∃ s', exec ⟨R.a, R.b, la, lb⟩ body s = some s' ∧ Inv X σ' s'
  | [], σ, σ', s, h, hinv => by
    simp only [symExec, Option.some.injEq] at h
    subst h
    exact ⟨s, rfl, hinv⟩
  | i :: is, σ, σ', s, h, hinv => by
    simp only [symExec] at h
    cases h1 : symStep isSub R X.w i σ with
    | none => rw [h1] at h; simp at h
    | some σ1 =>
      rw [h1] at h
      simp only at h
      obtain ⟨s1, hs1, hinv1⟩ := symStep_sound (la := la) (lb := lb) hop hla hlb hB h1 hinv
      obtain ⟨s2, hs2, hinv2⟩ := symExec_sound hop hla hlb hB is σ1 σ' s1 h hinv1
      exact ⟨s2, by rw [exec_cons, hs1]; exact hs2, hinv2⟩

/-- the symbolic state at the loop label describes every concrete state -/
theorem inv_sym0 (op) (R : Regs) (w : Nat) (regs : Nat → Nat) (cf zf : Bool) (a b : Nat → Nat) :
    Inv ⟨op, a, b, cf, regs R.idx, regs R.size, w⟩ (sym0 R) ⟨regs, cf, zf, a, b⟩ := by
  refine ⟨?_, ?_, ?_, rfl, ?_, ?_, ?_⟩
  · intro r
    simp only [sym0, updS]
    by_cases h1 : r = R.idx
    · simp only [h1, if_true, Sat, Nat.add_zero]
    · simp only [h1, if_false]
      by_cases h2 : r = R.size
      · simp only [h2, if_true, Sat]
      · simp only [h2, if_false, Sat]
  · intro t ht
    simp only [sym0, SCF.chain.injEq] at ht
    subst ht
    rfl
  · intro hz; simp [sym0] at hz
  · intro p hp; simp [sym0] at hp
  · intro p _; rfl
  · intro j _; rfl

/-- one iteration of a body accepted by the checker: no fault, `b` untouched, `idx += w`,
    `size -= 1` with ZF from that `dec`, `a` and CF are exactly the chain over `[idx, idx+w)` -/
theorem checkBody_sound {isSub : Bool} {R : Regs} {w : Nat} {body : List Instr} {σ : Sym}
    (hex : symExec isSub R w body (sym0 R) = some σ) (hfin : symFinal R w σ = true)
    (la lb : Nat) (regs : Nat → Nat) (cf zf : Bool) (a b : Nat → Nat) (i : Nat)
    (hi : regs R.idx = i) (hla : i + w ≤ la) (hlb : i + w ≤ lb) (hB : la < B) :
    ∃ s', exec ⟨R.a, R.b, la, lb⟩ body ⟨regs, cf, zf, a, b⟩ = some s' ∧
      BodyPost s' b (chainG (opOf isSub) a b cf i w) (i + w) ((regs R.size + B - 1) % B) R.idx R.size := by
  subst hi
  let X : Ctx := ⟨opOf isSub, a, b, cf, regs R.idx, regs R.size, w⟩
  obtain ⟨s', he, hinv⟩ := symExec_sound (X := X) (R := R) (la := la) (lb := lb) (isSub := isSub) rfl hla hlb hB
    body (sym0 R) σ ⟨regs, cf, zf, a, b⟩ hex (inv_sym0 _ R w regs cf zf a b)
  refine ⟨s', he, ?_⟩
  simp only [symFinal, Bool.and_eq_true, decide_eq_true_eq, List.all_eq_true, List.mem_range] at hfin
  obtain ⟨⟨⟨⟨f1, f2⟩, f3⟩, f4⟩, f5⟩ := hfin
  have hsz : s'.regs R.size = (regs R.size + B - 1) % B := by
    have := hinv.regs R.size
    rw [f2] at this
    exact this
  refine ⟨hinv.cf w f3, ?_, hinv.b, ?_, ?_, hsz⟩
  · funext j
    by_cases hj : j < regs R.idx ∨ regs R.idx + w ≤ j
    · rw [chainG_outside _ _ _ _ _ _ _ hj]
      exact hinv.out j hj
    · obtain ⟨p, rfl⟩ : ∃ p, j = regs R.idx + p := ⟨j - regs R.idx, by omega⟩
      have hp : p < w := by omega
      rw [chainG_digit _ _ _ _ _ _ _ hp]
      exact (hinv.wrT p (f5 p hp)).2
  · rw [hinv.zf f4, hsz]
  · have := hinv.regs R.idx
    rw [f1] at this
    exact this

theorem loop_step {k : Cfg} {body : List Instr} {s s' : St} (fuel : Nat) (he : exec k body s = some s') :
    loop k body (fuel + 1) s = if s'.zf then some s' else loop k body fuel s' := by
  rw [loop, he]

/-- the loop, any number of iterations `n ≥ 1`: by induction over `n` from a one-iteration spec -/
theorem loop_spec (k : Cfg) (body : List Instr) (rIdx rSize w : Nat)
    (chain : (Nat → Nat) → (Nat → Nat) → Bool → Nat → Nat → (Nat → Nat) × Bool)
    (hadd : ∀ f g c i n m, chain f g c i (n + m) = chain (chain f g c i n).1 g (chain f g c i n).2 (i + n) m)
    (hbody : ∀ regs cf zf a b i, regs rIdx = i → i + w ≤ k.la → i + w ≤ k.lb →
      ∃ s', exec k body ⟨regs, cf, zf, a, b⟩ = some s' ∧
        BodyPost s' b (chain a b cf i w) (i + w) ((regs rSize + B - 1) % B) rIdx rSize) :
    ∀ n, 1 ≤ n → n < B → ∀ regs cf zf a b i, regs rIdx = i → regs rSize = n →
      i + w * n ≤ k.la → i + w * n ≤ k.lb → ∀ fuel, n ≤ fuel →
      ∃ s', loop k body fuel ⟨regs, cf, zf, a, b⟩ = some s' ∧
        BodyPost s' b (chain a b cf i (w * n)) (i + w * n) 0 rIdx rSize := by
  intro n
  induction n with
  | zero => intro h; exact absurd h (Nat.lt_irrefl 0)
  | succ n ih =>
    intro _ hnB regs cf zf a b i hi hsz hla hlb fuel hfuel
    obtain ⟨fuel', rfl⟩ := Nat.exists_eq_succ_of_ne_zero (Nat.ne_of_gt (Nat.lt_of_lt_of_le n.succ_pos hfuel))
    have hw : w * (n + 1) = w + w * n := by rw [Nat.mul_succ, Nat.add_comm]
    rw [hw, ← Nat.add_assoc] at hla hlb
    obtain ⟨s1, he, hp⟩ := hbody regs cf zf a b i hi (Nat.le_trans (Nat.le_add_right _ _) hla)
      (Nat.le_trans (Nat.le_add_right _ _) hlb)
    -- the decremented counter does not wrap
    have hs1size : s1.regs rSize = n := by
      rw [hp.size, hsz, Nat.add_right_comm n 1 B, Nat.add_sub_cancel, Nat.add_mod_right,
        Nat.mod_eq_of_lt (Nat.lt_of_succ_lt hnB)]
    by_cases hn0 : n = 0
    · subst hn0
      rw [Nat.zero_add, Nat.mul_one]
      refine ⟨s1, ?_, hp.cf, hp.a, hp.b, hp.zf, hp.idx, hs1size⟩
      rw [loop_step fuel' he, hp.zf, hs1size]
      rfl
    · obtain ⟨regs1, cf1, zf1, a1, b1⟩ := s1
      obtain ⟨hcf, ha, hb, hzf, hidx, _⟩ := hp
      dsimp only at hcf ha hb hzf hidx hs1size
      subst hcf ha hb
      obtain rfl : zf1 = false := hzf.trans (decide_eq_false (fun h => hn0 (hs1size.symm.trans h)))
      obtain ⟨s2, he2, hp2⟩ := ih (Nat.pos_of_ne_zero hn0) (Nat.lt_of_succ_lt hnB) regs1 _ false _ _ (i + w)
        hidx hs1size hla hlb fuel' (Nat.le_of_succ_le_succ hfuel)
      refine ⟨s2, ?_, ?_⟩
      · rw [loop_step fuel' he]
        exact he2
      · rw [hw, hadd, ← Nat.add_assoc]
        exact hp2

theorem exec_allClc (k : Cfg) (regs : Nat → Nat) (zf : Bool) (a b : Nat → Nat) :
    ∀ l : List Instr, (l.all fun i => i == Instr.clc) = true →
      exec k l ⟨regs, false, zf, a, b⟩ = some ⟨regs, false, zf, a, b⟩
  | [], _ => rfl
  | i :: is, h => by
    simp only [List.all_cons, Bool.and_eq_true, beq_iff_eq] at h
    rw [h.1, exec_clc]
    exact exec_allClc k regs zf a b is h.2

/-- an accepted prologue only clears CF -/
theorem checkPre_sound (k : Cfg) (regs : Nat → Nat) (cf zf : Bool) (a b : Nat → Nat) (pre : List Instr)
    (h : checkPre pre = true) : exec k pre ⟨regs, cf, zf, a, b⟩ = some ⟨regs, false, zf, a, b⟩ := by
  cases pre with
  | nil => simp [checkPre] at h
  | cons i is =>
    simp only [checkPre, List.all_cons, Bool.and_eq_true, beq_iff_eq] at h
    rw [h.1, exec_clc]
    exact exec_allClc k regs zf a b is h.2

/-- an accepted epilogue puts the loop's final CF into `c` and leaves `idx` and the memories alone -/
theorem checkPost_sound (R : Regs) (la lb : Nat) (C : Bool) :
    ∀ (post : List Instr) (live cSet : Bool) (s : St), checkPost R post live cSet = true →
      (live = true → s.cf = C) → (cSet = true → s.regs R.c = b2n C) →
      ∃ s', exec ⟨R.a, R.b, la, lb⟩ post s = some s' ∧ s'.regs R.idx = s.regs R.idx ∧
        s'.regs R.c = b2n C ∧ s'.a = s.a ∧ s'.b = s.b
  | [], live, cSet, s, h, _, hc => by
    simp only [checkPost] at h
    exact ⟨s, rfl, rfl, hc h, rfl, rfl⟩
  | i :: is, live, cSet, s, h, hl, hc => by
    cases i with
    | clc =>
      simp only [checkPost] at h
      obtain ⟨s', he, h1, h2, h3, h4⟩ := checkPost_sound R la lb C is false cSet { s with cf := false } h
        (fun e => by simp at e) hc
      exact ⟨s', by rw [exec_cons]; exact he, h1, h2, h3, h4⟩
    | setc r =>
      simp only [checkPost] at h
      split at h
      · simp at h
      rename_i hr
      have hpa : ¬ (r = R.a ∨ r = R.b) := fun e => hr (by rcases e with e | e <;> simp [e])
      have hri : R.idx ≠ r := fun e => hr (by simp [e])
      have hstep : step ⟨R.a, R.b, la, lb⟩ (.setc r) s = some { s with regs := upd s.regs r (b2n s.cf) } := by
        simp only [step, hpa, if_false]
      -- both accepted cases continue from the same state; they differ in what is known about `c`
      have go : ∀ cSet', checkPost R is live cSet' = true →
          (cSet' = true → upd s.regs r (b2n s.cf) R.c = b2n C) →
          ∃ s', exec ⟨R.a, R.b, la, lb⟩ (.setc r :: is) s = some s' ∧ s'.regs R.idx = s.regs R.idx ∧
            s'.regs R.c = b2n C ∧ s'.a = s.a ∧ s'.b = s.b := fun cSet' h' hc' => by
        obtain ⟨s', he, h1, h2, h3, h4⟩ := checkPost_sound R la lb C is live cSet'
          { s with regs := upd s.regs r (b2n s.cf) } h' hl hc'
        exact ⟨s', by rw [exec_cons, hstep]; exact he, h1.trans (upd_ne hri), h2, h3, h4⟩
      split at h
      · rename_i hrc
        split at h
        · rename_i hlive
          exact go true h (fun _ => by rw [hrc, upd_same, hl hlive])
        · simp at h
      · rename_i hrc
        exact go cSet h (fun e => (upd_ne (fun e' => hrc e'.symm)).trans (hc e))
    | _ => simp [checkPost] at h

/-- what an accepted program consists of -/
theorem checkLoop_inv {isSub : Bool} {prog : List Instr} {R : Regs} {nregs w : Nat}
    (h : checkLoop isSub prog R nregs = some w) :
    ∃ l σ, splitLoop prog = some l ∧ regsDistinct R = true ∧ 0 < w ∧ checkPre l.pre = true ∧
      checkPost R l.post true false = true ∧ symExec isSub R w l.body (sym0 R) = some σ ∧
      symFinal R w σ = true := by
  unfold checkLoop at h
  cases hs : splitLoop prog with
  | none => rw [hs] at h; simp at h
  | some l =>
    rw [hs] at h
    simp only at h
    split at h
    · simp at h
    rename_i h1
    split at h
    · simp at h
    rename_i h2
    split at h
    · simp at h
    rename_i h3
    cases he : symExec isSub R (chainLen l.body) l.body (sym0 R) with
    | none => rw [he] at h; simp at h
    | some σ =>
      rw [he] at h
      simp only at h
      split at h
      · rename_i h4
        simp only [Option.some.injEq] at h
        subst h
        simp only [Bool.not_eq_true', Bool.not_eq_false, Bool.and_eq_true, decide_eq_true_eq] at h1 h2 h3
        exact ⟨l, σ, rfl, h1.1.1.1, h1.2, h2, h3, he, h4⟩
      · simp at h

theorem checkLoop_pos {isSub : Bool} {prog : List Instr} {R : Regs} {nregs w : Nat}
    (h : checkLoop isSub prog R nregs = some w) : 0 < w := by
  obtain ⟨_, _, _, _, hw, _⟩ := checkLoop_inv h
  exact hw

theorem regsDistinct_idx_size {R : Regs} (h : regsDistinct R = true) : R.idx ≠ R.size := by
  simp only [regsDistinct, decide_eq_true_eq] at h
  exact h.2.1

/-- the whole routine of an accepted program: `n ≥ 1` iterations with `w*n` digits available behind
    both pointers, any initial flags and scratch registers: no fault, `b` untouched, `a` = chain on
    `[0, w*n)` (nothing outside is written), returned `idx = w*n`, returned `c` = final carry -/
theorem checkLoop_run {isSub : Bool} {prog : List Instr} {R : Regs} {nregs w : Nat}
    (h : checkLoop isSub prog R nregs = some w)
    (la lb n : Nat) (hn : 1 ≤ n) (hnB : n < B) (hB : la < B) (hla : w * n ≤ la) (hlb : w * n ≤ lb)
    (regs : Nat → Nat) (cf zf : Bool) (a b : Nat → Nat) (hidx : regs R.idx = 0) (hsize : regs R.size = n) :
    ∃ s', run ⟨R.a, R.b, la, lb⟩ prog (n + 1) ⟨regs, cf, zf, a, b⟩ = some s' ∧
      s'.a = (chainG (opOf isSub) a b false 0 (w * n)).1 ∧ s'.b = b ∧
      s'.regs R.idx = w * n ∧
      s'.regs R.c = b2n (chainG (opOf isSub) a b false 0 (w * n)).2 := by
  obtain ⟨l, σ, hs, hd, _, hpre, hpost, hex, hfin⟩ := checkLoop_inv h
  unfold run
  rw [hs]
  simp only
  rw [checkPre_sound _ regs cf zf a b l.pre hpre]
  simp only
  obtain ⟨s2, he, hp⟩ := loop_spec ⟨R.a, R.b, la, lb⟩ l.body R.idx R.size w (chainG (opOf isSub))
    (chainG_add (opOf isSub))
    (fun regs cf zf a b i hi h1 h2 =>
      checkBody_sound hex hfin la lb regs cf zf a b i hi h1 h2 hB)
    n hn hnB regs false zf a b 0 hidx hsize (by simpa using hla) (by simpa using hlb) (n + 1) (by omega)
  rw [he]
  simp only
  obtain ⟨s3, he3, h1, h2, h3, h4⟩ := checkPost_sound R la lb (chainG (opOf isSub) a b false 0 (w * n)).2
    l.post true false s2 hpost (fun _ => hp.cf) (fun e => by simp at e)
  refine ⟨s3, he3, ?_, ?_, ?_, h2⟩
  · rw [h3]; exact hp.a
  · rw [h4]; exact hp.b
  · rw [h1]
    have := hp.idx
    simpa using this

theorem range_map_memOf (l : List Nat) : (List.range l.length).map (memOf l) = l := by
  apply List.ext_getElem
  · simp
  · intro i h1 h2
    simp only [List.getElem_map, List.getElem_range]
    exact memOf_lt (by simpa using h2)

theorem map_upd_range (f : Nat → Nat) (len n v : Nat) :
    (List.range len).map (upd f n v) = ((List.range len).map f).set n v := by
  apply List.ext_getElem
  · simp
  · intro i h1 h2
    simp only [List.getElem_map, List.getElem_range, List.getElem_set, upd]
    by_cases h : i = n
    · simp [h]
    · have : ¬ n = i := fun e => h e.symm
      simp [h, this]

theorem adcI_adc (c : Bool) {x y : Nat} (hx : x < B) (hy : y < B) :
    (adcI c x y).1 = (adc (b2n c) x y).1 ∧ b2n (adcI c x y).2 = (adc (b2n c) x y).2 := by
  refine ⟨rfl, ?_⟩
  have hc : b2n c ≤ 1 := by unfold b2n; split <;> omega
  unfold adcI adc
  by_cases h : B ≤ x + y + b2n c
  · rw [decide_eq_true h]
    show 1 = (x + y + b2n c) / B
    exact (Nat.div_eq_of_lt_le (by omega) (by omega)).symm
  · rw [decide_eq_false h]
    show 0 = (x + y + b2n c) / B
    exact (Nat.div_eq_of_lt (by omega)).symm

theorem sbbI_sbb (c : Bool) (x y : Nat) :
    (sbbI c x y).1 = (sbb (b2n c) x y).1 ∧ b2n (sbbI c x y).2 = (sbb (b2n c) x y).2 := by
  unfold sbbI sbb
  by_cases h : y + b2n c ≤ x
  · rw [if_pos h, if_pos h, decide_eq_false (Nat.not_lt.mpr h)]
    exact ⟨rfl, rfl⟩
  · rw [if_neg h, if_neg h, decide_eq_true (Nat.lt_of_not_le h)]
    exact ⟨rfl, rfl⟩

/-- the memory-function chain on two lists is the list chain on the first `n` digits, for a register
    operation `op` and a digit operation `dop` that agree on digits -/
theorem chainG_zipC {op : Bool → Nat → Nat → Nat × Bool} {dop : Nat → Nat → Nat → Nat × Nat}
    (hop : ∀ c x y, x < B → y < B →
      (op c x y).1 = (dop (b2n c) x y).1 ∧ b2n (op c x y).2 = (dop (b2n c) x y).2)
    (a b : List Nat) (c : Bool) (n : Nat) (hna : n ≤ a.length) (hnb : n ≤ b.length)
    (ha : DigitsOk a) (hb : DigitsOk b) :
    (List.range a.length).map (chainG op (memOf a) (memOf b) c 0 n).1 =
        (zipC dop (b2n c) (a.take n) (b.take n)).1 ++ a.drop n ∧
    b2n (chainG op (memOf a) (memOf b) c 0 n).2 = (zipC dop (b2n c) (a.take n) (b.take n)).2 := by
  induction n with
  | zero => exact ⟨range_map_memOf a, rfl⟩
  | succ n ih =>
    obtain ⟨ih1, ih2⟩ := ih (by omega) (by omega)
    have hla : n < a.length := by omega
    have hlb : n < b.length := by omega
    have htl : (a.take n).length = (b.take n).length := by
      rw [List.length_take_of_le (Nat.le_of_lt hla), List.length_take_of_le (Nat.le_of_lt hlb)]
    have hzl : (zipC dop (b2n c) (a.take n) (b.take n)).1.length = n := by
      rw [zipC_length, ← htl, Nat.min_self, List.length_take_of_le (Nat.le_of_lt hla)]
    obtain ⟨o1, o2⟩ := hop (chainG op (memOf a) (memOf b) c 0 n).2 a[n] b[n]
      (ha _ (List.getElem_mem hla)) (hb _ (List.getElem_mem hlb))
    rw [List.take_succ_eq_append_getElem hla, List.take_succ_eq_append_getElem hlb,
      zipC_append dop _ _ _ _ _ htl]
    simp only [chainG, Nat.zero_add, zipC]
    rw [memOf_lt hla, memOf_lt hlb, o1, o2, ih2]
    refine ⟨?_, rfl⟩
    rw [map_upd_range, ih1, List.set_append_right _ _ (by omega), hzl, Nat.sub_self,
      List.drop_eq_getElem_cons hla, List.set_cons_zero, List.append_assoc]
    rfl

theorem chainAdd_list (a b : List Nat) (c : Bool) (n : Nat) (hna : n ≤ a.length) (hnb : n ≤ b.length)
    (ha : DigitsOk a) (hb : DigitsOk b) :
    (List.range a.length).map (chainAdd (memOf a) (memOf b) c 0 n).1 =
        (adcZip (b2n c) (a.take n) (b.take n)).1 ++ a.drop n ∧
    b2n (chainAdd (memOf a) (memOf b) c 0 n).2 = (adcZip (b2n c) (a.take n) (b.take n)).2 := by
  rw [← chainG_adc, adcZip_eq_zipC]
  exact chainG_zipC (fun c _ _ hx hy => adcI_adc c hx hy) a b c n hna hnb ha hb

theorem chainSub_list (a b : List Nat) (c : Bool) (n : Nat) (hna : n ≤ a.length) (hnb : n ≤ b.length)
    (ha : DigitsOk a) (hb : DigitsOk b) :
    (List.range a.length).map (chainSub (memOf a) (memOf b) c 0 n).1 =
        (sbbZip (b2n c) (a.take n) (b.take n)).1 ++ a.drop n ∧
    b2n (chainSub (memOf a) (memOf b) c 0 n).2 = (sbbZip (b2n c) (a.take n) (b.take n)).2 := by
  rw [← chainG_sbb, sbbZip_eq_zipC]
  exact chainG_zipC (fun c x y _ _ => sbbI_sbb c x y) a b c n hna hnb ha hb

/-- the schoolbook digit chains of C01 (NB.Model.AddSub) selected by the checker's flag -/
def zipOf (isSub : Bool) : Nat → List Nat → List Nat → List Nat × Nat := if isSub then sbbZip else adcZip

theorem chainG_list (isSub : Bool) (a b : List Nat) (c : Bool) (n : Nat) (hna : n ≤ a.length) (hnb : n ≤ b.length)
    (ha : DigitsOk a) (hb : DigitsOk b) :
    (List.range a.length).map (chainG (opOf isSub) (memOf a) (memOf b) c 0 n).1 =
        (zipOf isSub (b2n c) (a.take n) (b.take n)).1 ++ a.drop n ∧
    b2n (chainG (opOf isSub) (memOf a) (memOf b) c 0 n).2 = (zipOf isSub (b2n c) (a.take n) (b.take n)).2 := by
  cases isSub with
  | false => rw [show zipOf false = zipC adc from adcZip_eq_zipC]
             exact chainG_zipC (fun c _ _ hx hy => adcI_adc c hx hy) a b c n hna hnb ha hb
  | true => rw [show zipOf true = zipC sbb from sbbZip_eq_zipC]
            exact chainG_zipC (fun c x y _ _ => sbbI_sbb c x y) a b c n hna hnb ha hb

/-- soundness of the checker, for every program and every wrapper divisor `d ≥ w` (`size /= d`):
    called like the Rust wrapper on slices holding at least `size` digits (< 2^64), an accepted
    program does not fault — every memory access of the run is in bounds and nothing is stored
    through `b` — and returns the carry/borrow, `idx = w * (size / d)` and the digits of the
    schoolbook chain on that prefix, the rest of `a` unchanged. -/
theorem checkLoop_sound_div {isSub : Bool} {prog : List Instr} {R : Regs} {nregs w : Nat}
    (h : checkLoop isSub prog R nregs = some w) (d : Nat) (hwd : w ≤ d)
    (a b : List Nat) (size : Nat) (hsa : size ≤ a.length) (hsb : size ≤ b.length)
    (hB : a.length < B) (ha : DigitsOk a) (hb : DigitsOk b) :
    call prog R d a b size =
      some (decide ((zipOf isSub 0 (a.take (w * (size / d))) (b.take (w * (size / d)))).2 > 0),
            w * (size / d),
            (zipOf isSub 0 (a.take (w * (size / d))) (b.take (w * (size / d)))).1 ++ a.drop (w * (size / d))) := by
  have hd := (checkLoop_inv h).choose_spec.choose_spec.2.1
  have hne := regsDistinct_idx_size hd
  unfold call
  by_cases hn : size / d = 0
  · have hz : zipOf isSub 0 [] [] = ([], 0) := by cases isSub <;> rfl
    simp [hn, hz]
  · simp only [hn, if_false]
    have hdone : w * (size / d) ≤ size :=
      Nat.le_trans (Nat.mul_le_mul_right _ hwd) (Nat.mul_div_le size d)
    obtain ⟨s', he, h1, h2, h3, h4⟩ := checkLoop_run h a.length b.length (size / d) (Nat.pos_of_ne_zero hn)
      (Nat.lt_of_le_of_lt (Nat.div_le_self size d) (by omega)) hB (by omega) (by omega)
      (initSt R (size / d) a b).regs false false (memOf a) (memOf b)
      (by simp [initSt, upd])
      (by show upd (upd (fun _ => 0) R.size (size / d)) R.idx 0 R.size = _
          rw [upd_ne (fun e => hne e.symm), upd_same])
    have hinit : initSt R (size / d) a b = ⟨(initSt R (size / d) a b).regs, false, false, memOf a, memOf b⟩ := rfl
    rw [hinit, he]
    obtain ⟨l1, l2⟩ := chainG_list isSub a b false (w * (size / d)) (by omega) (by omega) ha hb
    have hb0 : b2n false = 0 := rfl
    rw [hb0] at l1 l2
    simp only [Option.some.injEq, Prod.mk.injEq]
    refine ⟨?_, h3, ?_⟩
    · rw [h4, ← l2]
    · rw [h1]; exact l1

/-- soundness for the wrapper's divisor equal to the unroll factor (`size /= w`) -/
theorem checkLoop_sound {isSub : Bool} {prog : List Instr} {R : Regs} {nregs w : Nat}
    (h : checkLoop isSub prog R nregs = some w)
    (a b : List Nat) (size : Nat) (hsa : size ≤ a.length) (hsb : size ≤ b.length)
    (hB : a.length < B) (ha : DigitsOk a) (hb : DigitsOk b) :
    call prog R w a b size =
      some (decide ((zipOf isSub 0 (a.take (w * (size / w))) (b.take (w * (size / w)))).2 > 0),
            w * (size / w),
            (zipOf isSub 0 (a.take (w * (size / w))) (b.take (w * (size / w)))).1 ++ a.drop (w * (size / w))) :=
  checkLoop_sound_div h w (Nat.le_refl w) a b size hsa hsb hB ha hb

/-! ### the checker on small hand-written programs (it accepts, and it rejects) -/

/-- register roles of the examples: size a b c idx; 5, 6 are scratch -/
def exRegs : Regs := ⟨0, 1, 2, 3, 4⟩

/-- a 2-way unrolled subtract loop with memory source operands, `lea`, no trailing `clc` -/
def exBody (tail : List Instr) : List Instr :=
  [.clc, .label 1,
   .load 5 1 4 0, .load 6 1 4 1, .sbbm 5 2 4 0, .sbbm 6 2 4 1, .store 1 4 0 5, .store 1 4 1 6] ++ tail

example : checkLoop true (exBody [.lea 4 4 2, .dec 0, .jnz 1, .setc 3]) exRegs 7 = some 2 := by decide
example : checkLoop true (exBody [.inc 4, .dec 0, .inc 4, .dec 5, .dec 0, .jnz 1, .setc 3]) exRegs 7 = none := by decide
/-- look-ahead load of the next block's first digit: reads one block past the end in the last iteration -/
example : checkLoop true (exBody [.lea 4 4 2, .load 6 2 4 0, .dec 0, .jnz 1, .setc 3]) exRegs 7 = none := by decide
/-- `add idx, 2` clobbers the borrow that the next iteration needs -/
example : checkLoop true (exBody [.addi 4 2, .dec 0, .jnz 1, .setc 3]) exRegs 7 = none := by decide
/-- an `inc` after the `dec`: ZF is no longer the one of `dec {size}` -/
example : checkLoop true (exBody [.inc 4, .dec 0, .inc 4, .jnz 1, .setc 3]) exRegs 7 = none := by decide
/-- the carry is read after it was cleared -/
example : checkLoop true (exBody [.lea 4 4 2, .dec 0, .jnz 1, .clc, .setc 3]) exRegs 7 = none := by decide
/-- store one digit too far -/
example : checkLoop true
    [.clc, .label 1, .load 5 1 4 0, .load 6 1 4 1, .sbbm 5 2 4 0, .sbbm 6 2 4 1, .store 1 4 0 5, .store 1 4 2 6,
     .lea 4 4 2, .dec 0, .jnz 1, .setc 3] exRegs 7 = none := by decide
/-- no `clc` in front of the loop: the chain would start with whatever CF the caller left -/
example : checkLoop true
    [.label 1, .load 5 1 4 0, .sbbm 5 2 4 0, .store 1 4 0 5, .inc 4, .dec 0, .jnz 1, .setc 3] exRegs 7 = none := by decide
/-- an add loop is not a subtract loop -/
example : checkLoop false (exBody [.lea 4 4 2, .dec 0, .jnz 1, .setc 3]) exRegs 7 = none := by decide
/-- the accepted program really runs: 3 digits, one block of 2, borrow out -/
example : call (exBody [.lea 4 4 2, .dec 0, .jnz 1, .setc 3]) exRegs 2 [0, 0, 5] [1, 0, 9] 3
    = some (true, 2, [B - 1, B - 1, 5]) := by decide

end NB.Asm
