/-
  C07 (run-length layer) — the bit queries on run-length encoded operands (NB.Model.BitsRL) are
  the bit queries of NB.Model.Bits on the expanded digit vector.

  The correspondence check sends huge operands (2^26 digits and more) as segment lists
  `(digit, count)`; the driver answers with `countOnesRL`, `bitsRL`, `trailingZerosRL`,
  `trailingOnesRL`, `bitRL`, which never expand.  The `_eq` theorems hold for ALL segment lists
  (zero counts, unmerged neighbours, digits ≥ B included); the `_rl_spec` corollaries transfer the
  specs of NB.Props.C07 (`count_ones_spec_u`, `bits_spec_u`, `trailing_zeros_spec_u`,
  `trailing_ones_spec_u`, `bit_spec_u`) to operands whose expansion is canonical.
-/
import NB.Model.BitsRL
import NB.Props.C07
namespace NB.C07

theorem lengthRL_eq (s : List (Nat × Nat)) : lengthRL s = (expandRL s).length := by
  induction s with
  | nil => rfl
  | cons x s ih =>
    obtain ⟨d, n⟩ := x
    simp only [lengthRL, expandRL, List.length_append, List.length_replicate, ih]

theorem lastRL_eq (s : List (Nat × Nat)) : lastRL s = (expandRL s).getLast? := by
  induction s with
  | nil => rfl
  | cons x s ih =>
    obtain ⟨d, n⟩ := x
    simp only [lastRL, expandRL, List.getLast?_append, List.getLast?_replicate, ih]
    cases (expandRL s).getLast? <;> simp

theorem getRL?_eq (s : List (Nat × Nat)) (i : Nat) : getRL? s i = (expandRL s)[i]? := by
  induction s generalizing i with
  | nil => rfl
  | cons x s ih =>
    obtain ⟨d, n⟩ := x
    simp only [getRL?, expandRL, List.getElem?_append, List.length_replicate,
      List.getElem?_replicate, ih]
    split <;> rfl

theorem positionRL_eq (p : Nat → Bool) (s : List (Nat × Nat)) :
    positionRL p s = position p (expandRL s) := by
  induction s with
  | nil => rfl
  | cons x s ih =>
    obtain ⟨d, n⟩ := x
    rw [positionRL, expandRL, position_replicate_append, ih]

theorem countOnesRL_eq (s : List (Nat × Nat)) : countOnesRL s = countOnesU (expandRL s) := by
  induction s with
  | nil => rfl
  | cons x s ih =>
    obtain ⟨d, n⟩ := x
    unfold countOnesU at ih ⊢
    simp only [countOnesRL, expandRL, List.map_append, List.sum_append, List.map_replicate,
      List.sum_replicate_nat, ih, Nat.mul_comm]

theorem bitsRL_eq (s : List (Nat × Nat)) : bitsRL s = bitsU (expandRL s) := by
  unfold bitsRL bitsU
  rw [lastRL_eq, lengthRL_eq]
  cases (expandRL s).getLast? <;> rfl

theorem trailingZerosRL_eq (s : List (Nat × Nat)) :
    trailingZerosRL s = trailingZerosU (expandRL s) := by
  unfold trailingZerosRL trailingZerosU
  rw [positionRL_eq]
  cases position (fun d => d != 0) (expandRL s) with
  | none => rfl
  | some i => simp only [getRL?_eq, List.getD_eq_getElem?_getD]

theorem trailingOnesRL_eq (s : List (Nat × Nat)) :
    trailingOnesRL s = trailingOnesU (expandRL s) := by
  unfold trailingOnesRL trailingOnesU
  rw [positionRL_eq, lengthRL_eq]
  cases position (fun d => dnot d != 0) (expandRL s) with
  | none => rfl
  | some i => simp only [getRL?_eq, List.getD_eq_getElem?_getD]

theorem bitRL_eq (s : List (Nat × Nat)) (k : Nat) : bitRL s k = bitU (expandRL s) k := by
  unfold bitRL bitU
  rw [getRL?_eq]
  cases (expandRL s)[k / BITS]? <;> rfl

/-- `BigUint::count_ones` on an RL operand: the number of set bits of the value -/
theorem count_ones_rl_spec (s : List (Nat × Nat)) (h : Canon (expandRL s)) :
    countOnesRL s =
      ((List.range (BITS * (expandRL s).length)).filter
        (fun i => (val (expandRL s)).testBit i)).length := by
  rw [countOnesRL_eq]; exact count_ones_spec_u (expandRL s) h

/-- `BigUint::count_ones` on an RL operand, with the digit count computed on the segments as well -/
theorem count_ones_rl_spec_len (s : List (Nat × Nat)) (h : Canon (expandRL s)) :
    countOnesRL s =
      ((List.range (BITS * lengthRL s)).filter (fun i => (val (expandRL s)).testBit i)).length := by
  rw [lengthRL_eq]; exact count_ones_rl_spec s h

/-- `BigUint::bits` on an RL operand: `Nat.size` of the value -/
theorem bits_rl_spec (s : List (Nat × Nat)) (h : Canon (expandRL s)) :
    bitsRL s = Nat.size (val (expandRL s)) := by
  rw [bitsRL_eq]; exact bits_spec_u (expandRL s) h

/-- `BigUint::trailing_zeros` on an RL operand: `None` exactly for zero, otherwise the exponent of
    2 in the value -/
theorem trailing_zeros_rl_spec (s : List (Nat × Nat)) (h : Canon (expandRL s)) :
    (val (expandRL s) = 0 → trailingZerosRL s = none) ∧
    (val (expandRL s) ≠ 0 →
      ∃ t m, trailingZerosRL s = some t ∧ val (expandRL s) = 2 ^ t * (2 * m + 1)) := by
  rw [trailingZerosRL_eq]; exact trailing_zeros_spec_u (expandRL s) h

/-- `BigUint::trailing_ones` on an RL operand: the exponent of 2 in `value + 1` -/
theorem trailing_ones_rl_spec (s : List (Nat × Nat)) (h : Canon (expandRL s)) :
    ∃ m, val (expandRL s) + 1 = 2 ^ (trailingOnesRL s) * (2 * m + 1) := by
  rw [trailingOnesRL_eq]; exact trailing_ones_spec_u (expandRL s) h

/-- `BigUint::trailing_ones` on an RL operand in bit form: the bits below it are set, the bit at it is clear -/
theorem trailing_ones_testBit_rl (s : List (Nat × Nat)) (h : Canon (expandRL s)) :
    (∀ j, j < trailingOnesRL s → (val (expandRL s)).testBit j = true) ∧
    (val (expandRL s)).testBit (trailingOnesRL s) = false := by
  rw [trailingOnesRL_eq]; exact trailing_ones_testBit_u (expandRL s) h

/-- `BigUint::bit` on an RL operand: `Nat.testBit` of the value -/
theorem bit_rl_spec (s : List (Nat × Nat)) (h : Canon (expandRL s)) (k : Nat) :
    bitRL s k = (val (expandRL s)).testBit k := by
  rw [bitRL_eq]; exact bit_spec_u (expandRL s) h k

/-! non-vacuity: concrete segment lists (zero-count segments, unmerged neighbours, all-ones
    runs, a canonical expansion) -/

/-- 3 zero digits, an empty segment, 0x…f0, 2 all-ones digits, digit 5, an empty top segment -/
def exRL : List (Nat × Nat) :=
  [(0, 3), (7, 0), (0xfffffffffffffff0, 1), (0xffffffffffffffff, 2), (5, 1), (9, 0)]

/-- 4 all-ones digits (split in two segments) then 0x00ff: trailing ones cross segments -/
def exRL1 : List (Nat × Nat) := [(0xffffffffffffffff, 3), (0xffffffffffffffff, 1), (0xff, 2)]

example : expandRL exRL =
    [0, 0, 0, 0xfffffffffffffff0, 0xffffffffffffffff, 0xffffffffffffffff, 5] := by decide
example : Canon (expandRL exRL) := by decide
example : Canon (expandRL exRL1) := by decide
example : lengthRL exRL = 7 ∧ lengthRL exRL = (expandRL exRL).length := by decide
example : countOnesRL exRL = 190 ∧ countOnesRL exRL = countOnesU (expandRL exRL) := by decide
example : bitsRL exRL = 387 ∧ bitsRL exRL = bitsU (expandRL exRL) := by decide
example : trailingZerosRL exRL = some 196 ∧
    trailingZerosRL exRL = trailingZerosU (expandRL exRL) := by decide
example : trailingZerosRL [(0, 5), (1, 0)] = none ∧
    trailingZerosU (expandRL [(0, 5), (1, 0)]) = none := by decide
example : trailingOnesRL exRL1 = 264 ∧ trailingOnesRL exRL1 = trailingOnesU (expandRL exRL1) := by
  decide
example : trailingOnesRL [(0xffffffffffffffff, 2), (3, 0)] = 128 ∧
    trailingOnesU (expandRL [(0xffffffffffffffff, 2), (3, 0)]) = 128 := by decide
example : trailingOnesRL exRL = 0 ∧ trailingOnesU (expandRL exRL) = 0 := by decide
example : bitRL exRL 196 = true ∧ bitRL exRL 195 = false ∧ bitRL exRL 384 = true ∧
    bitRL exRL 385 = false ∧ bitRL exRL 448 = false ∧
    (∀ k ∈ [0, 63, 191, 192, 195, 196, 255, 256, 383, 384, 385, 386, 447, 448, 1000],
      bitRL exRL k = bitU (expandRL exRL) k) := by decide

end NB.C07
