/-
  C05, layer link — modpow / modinv with every BigUint operator at digit level.

  NB.Model.ModPowD mirrors `plain_modpow`, `modpow` (src/biguint/power.rs), the operator steps of `monty_modpow`
  (`x %= m`, `rr = (1 << 2·64·n) % m`, the final `normalize / >= / -= / >= / %= / normalize`; src/biguint/monty.rs),
  `BigUint::modinv` (src/biguint.rs) and the sign placement of `BigInt::modpow` / `BigInt::modinv`
  (`&modulus.data - result`; src/bigint/power.rs, src/bigint.rs) on digit vectors, calling the digit-level models
  of the operators (`Mul.mulRef`, `Mul.mulAssign`, `remRef`, `divRemRef`, `subAssign`, `subRefVal`, `addRef`,
  `cmpSlice`, `C07.biguintShl`, `normalize`) and propagating each of their panics.

  The `…_refines` theorems say: digit level = value level (NB.Model.ModPow / NB.montyModpow), panics included, for
  canonical inputs; the `…_spec` theorems transfer the statements of C05 to the digit-level model.  Consequently no
  operator panic (`underflow` of `-`/`-=`, `divzero` of `%`/`div_rem`, `capacity`/`negshift` of `<<`, the internal
  assertions of `mac3`/`sub2rev`/Knuth division), no exhausted loop fuel of `modinvLoopD` (fuel
  `64·(len r0 + len r1) + 1`: the product `r0·r1` halves per Euclid step, `euclid_product_halves`) and no `u64`
  overflow of the shift amount is reachable for canonical inputs.

  Hypotheses beyond canonicity: `P.ValidModPowD` = window width valid and equal to the squarings per window (C05) ∧
  the multiplication thresholds valid (C02), discharged for the extracted parameters by `gen_params_valid_modpowD`;
  and, on the odd-modulus path only, `m.length < 2^57`, i.e. the `u64` product `2 * num_words * 64` of `monty_modpow`
  does not overflow (a modulus of 2^57 digits needs 2^60 bytes).

  Statements: `modpowD_spec`, `modinvD_spec`, `bigint_modpowD_spec`, `bigint_modinvD_spec` and the `…_refines` theorems
  are the property at digit level; `plain_modpowD_spec`, `monty_modpowD_spec` are their two arms.  `monty_shift_fits`
  and `monty_modpow_core_decomposition` (the shared `montyCore` is the middle of `montyModpow`) are auxiliary.

  The snake_case theorems of this file are the statements that are audited; where one repeats a camelCase lemma of
  NB.Lemmas.ModPowD / NB.Lemmas.Monty word for word, that lemma carries the proof.
-/
import NB.Lemmas.ModPowD
import NB.Props.C05
namespace NB

/-- what the operator theorems used by the digit-level model need: C05's window width and C02's thresholds
    (C01, C03, C07 have no parameter side conditions for the operators used here) -/
def Params.ValidModPowD (P : Params) : Prop := P.ValidMonty ∧ P.ValidMul
instance (P : Params) : Decidable P.ValidModPowD := by unfold Params.ValidModPowD; infer_instance

/-- the extracted parameters satisfy `ValidModPowD`: the window condition of C05 and the thresholds of C02 -/
theorem gen_params_valid_modpowD : NB.Gen.P.ValidModPowD := ⟨gen_params_valid_monty, gen_params_valid_mul⟩

/-- auxiliary: the bound `2^57` on the number of digits is the model's condition that `2·n·64` fits a `u64` -/
theorem monty_shift_fits {n : Nat} (h : n < 2 ^ 57) : 2 * n * BITS < C07.U64_RANGE := by
  unfold BITS C07.U64_RANGE B; omega

/-- digit level = value level, including every panic outcome -/
theorem plain_modpowD_refines (P : Params) (hP : P.ValidMul) (b e m : List Nat) (hb : Canon b) (hm : Canon m) :
    plainModpowD P b e m = (plainModpow (val b) e (val m)).map ofNat := by
  have := plainModpowD_ofNat P hP (val b) e (val m)
  rwa [← canon_eq_ofNat hb, ← canon_eq_ofNat hm] at this

theorem plain_modpowD_spec (P : Params) (hP : P.ValidMul) (b e m : List Nat) (hb : Canon b) (he : Canon e)
    (hm : Canon m) (hm0 : val m ≠ 0) :
    plainModpowD P b e m = .ok (ofNat (if val e = 0 then 1 else val b ^ val e % val m)) := by
  rw [plain_modpowD_refines P hP b e m hb hm, plain_modpow_spec (val b) e (val m) he hm0]; rfl

theorem plain_modpowD_zero_mod (P : Params) (b e : List Nat) : plainModpowD P b e [] = .error .zeromod := by
  simp [plainModpowD]

/-- `montyCore` (shared by the digit-level model) is literally the middle of the value-level `montyModpow`:
    for ALL arguments, without hypotheses, `montyModpow` = value-level preparation of `x` and `rr`, then
    `montyCore`, then the value-level final reduction -/
theorem monty_modpow_core_decomposition (P : Params) (x y : List Nat) (m0 : Nat) (mt : List Nat) :
    montyModpow P x y (m0 :: mt) =
      if m0 &&& 1 ≠ 1 then .error (.internal "monty_modpow: assert odd") else
      match invModAlt m0 with
      | .error e => .error e
      | .ok k =>
        let m := m0 :: mt
        let n := m.length
        let x := if x.length > n then ofNat (val x % val m) else x
        let x := if x.length < n then padTo x n else x
        let rr := ofNat (2 ^ (2 * n * BITS) % val m)
        let rr := if rr.length < n then padTo rr n else rr
        match montyCore P x rr m k n y with
        | .error e => .error e
        | .ok zz =>
          let v := val zz
          let vm := val m
          let v := if v ≥ vm then
              let v := v - vm
              if v ≥ vm then v % vm else v
            else v
          .ok (ofNat v) :=
  montyModpow_eq_core P x y m0 mt

theorem monty_modpowD_spec (P : Params) (hP : P.ValidMonty) (x y m : List Nat) (m0 : Nat) (mt : List Nat)
    (hm : m = m0 :: mt) (hodd : m0 % 2 = 1) (hx : Canon x) (hy : DigitsOk y) (hmc : Canon m)
    (hsz : m.length < 2 ^ 57) :
    montyModpowD P x y m = .ok (ofNat (val x ^ val y % val m)) :=
  montyModpowD_spec P hP.1 hP.2.1 hP.2.2.2 x y m m0 mt hm hodd hx hy hmc (monty_shift_fits hsz)

/-- the digit-level operator steps (`%=`, `<<`, `%`, `>=`, `-=`) compute what the value-level steps of
    `NB.montyModpow` compute -/
theorem monty_modpowD_refines (P : Params) (hP : P.ValidMonty) (x y m : List Nat) (m0 : Nat) (mt : List Nat)
    (hm : m = m0 :: mt) (hodd : m0 % 2 = 1) (hx : Canon x) (hy : DigitsOk y) (hmc : Canon m)
    (hsz : m.length < 2 ^ 57) :
    montyModpowD P x y m = montyModpow P x y m := by
  rw [monty_modpowD_spec P hP x y m m0 mt hm hodd hx hy hmc hsz,
    monty_modpow_spec P hP x y m m0 mt hm hodd hx.1 hy hmc.1]

theorem modpowD_zero_mod (P : Params) (b e : List Nat) : modpowD P b e [] = .error .zeromod := by
  simp [modpowD]

/-- digit level = value level for the public `modpow` -/
theorem modpowD_refines (P : Params) (hP : P.ValidModPowD) (b e m : List Nat) (hb : Canon b) (he : Canon e)
    (hm : Canon m) (hsz : m.length < 2 ^ 57) :
    modpowD P b e m = modpowU P b e m := by
  unfold modpowD modpowU
  cases m with
  | nil => rfl
  | cons m0 mt =>
    simp only [reduceCtorEq, if_false, isOddU]
    by_cases hodd : m0 % 2 = 1
    · simp only [hodd, decide_true, if_true]
      exact monty_modpowD_refines P hP.1 b e _ m0 mt rfl hodd hb he.1 hm hsz
    · simp only [hodd, decide_false, Bool.false_eq_true, if_false]
      rw [plain_modpowD_refines P hP.2 b e _ hb hm]
      cases plainModpow (val b) e (val (m0 :: mt)) <;> rfl

/-- `BigUint::modpow` at digit level: for every non-zero canonical modulus — odd (Montgomery core with
    digit-level preparation and final reduction) or even (square-and-multiply with digit-level `*`, `%`) — the
    result is the canonical representation of `b^e mod m`; no operator panics. -/
theorem modpowD_spec (P : Params) (hP : P.ValidModPowD) (b e m : List Nat) (hb : Canon b) (he : Canon e)
    (hm : Canon m) (hm0 : val m ≠ 0) (hsz : m.length < 2 ^ 57) :
    modpowD P b e m = .ok (ofNat (val b ^ val e % val m)) := by
  rw [modpowD_refines P hP b e m hb he hm hsz, modpow_spec P hP.1 b e m hb he hm hm0]

/-- digit level = value level, including every panic outcome; in particular the loop fuel never runs out -/
theorem modinvD_refines (P : Params) (hP : P.ValidMul) (a m : List Nat) (ha : Canon a) (hm : Canon m) :
    modinvD P a m = (modinvU (val a) (val m)).map (Option.map ofNat) := by
  have := modinvD_ofNat P hP (val a) (val m)
  rwa [← canon_eq_ofNat ha, ← canon_eq_ofNat hm] at this

/-- `BigUint::modinv` at digit level: `Some x` exactly when `gcd(a, m) = 1`; then `x` is canonical, `x < m`
    and `a·x ≡ 1 (mod m)`; never panics for `m ≠ 0`. -/
theorem modinvD_spec (P : Params) (hP : P.ValidMul) (a m : List Nat) (ha : Canon a) (hm : Canon m)
    (hm0 : val m ≠ 0) :
    ∃ r, modinvD P a m = .ok r ∧ (r.isSome ↔ Nat.gcd (val a) (val m) = 1) ∧
      ∀ x, r = some x → Canon x ∧ val x < val m ∧ val a * val x % val m = 1 % val m := by
  obtain ⟨r, h1, h2, h3⟩ := modinv_spec (val a) (val m) hm0
  refine ⟨r.map ofNat, ?_, ?_, ?_⟩
  · rw [modinvD_refines P hP a m ha hm, h1]; rfl
  · rw [Option.isSome_map]; exact h2
  · intro x hx
    cases r with
    | none => simp at hx
    | some v =>
      simp only [Option.map, Option.some.injEq] at hx
      subst hx
      rw [ofNat_val]
      exact ⟨ofNat_canon v, h3 v rfl⟩

theorem modinvD_zero_mod (P : Params) (a : List Nat) : modinvD P a [] = .error .zeromod := by
  simp [modinvD]

theorem bigint_modpowD_refines (P : Params) (hP : P.ValidModPowD) (b e m : BigInt) (hb : b.Canon) (he : e.Canon)
    (hm : m.Canon) (hsz : m.mag.length < 2 ^ 57) :
    BigInt.modpowD P b e m = BigInt.modpow P b e m := by
  apply bigint_modpowD_of P b e m hm
  intro hne
  have h0 : val m.mag ≠ 0 := Nat.pos_iff_ne_zero.mp (canon_val_pos hm.1 hne)
  exact ⟨_, modpowD_spec P hP b.mag e.mag m.mag hb.1 he.1 hm.1 h0 hsz,
    modpow_spec P hP.1 b.mag e.mag m.mag hb.1 he.1 hm.1 h0⟩

/-- `BigInt::modpow` with digit-level operators: a negative exponent and a zero modulus panic, otherwise the result is
    the canonical BigInt of `b^e` floor-mod `m` (sign of the modulus) -/
theorem bigint_modpowD_spec (P : Params) (hP : P.ValidModPowD) (b e m : BigInt) (hb : b.Canon) (he : e.Canon)
    (hm : m.Canon) (hsz : m.mag.length < 2 ^ 57) :
    BigInt.modpowD P b e m =
      if e.val < 0 then .error .negexp
      else if m.val = 0 then .error .zeromod
      else .ok (BigInt.ofInt (Int.fmod (b.val ^ e.val.toNat) m.val)) := by
  rw [bigint_modpowD_refines P hP b e m hb he hm hsz, bigint_modpow_spec P hP.1 b e m hb he hm]

theorem bigint_modinvD_refines (P : Params) (hP : P.ValidMul) (a m : BigInt) (ha : a.Canon) (hm : m.Canon) :
    BigInt.modinvD P a m = BigInt.modinv a m := by
  unfold BigInt.modinvD BigInt.modinv
  rw [modinvD_refines P hP _ _ ha.1 hm.1]
  cases modinvU (val a.mag) (val m.mag) with
  | error e => rfl
  | ok o =>
    cases o with
    | none => rfl
    | some r =>
      simp only [Except.map, Option.map, ofNat_eq_nil_iff]
      by_cases h0 : r = 0
      · simp only [h0, if_true]
      · simp only [h0, if_false]
        rw [signPlaceD_canon P _ _ hm.1]
        cases signPlace (decide (a.sign = .minus)) (decide (m.sign = .minus)) (val m.mag) r <;> rfl

/-- `BigInt::modinv` with digit-level operators, non-zero modulus: `Some y` exactly when `gcd(a, m) = 1`; then `y` is
    canonical, lies in `[0, m)` resp. `(m, 0]`, and `m ∣ a·y − 1` -/
theorem bigint_modinvD_spec (P : Params) (hP : P.ValidMul) (a m : BigInt) (ha : a.Canon) (hm : m.Canon)
    (hm0 : m.val ≠ 0) :
    ∃ r, BigInt.modinvD P a m = .ok r ∧ (r.isSome ↔ Int.gcd a.val m.val = 1) ∧
      ∀ y, r = some y → y.Canon ∧
        (if 0 < m.val then 0 ≤ y.val ∧ y.val < m.val else m.val < y.val ∧ y.val ≤ 0) ∧
        m.val ∣ a.val * y.val - 1 := by
  rw [bigint_modinvD_refines P hP a m ha hm]
  exact bigint_modinv_spec a m ha hm hm0

theorem bigint_modinvD_zero_mod (P : Params) (hP : P.ValidMul) (a m : BigInt) (ha : a.Canon) (hm : m.Canon)
    (hm0 : m.val = 0) :
    BigInt.modinvD P a m = .error .zeromod := by
  rw [bigint_modinvD_refines P hP a m ha hm]
  exact bigint_modinv_zero_mod a m hm hm0

/-! ## non-vacuity: the hypotheses are satisfiable on non-trivial inputs, and the digit-level model runs -/

example : NB.Gen.P.ValidModPowD := gen_params_valid_modpowD
example : Canon [B - 1, B - 1, 1] ∧ val [B - 1, B - 1, 1] ≠ 0 ∧ [B - 1, B - 1, 1].length < 2 ^ 57 := by decide
example : modpowD NB.Gen.P [5, 7] [3] [B - 1, 2] = .ok (ofNat ((5 + 7 * B) ^ 3 % (B - 1 + 2 * B))) :=
  modpowD_spec _ gen_params_valid_modpowD _ _ _ (by decide) (by decide) (by decide) (by decide) (by decide)
example : ∃ r, modinvD NB.Gen.P [3, 1] [B - 1, 5] = .ok r :=
  let ⟨r, h, _⟩ := modinvD_spec NB.Gen.P gen_params_valid_mul [3, 1] [B - 1, 5] (by decide) (by decide) (by decide)
  ⟨r, h⟩
example : modpowD NB.Gen.P [5, 7] [3] [B - 2, 2] = .ok (ofNat ((5 + 7 * B) ^ 3 % (B - 2 + 2 * B))) :=
  modpowD_spec _ gen_params_valid_modpowD _ _ _ (by decide) (by decide) (by decide) (by decide) (by decide)

end NB
