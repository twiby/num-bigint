/-
  C17 — Serialized form is the portable u32-digit format and round-trips exactly.

  Theorems about the executable model NB.Model.Serde (transcribed from src/biguint/serde.rs and
  src/bigint/serde.rs, 64-bit digit arms).  A Serializer is abstracted
  to what it is told (the declared sequence length and the u32 elements, the i8 sign), a
  Deserializer to the token list it replays plus its size hint.  Specs: Mathlib `Nat.digits` /
  `Nat.ofDigits` in base 2^32.  Hypotheses: canonical values on the serializing side; on the
  deserializing side any sequence of u32 values, any size hint, any sign value.

  Statements: the property is `ser_len`, `ser_spec`, `de_val`, `de_ser`, `de_tok_seq_spec`,
  `sign_tok_spec`, `bigint_ser_spec`, `bigint_de_val`, `bigint_de_ser`; the remaining theorems are
  their special cases and corollaries (`ser_sign_spec` is the first part of `bigint_ser_spec`,
  `sign_de_accept` three instances of `sign_round_trip`).  `deSign_eq_some` is a helper.
-/
import NB.Lemmas.Serde
namespace NB
open NB.Bytes NB.Iter NB.Serde

/-- the length announced to `serialize_seq` is exactly the number of elements emitted — for EVERY
    digit vector (also non-canonical ones) -/
theorem ser_len (d : List Nat) : (ser d).declared = some (ser d).elems.length := by
  rcases eq_nil_or_snoc d with rfl | ⟨init, last, rfl⟩
  · rfl
  · rw [ser_snoc]
    simp only [List.length_append, flat_length, List.length_cons, List.length_nil]
    split <;> rfl

/-- the elements are the base-2^32 digits of the value, least significant first, without a trailing
    zero digit; zero is the empty sequence — independent of the internal 64-bit digit width -/
theorem ser_spec (d : List Nat) (hc : Canon d) : (ser d).elems = Nat.digits (2 ^ 32) (val d) := by
  rw [ser_elems_eq_abs, abs_new hc, W_eq]

theorem ser_zero : ser [] = ⟨some 0, []⟩ := rfl

/-- the serialized elements are exactly what `to_u32_digits` / `iter_u32_digits` produce -/
theorem ser_eq_u32_digits (d : List Nat) (hc : Canon d) : (ser d).elems = toU32Digits d := by
  rw [ser_elems_eq_abs, toU32Digits_eq_abs d hc.1]

/-- deserializing ANY u32 sequence (odd or even length, trailing zero elements, empty), whatever the
    size hint (absent, wrong, huge), yields the canonical representation of `Σ wᵢ·2^(32i)` -/
theorem de_val (hint : Option Nat) (ws : List Nat) (h : Below (2 ^ 32) ws) :
    de hint ws = ofNat (Nat.ofDigits (2 ^ 32) ws) ∧ Canon (de hint ws) := by
  rw [← W_eq] at *
  rw [de_eq hint ws h, ← valBase_eq_ofDigits]
  exact ⟨rfl, ofNat_canon _⟩

/-- the size hint only selects a bounded initial capacity (≤ 2^17 digits): it can neither change the
    value nor cause an oversized allocation -/
theorem de_hint_irrelevant (h1 h2 : Option Nat) (ws : List Nat) :
    de h1 ws = de h2 ws ∧ (visitSeq h1 ws).1 ≤ 131072 := by
  refine ⟨rfl, ?_⟩
  -- `cautious` caps the hint at 2^20 bytes / 4 bytes per u32 = 262144 elements; two elements per digit
  have hc : cautious h1 ≤ 262144 := Nat.le_trans (Nat.min_le_right _ _) (by decide)
  exact Nat.le_of_lt_succ (Nat.div_lt_of_lt_mul (Nat.lt_succ_of_le (Nat.succ_le_succ hc)))

/-- trailing zero elements are redundant -/
theorem de_padding (hint : Option Nat) (ws : List Nat) (k : Nat) (h : Below (2 ^ 32) ws) :
    de hint (ws ++ List.replicate k 0) = de hint ws := by
  have hp : Below (2 ^ 32) (ws ++ List.replicate k 0) :=
    h.append (Below.replicate (by decide) k)
  rw [(de_val hint _ hp).1, (de_val hint _ h).1, Nat.ofDigits_append_replicate_zero]

/-- `deserialize(serialize(x)) == x` for every value, whatever hint the format passes on -/
theorem de_ser (hint : Option Nat) (d : List Nat) (hc : Canon d) : de hint (ser d).elems = d := by
  rw [ser_spec d hc]
  have hb : Below (2 ^ 32) (Nat.digits (2 ^ 32) (val d)) := Below.digits (by decide) _
  rw [(de_val hint _ hb).1, Nat.ofDigits_digits, ← canon_eq_ofNat hc]

/-- whatever integer kinds the format uses for the elements (`visit_u8 … visit_u64`, `visit_i8 … visit_i64`, mixed),
    the sequence is accepted exactly when every element is a ≤ 64-bit integer token whose VALUE is a u32, and the
    result is then the canonical representation of `Σ vᵢ·2^(32i)`; otherwise it is rejected -/
theorem de_tok_seq_spec (hint : Option Nat) (toks : List (TokKind × Int)) :
    (( ∀ t ∈ toks, t.1.accepted = true ∧ 0 ≤ t.2 ∧ t.2 < 2 ^ 32) →
        deTokSeq hint toks = some (ofNat (Nat.ofDigits (2 ^ 32) (toks.map (fun t => t.2.toNat))))) ∧
    ((∃ t ∈ toks, ¬ (t.1.accepted = true ∧ 0 ≤ t.2 ∧ t.2 < 2 ^ 32)) → deTokSeq hint toks = none) := by
  unfold deTokSeq
  constructor
  · intro hall
    have hb : Below (2 ^ 32) (toks.map (fun t => t.2.toNat)) := by
      intro x hx
      obtain ⟨t, ht, rfl⟩ := List.mem_map.mp hx
      obtain ⟨_, h0, hlt⟩ := hall t ht
      exact (Int.toNat_lt h0).mpr (by exact_mod_cast hlt)
    rw [(deElems_eq_some toks _).mpr ⟨hall, rfl⟩]
    exact congrArg some (de_val hint _ hb).1
  · rintro ⟨t, ht, hn⟩
    cases hr : deElems toks with
    | none => rfl
    | some ws => exact absurd (((deElems_eq_some toks ws).mp hr).1 t ht) hn

/-- a sign value other than −1, 0, 1 is rejected (also integers that do not fit an `i8`) -/
theorem sign_de_reject (v : Int) (h : v ≠ -1 ∧ v ≠ 0 ∧ v ≠ 1) : deSign v = none := by
  unfold deSign
  obtain ⟨h1, h2, h3⟩ := h
  simp [h1, h2, h3]

theorem sign_de_accept : deSign (-1) = some .minus ∧ deSign 0 = some .nosign ∧ deSign 1 = some .plus := by
  decide

theorem sign_round_trip (s : Sign) : deSign (serSign s) = some s := by cases s <;> decide

theorem deSign_eq_some (v : Int) (s : Sign) : deSign v = some s ↔ v = serSign s := by
  refine ⟨fun h => ?_, fun h => h ▸ sign_round_trip s⟩
  by_cases hv : ∃ s', v = serSign s'
  · obtain ⟨s', rfl⟩ := hv
    rw [sign_round_trip] at h
    rw [Option.some.inj h]
  · rw [sign_de_reject v ⟨fun e => hv ⟨.minus, e⟩, fun e => hv ⟨.nosign, e⟩, fun e => hv ⟨.plus, e⟩⟩] at h
    cases h

/-- the hints requested while decoding are exactly the kinds written while encoding the same value — for every value,
    so a format that decodes by hint (not self-describing) reads back what was written -/
theorem hints_match_ser_u (d : List Nat) : deHintsU (ser d).elems = serKindsU d := rfl

theorem hints_match_ser_i (x : BigInt) : deHintsI (serBigInt x).1 (serBigInt x).2.elems = serKindsI x := by
  simp [deHintsI, serKindsI, serBigInt, sign_round_trip, hints_match_ser_u]

/-- a rejected sign stops the decoding before the magnitude is requested -/
theorem hints_reject (v : Int) (toks : List Nat) (h : v ≠ -1 ∧ v ≠ 0 ∧ v ≠ 1) :
    deHintsI v toks = [.tuple2, .i8] := by
  simp [deHintsI, sign_de_reject v h]

/-- typed sign tokens: whatever integer type the format hands over (`visit_i8 … visit_i64`, `visit_u8 … visit_u64`),
    the token is accepted exactly when its VALUE is −1, 0 or 1 (so `u64::MAX`, `255u8`, `65535u16` … are rejected,
    they are not "−1 after a cast"), and 128-bit and non-integer tokens are always rejected -/
theorem sign_tok_spec (k : TokKind) (v : Int) (s : Sign) :
    deSignTok k v = some s ↔ k.accepted = true ∧ v = serSign s := by
  unfold deSignTok
  cases hk : k.accepted
  · simp
  · simp only [if_true, true_and]; exact deSign_eq_some v s

theorem sign_tok_reject (k : TokKind) (v : Int) (h : k.accepted = false ∨ (v ≠ -1 ∧ v ≠ 0 ∧ v ≠ 1)) :
    deSignTok k v = none := by
  unfold deSignTok
  rcases h with h | h
  · rw [h]; rfl
  · rw [sign_de_reject v h, ite_self]

/-- a typed sign token behaves exactly like the untyped value once its kind is accepted -/
theorem de_bigint_tok_eq (k : TokKind) (v : Int) (hint : Option Nat) (toks : List Nat) (hk : k.accepted = true) :
    deBigIntTok k v hint toks = deBigInt v hint toks := by
  simp [deBigIntTok, deBigInt, deSignTok, hk]

theorem de_bigint_tok_reject (k : TokKind) (v : Int) (hint : Option Nat) (toks : List Nat)
    (h : k.accepted = false ∨ (v ≠ -1 ∧ v ≠ 0 ∧ v ≠ 1)) : deBigIntTok k v hint toks = none := by
  simp [deBigIntTok, sign_tok_reject k v h]

/-- the serialized sign is −1, 0 or 1 and, for a canonical value, is the sign of the integer -/
theorem ser_sign_spec (x : BigInt) (hx : x.Canon) : (serBigInt x).1 = Int.sign x.val := by
  show serSign x.sign = _
  rcases bigint_canon_cases hx with ⟨hs, hv, hp⟩ | ⟨hs, hv, _⟩ | ⟨hs, hv, hp⟩ <;> rw [hs, hv]
  · exact (Int.sign_eq_neg_one_of_neg (Int.neg_neg_of_pos (Int.natCast_pos.mpr hp))).symm
  · rfl
  · exact (Int.sign_eq_one_of_pos (Int.natCast_pos.mpr hp)).symm

/-- a `BigInt` serializes as the pair (sign as −1/0/1, the u32 digits of the magnitude) -/
theorem bigint_ser_spec (x : BigInt) (hx : x.Canon) :
    (serBigInt x).1 = Int.sign x.val ∧
    (serBigInt x).2.elems = Nat.digits (2 ^ 32) x.val.natAbs ∧
    (serBigInt x).2.declared = some (serBigInt x).2.elems.length := by
  refine ⟨ser_sign_spec x hx, ?_, ser_len _⟩
  rw [bigint_natAbs_val hx]
  exact ser_spec x.mag hx.1

/-- ANY `(sign, sequence)` pair deserializes to the canonical value it denotes — inconsistent pairs
    (sign 0 with non-zero digits, sign ±1 with zero digits) are canonicalised exactly like
    `from_biguint` — and invalid signs are rejected -/
theorem bigint_de_val (v : Int) (hint : Option Nat) (ws : List Nat) (h : Below (2 ^ 32) ws) :
    deBigInt v hint ws =
      if v = -1 ∨ v = 0 ∨ v = 1 then some (BigInt.ofInt (v * ((Nat.ofDigits (2 ^ 32) ws : Nat) : Int))) else none := by
  unfold deBigInt
  rw [(de_val hint ws h).1]
  by_cases hv : ∃ s, v = serSign s
  · obtain ⟨s, rfl⟩ := hv
    rw [sign_round_trip]
    dsimp only
    rw [fromBiguint_eq_ofInt s (ofNat_canon _)]
    rw [if_pos (by cases s <;> decide)]
    cases s <;> simp only [BigInt.val, serSign, ofNat_val, neg_one_mul, zero_mul, one_mul]
  · have hm : v ≠ -1 := fun e => hv ⟨.minus, e⟩
    have h0 : v ≠ 0 := fun e => hv ⟨.nosign, e⟩
    have hp : v ≠ 1 := fun e => hv ⟨.plus, e⟩
    rw [sign_de_reject v ⟨hm, h0, hp⟩, if_neg (not_or.mpr ⟨hm, not_or.mpr ⟨h0, hp⟩⟩)]

/-- the result of a successful `BigInt` deserialization is always canonical -/
theorem bigint_de_canon (v : Int) (hint : Option Nat) (ws : List Nat) (h : Below (2 ^ 32) ws) (x : BigInt)
    (hx : deBigInt v hint ws = some x) : x.Canon := by
  rw [bigint_de_val v hint ws h] at hx
  split at hx
  · cases hx; exact bigint_ofInt_canon _
  · cases hx

/-- `deserialize(serialize(x)) == x` for every `BigInt` -/
theorem bigint_de_ser (hint : Option Nat) (x : BigInt) (hx : x.Canon) :
    deBigInt (serBigInt x).1 hint (serBigInt x).2.elems = some x := by
  unfold deBigInt serBigInt
  rw [sign_round_trip, de_ser hint x.mag hx.1]
  dsimp only
  rw [fromBiguint_eq_ofInt _ hx.1]
  exact congrArg some (bigint_canon_eq_ofInt hx).symm

/-! ## non-vacuity -/

example : (ser [0xffffffff00000001, 0x1]).elems = [1, 0xffffffff, 1] ∧ (ser [0xffffffff00000001, 0x1]).declared = some 3 := by
  decide
example : deBigInt (-1) (some 7) [0, 0, 0] = some ⟨.nosign, []⟩ := by decide
example : deBigInt 0 none [5, 6, 7] = some ⟨.nosign, []⟩ := by decide
example : deBigInt 2 none [5] = none ∧ deBigInt 300 none [5] = none := by decide

end NB
