/-
  C04 — Equal integers are indistinguishable: Eq, Ord, Hash and exports follow the value.

  All statements are about the model NB.Model.Core (written from src/biguint.rs, src/bigint.rs,
  src/bigint/convert.rs, and the generator impls of src/biguint/arbitrary.rs, src/bigint/arbitrary.rs;
  correspondence-checked against the real crate).  Hypotheses: operands are canonical (`Canon`,
  `BigInt.Canon`); constructor inputs are ARBITRARY u32 words (`WordsOk`: redundant high zero words
  allowed) with ANY Sign request, also one inconsistent with the magnitude; the history theorems
  need `OpsValid P` (the parameter conditions of the operations, discharged for the extracted
  parameters by `gen_params_valid_ops`); the `Arbitrary` theorems take any buffer of bytes (`BytesOk`).

  Statements: `biguint_canon_unique`, `bigint_repr_unique`, `*_export_congr`, `*_eq_iff_val`,
  `*_cmp_spec`, `*_le_spec`, `*_lt_spec`, `*_hash_iff`, `nosign_iff_zero`, the constructor theorems
  (`biguint_new_spec` … `bigint_assign_from_slice_spec`, `ctor_canon`), the history theorems
  `reachable_eq` / `reachable_canon` / `reachable_val` / `history_*_indistinguishable`, and
  `arb_biguint_spec` / `arb_biguint_canon` / `arb_bigint_canon`.  Everything else is a step towards these.

  The history theorems range over `uOps` / `iOps` of NB.Model.Core: for both types `+=`, `-=`, `*=`
  (register operand and the u32/u64/u128 — BigInt: u128/i128 — scalar forms), `/=`, `%=` (a zero
  divisor is a documented failure: not executed), `<<=`, `>>=` (usize amounts), `&=`, `|=`, `^=`,
  `set_bit`, `set_zero`, `set_one`, `clone_from`, `assign_from_slice`, and negation for BigInt.
  Their soundness lemmas are in NB.Lemmas.Core and rest on the operation theorems of C01, C02,
  C03, C07; the spec machine's bit operations on `Int` are Mathlib's `Int.land/lor/xor/ldiff`.
  Adding an operation = one `…Op.Sound` lemma + one entry in the tuples of `uOps_sound` / `iOps_sound`.
  std's hasher is not modelled: `hashInput` is what `Hash::hash` feeds to it.
-/
import NB.Lemmas.Core
namespace NB
open Core

/-- two canonical digit vectors denoting the same natural number are the same vector -/
theorem biguint_canon_unique {a b : List Nat} (ha : Canon a) (hb : Canon b) (h : val a = val b) : a = b :=
  canon_unique ha hb h

/-- two canonical BigInts denoting the same integer are the same (sign, digits) pair -/
theorem bigint_repr_unique {x y : BigInt} (hx : x.Canon) (hy : y.Canon) (h : x.val = y.val) : x = y :=
  bigint_canon_unique hx hy h

/-- every observation (export, comparison, hash, text, bytes …) of a canonical BigUint is a
    function of its value -/
theorem biguint_export_congr {α : Sort _} (f : List Nat → α) {a b : List Nat} (ha : Canon a) (hb : Canon b)
    (h : val a = val b) : f a = f b := by rw [canon_unique ha hb h]

theorem bigint_export_congr {α : Sort _} (f : BigInt → α) {x y : BigInt} (hx : x.Canon) (hy : y.Canon)
    (h : x.val = y.val) : f x = f y := by rw [bigint_canon_unique hx hy h]

/-- `to_u64_digits` exports the canonical digit vector of the value (`ofNat`: its base-2^64 digits,
    least significant first, no high zero) -/
theorem to_u64_digits_spec {a : List Nat} (ha : Canon a) : BigUint.toU64Digits a = ofNat (val a) :=
  canon_eq_ofNat ha

/-- `NoSign` exactly for zero -/
theorem nosign_iff_zero {x : BigInt} (hx : x.Canon) : x.sign = .nosign ↔ x.val = 0 :=
  (bigint_canon_sign hx).2.1

theorem biguint_eq_iff_val {a b : List Nat} (ha : Canon a) (hb : Canon b) :
    BigUint.eq a b = true ↔ val a = val b := by
  unfold BigUint.eq
  rw [beq_iff_eq]
  exact ⟨fun h => by rw [h], canon_unique ha hb⟩

theorem bigint_eq_iff_val {x y : BigInt} (hx : x.Canon) (hy : y.Canon) :
    BigInt.eq x y = true ↔ x.val = y.val := by
  constructor
  · intro h
    unfold BigInt.eq BigUint.eq at h
    simp only [Bool.and_eq_true, Bool.or_eq_true, beq_iff_eq] at h
    obtain ⟨hs, hm⟩ := h
    rcases hm with hm | hm
    · exact ((nosign_iff_zero hx).mp hm).trans ((nosign_iff_zero hy).mp (hs ▸ hm)).symm
    · rw [bigint_val_eq x, bigint_val_eq y, hs, hm]
  · intro h
    have := bigint_canon_unique hx hy h
    subst this
    simp [BigInt.eq, BigUint.eq]

theorem biguint_cmp_spec {a b : List Nat} (ha : Canon a) (hb : Canon b) :
    BigUint.cmp a b = compare (val a) (val b) := cmpSlice_spec ha hb

/-- two comparisons with the same `<` and `>` cases agree -/
theorem compare_congr {α β : Type} [LinearOrder α] [LinearOrder β] {a b : α} {c d : β}
    (hlt : a < b ↔ c < d) (hgt : b < a ↔ d < c) : compare a b = compare c d := by
  rcases lt_trichotomy c d with h | rfl | h
  · rw [compare_lt_iff_lt.mpr h, compare_lt_iff_lt]; exact hlt.mpr h
  · rw [compare_eq_iff_eq.mpr rfl, compare_eq_iff_eq]
    exact le_antisymm (not_lt.mp (mt hgt.mp (lt_irrefl c))) (not_lt.mp (mt hlt.mp (lt_irrefl c)))
  · rw [compare_gt_iff_gt.mpr h, compare_gt_iff_gt]; exact hgt.mpr h

/-- `BigInt::cmp` is the numerical order of the denoted integers (sign first, magnitudes
    reversed for negatives) -/
theorem bigint_cmp_spec {x y : BigInt} (hx : x.Canon) (hy : y.Canon) :
    BigInt.cmp x y = compare x.val y.val := by
  rcases x with ⟨sx, mx⟩
  rcases y with ⟨sy, my⟩
  have px : sx ≠ .nosign → (0 : Int) < val mx := fun h =>
    Int.natCast_pos.mpr (canon_val_pos hx.1 (mt hx.2.mpr h))
  have py : sy ≠ .nosign → (0 : Int) < val my := fun h =>
    Int.natCast_pos.mpr (canon_val_pos hy.1 (mt hy.2.mpr h))
  symm
  cases sx <;> cases sy
  · exact (compare_congr (Int.neg_lt_neg_iff.trans Int.ofNat_lt) (Int.neg_lt_neg_iff.trans Int.ofNat_lt)).trans
      (cmpSlice_spec hy.1 hx.1).symm
  · exact compare_lt_iff_lt.mpr (Int.neg_neg_of_pos (px nofun))
  · exact compare_lt_iff_lt.mpr (Int.lt_trans (Int.neg_neg_of_pos (px nofun)) (py nofun))
  · exact compare_gt_iff_gt.mpr (Int.neg_neg_of_pos (py nofun))
  · exact compare_eq_iff_eq.mpr rfl
  · exact compare_lt_iff_lt.mpr (py nofun)
  · exact compare_gt_iff_gt.mpr (Int.lt_trans (Int.neg_neg_of_pos (py nofun)) (px nofun))
  · exact compare_gt_iff_gt.mpr (px nofun)
  · exact (compare_congr Int.ofNat_lt Int.ofNat_lt).trans (cmpSlice_spec hx.1 hy.1).symm

theorem ordIsLe_compare {α : Type} [LinearOrder α] (a b : α) : ordIsLe (compare a b) = true ↔ a ≤ b := by
  rcases lt_trichotomy a b with h | h | h
  · rw [compare_lt_iff_lt.mpr h]; exact iff_of_true rfl h.le
  · rw [compare_eq_iff_eq.mpr h]; exact iff_of_true rfl h.le
  · rw [compare_gt_iff_gt.mpr h]; exact iff_of_false nofun (not_le.mpr h)

/-- `<=` (default `PartialOrd::le` through `cmp`) is numerical `≤` -/
theorem bigint_le_spec {x y : BigInt} (hx : x.Canon) (hy : y.Canon) :
    ordIsLe (BigInt.cmp x y) = true ↔ x.val ≤ y.val := by
  rw [bigint_cmp_spec hx hy]; exact ordIsLe_compare _ _

theorem biguint_le_spec {a b : List Nat} (ha : Canon a) (hb : Canon b) :
    ordIsLe (BigUint.cmp a b) = true ↔ val a ≤ val b := by
  rw [biguint_cmp_spec ha hb]; exact ordIsLe_compare _ _

/-- equal integers feed identical data to the hasher, different integers different data (no
    collision before the hasher) -/
theorem biguint_hash_iff {a b : List Nat} (ha : Canon a) (hb : Canon b) :
    BigUint.hashInput a = BigUint.hashInput b ↔ val a = val b := by
  refine ⟨fun h => ?_, biguint_export_congr _ ha hb⟩
  unfold BigUint.hashInput at h
  rw [(List.cons.inj h).2]

/-- the sign code on the wire decodes the discriminant -/
theorem Sign.ofCode_disc (s : Sign) : Sign.ofCode (Sign.disc s) = some s := by cases s <;> rfl

theorem bigint_hash_iff {x y : BigInt} (hx : x.Canon) (hy : y.Canon) :
    BigInt.hashInput x = BigInt.hashInput y ↔ x.val = y.val := by
  refine ⟨fun h => ?_, bigint_export_congr _ hx hy⟩
  unfold BigInt.hashInput at h
  obtain ⟨h1, h2⟩ := List.cons.inj h
  have hs : x.sign = y.sign := Option.some.inj (by rw [← Sign.ofCode_disc x.sign, h1, Sign.ofCode_disc])
  by_cases hn : x.sign = .nosign
  · exact ((nosign_iff_zero hx).mp hn).trans ((nosign_iff_zero hy).mp (hs ▸ hn)).symm
  · have hn' : y.sign ≠ .nosign := hs ▸ hn
    simp only [ne_eq, hn, hn', not_false_eq_true, if_true, BigUint.hashInput] at h2
    rw [bigint_val_eq x, bigint_val_eq y, hs, (List.cons.inj h2).2]

/-! ## constructors: arbitrary input → canonical representation of the denoted value -/

/-- `biguint_from_vec` (internal constructor): any proper digit vector, any number of high zeros -/
theorem biguint_from_vec_spec (ds : List Nat) (h : DigitsOk ds) : BigUint.fromVec ds = ofNat (val ds) :=
  normalize_eq_ofNat h

/-- `BigUint::new` with arbitrary u32 words (any number of trailing zero words, odd or even count) -/
theorem biguint_new_spec (ws : List Nat) (h : WordsOk ws) : BigUint.new ws = ofNat (val32 ws) :=
  assignFromSlice_eq _ ws h

theorem biguint_from_slice_spec (ws : List Nat) (h : WordsOk ws) : BigUint.fromSlice ws = ofNat (val32 ws) :=
  assignFromSlice_eq _ ws h

/-- `assign_from_slice` overwrites whatever the target held (no hypothesis on `old`) -/
theorem biguint_assign_from_slice_spec (old ws : List Nat) (h : WordsOk ws) :
    BigUint.assignFromSlice old ws = ofNat (val32 ws) := assignFromSlice_eq old ws h

/-- `BigInt::from_biguint` with ANY sign request: `NoSign` forces zero, a zero magnitude forces `NoSign` -/
theorem bigint_from_biguint_spec (s : Sign) (m : List Nat) (h : Canon m) :
    BigInt.fromBiguint s m = BigInt.ofInt (Sign.toInt s * (val m : Int)) := fromBiguint_eq s h

theorem bigint_new_spec (s : Sign) (ws : List Nat) (h : WordsOk ws) :
    BigInt.new s ws = BigInt.ofInt (Sign.toInt s * (val32 ws : Int)) := by
  unfold BigInt.new
  rw [biguint_new_spec ws h, fromBiguint_eq s (ofNat_canon _), ofNat_val]

theorem bigint_from_slice_spec (s : Sign) (ws : List Nat) (h : WordsOk ws) :
    BigInt.fromSlice s ws = BigInt.ofInt (Sign.toInt s * (val32 ws : Int)) := bigint_new_spec s ws h

/-- `BigInt::assign_from_slice` with any sign request, whatever the target held -/
theorem bigint_assign_from_slice_spec (x : BigInt) (s : Sign) (ws : List Nat) (h : WordsOk ws) :
    BigInt.assignFromSlice x s ws = BigInt.ofInt (Sign.toInt s * (val32 ws : Int)) :=
  bigint_assignFromSlice_eq x s ws h

/-- the results of all constructors are canonical -/
theorem ctor_canon (s : Sign) (ws old : List Nat) (x : BigInt) (h : WordsOk ws) :
    Canon (BigUint.new ws) ∧ Canon (BigUint.fromSlice ws) ∧ Canon (BigUint.assignFromSlice old ws) ∧
    (BigInt.new s ws).Canon ∧ (BigInt.fromSlice s ws).Canon ∧ (BigInt.assignFromSlice x s ws).Canon := by
  rw [biguint_new_spec ws h, biguint_from_slice_spec ws h, biguint_assign_from_slice_spec old ws h,
    bigint_new_spec s ws h, bigint_from_slice_spec s ws h, bigint_assign_from_slice_spec x s ws h]
  exact ⟨ofNat_canon _, ofNat_canon _, ofNat_canon _, bigint_ofInt_canon _, bigint_ofInt_canon _, bigint_ofInt_canon _⟩

/-- every operation of `uOps` is sound (one entry per operation) -/
theorem uOps_sound : ∀ o ∈ uOps, o.Sound := by
  unfold uOps
  simp only [List.forall_mem_cons, List.not_mem_nil, false_imp_iff, implies_true, and_true]
  exact ⟨uAddOp_sound, uSubOp_sound, uZeroOp_sound, uOneOp_sound, uCloneOp_sound, uAsgOp_sound,
    uMulOp_sound, uMul32Op_sound, uMul64Op_sound, uMul128Op_sound, uDivOp_sound, uRemOp_sound,
    uShlOp_sound, uShrOp_sound, uAndOp_sound, uOrOp_sound, uXorOp_sound, uSetBitOp_sound⟩

/-- every operation of `iOps` is sound (one entry per operation) -/
theorem iOps_sound : ∀ o ∈ iOps, o.Sound := by
  unfold iOps
  simp only [List.forall_mem_cons, List.not_mem_nil, false_imp_iff, implies_true, and_true]
  exact ⟨iAddOp_sound, iSubOp_sound, iZeroOp_sound, iOneOp_sound, iCloneOp_sound, iAsgOp_sound, iNegOp_sound,
    iMulOp_sound, iMul128Op_sound, iMulI128Op_sound, iDivOp_sound, iRemOp_sound,
    iShlOp_sound, iShrOp_sound, iAndOp_sound, iOrOp_sound, iXorOp_sound, iSetBitOp_sound⟩

/-- proof obligation over the parameters extracted from the source (NB.Gen.Params) -/
theorem gen_params_valid_ops : OpsValid NB.Gen.P := by decide

theorem toOption_cases {α β : Type} {f : β → α} {e : Except Panic α} {s : Option β} (h : e.toOption = s.map f) :
    (∃ p, e = .error p ∧ s = none) ∨ (∃ v, e = .ok (f v) ∧ s = some v) := by
  match e, s, h with
  | .error p, none, _ => exact .inl ⟨p, rfl, rfl⟩
  | .ok a, some v, h => exact .inr ⟨v, congrArg _ (Option.some.inj h), rfl⟩
  | .error _, some _, h => cases h
  | .ok _, none, h => cases h

/-- one machine step on canonical representations = one spec step on the values -/
theorem step_repr (P : Params) (hP : OpsValid P) (s : SRegs) (op : Op) :
    (s.repr).step P op = (s.step op).repr := by
  cases op with
  | u name dst src imm =>
    simp only [Regs.step, SRegs.step, SRegs.repr, List.getElem?_map]
    rcases hf : findU name with _ | o
    · rfl
    rcases s.u[dst]? with _ | x
    · rfl
    rcases s.u[src]? with _ | y
    · rfl
    by_cases hi : o.immOk imm = true
    · have hmem : o ∈ uOps := List.mem_of_find?_eq_some hf
      have := uOps_sound o hmem P (hP.1 o hmem) (ofNat x) (ofNat y) imm (ofNat_canon _) (ofNat_canon _) hi
      rw [ofNat_val, ofNat_val] at this
      simp only [Option.map_some, if_pos hi]
      rcases toOption_cases this with ⟨p, he, hs⟩ | ⟨v, he, hs⟩ <;> rw [he, hs]
      simp only [List.map_set]
    · simp only [Option.map_some, if_neg hi]
  | i name dst src imm =>
    simp only [Regs.step, SRegs.step, SRegs.repr, List.getElem?_map]
    rcases hf : findI name with _ | o
    · rfl
    rcases s.i[dst]? with _ | x
    · rfl
    rcases s.i[src]? with _ | y
    · rfl
    by_cases hi : o.immOk imm = true
    · have hmem : o ∈ iOps := List.mem_of_find?_eq_some hf
      have := iOps_sound o hmem P (hP.2 o hmem) (BigInt.ofInt x) (BigInt.ofInt y) imm
        (bigint_ofInt_canon _) (bigint_ofInt_canon _) hi
      rw [bigint_ofInt_val, bigint_ofInt_val] at this
      simp only [Option.map_some, if_pos hi]
      rcases toOption_cases this with ⟨p, he, hs⟩ | ⟨v, he, hs⟩ <;> rw [he, hs]
      simp only [List.map_set]
    · simp only [Option.map_some, if_neg hi]

theorem run_repr (P : Params) (hP : OpsValid P) (ops : List Op) (s : SRegs) :
    (s.repr).run P ops = (s.run ops).repr := by
  induction ops generalizing s with
  | nil => rfl
  | cons op ops ih =>
    simp only [Regs.run, SRegs.run, List.foldl_cons] at *
    rw [step_repr P hP s op]
    exact ih (s.step op)

theorem repr_vals {r : Regs} (h : r.Canon) : r.vals.repr = r := by
  rcases r with ⟨u, i⟩
  simp only [Regs.vals, SRegs.repr, List.map_map, Regs.mk.injEq]
  exact ⟨(List.map_congr_left fun a ha => (canon_eq_ofNat (h.1 a ha)).symm).trans (List.map_id u),
    (List.map_congr_left fun x hx => (bigint_canon_eq_ofInt (h.2 x hx)).symm).trans (List.map_id i)⟩

theorem vals_repr (s : SRegs) : s.repr.vals = s := by
  rcases s with ⟨u, i⟩
  simp only [Regs.vals, SRegs.repr, List.map_map, SRegs.mk.injEq]
  exact ⟨(List.map_congr_left fun a _ => ofNat_val a).trans (List.map_id u),
    (List.map_congr_left fun x _ => bigint_ofInt_val x).trans (List.map_id i)⟩

theorem repr_canon (s : SRegs) : s.repr.Canon := by
  constructor
  · intro a ha
    obtain ⟨n, _, rfl⟩ := List.mem_map.mp ha
    exact ofNat_canon n
  · intro x hx
    obtain ⟨n, _, rfl⟩ := List.mem_map.mp hx
    exact bigint_ofInt_canon n

/-- After any finite history of in-place operations started from canonical registers, the machine
    state is exactly the canonical representation of the state of the spec machine over Nat / Int. -/
theorem reachable_eq (P : Params) (hP : OpsValid P) (ops : List Op) (r : Regs) (hr : r.Canon) :
    r.run P ops = (r.vals.run ops).repr := by
  conv_lhs => rw [← repr_vals hr]
  exact run_repr P hP ops r.vals

/-- every value reachable by any history of the listed public operations is canonical -/
theorem reachable_canon (P : Params) (hP : OpsValid P) (ops : List Op) (r : Regs) (hr : r.Canon) :
    (r.run P ops).Canon := by
  rw [reachable_eq P hP ops r hr]; exact repr_canon _

/-- the registers track the mathematical values of the spec machine -/
theorem reachable_val (P : Params) (hP : OpsValid P) (ops : List Op) (r : Regs) (hr : r.Canon) :
    (r.run P ops).vals = r.vals.run ops := by
  rw [reachable_eq P hP ops r hr]; exact vals_repr _

/-- the element-wise reading of `reachable_canon` -/
theorem reachable_canon_mem (P : Params) (hP : OpsValid P) (ops : List Op) (r : Regs) (hr : r.Canon) :
    (∀ a ∈ (r.run P ops).u, Canon a) ∧ (∀ x ∈ (r.run P ops).i, BigInt.Canon x) :=
  reachable_canon P hP ops r hr

/-- values reached along two different histories are indistinguishable exactly when they denote the
    same integer: identical representation (hence identical exports), `==`, `cmp`, hash input -/
theorem history_biguint_indistinguishable (P : Params) (hP : OpsValid P) (ops₁ ops₂ : List Op) (r₁ r₂ : Regs)
    (h₁ : r₁.Canon) (h₂ : r₂.Canon) (a b : List Nat)
    (ha : a ∈ (r₁.run P ops₁).u) (hb : b ∈ (r₂.run P ops₂).u) :
    (a = b ↔ val a = val b) ∧ (BigUint.eq a b = true ↔ val a = val b) ∧
    BigUint.cmp a b = compare (val a) (val b) ∧
    (BigUint.hashInput a = BigUint.hashInput b ↔ val a = val b) := by
  have ca := (reachable_canon P hP ops₁ r₁ h₁).1 a ha
  have cb := (reachable_canon P hP ops₂ r₂ h₂).1 b hb
  exact ⟨⟨fun h => by rw [h], canon_unique ca cb⟩, biguint_eq_iff_val ca cb, biguint_cmp_spec ca cb,
    biguint_hash_iff ca cb⟩

theorem history_bigint_indistinguishable (P : Params) (hP : OpsValid P) (ops₁ ops₂ : List Op) (r₁ r₂ : Regs)
    (h₁ : r₁.Canon) (h₂ : r₂.Canon) (x y : BigInt)
    (hx : x ∈ (r₁.run P ops₁).i) (hy : y ∈ (r₂.run P ops₂).i) :
    (x = y ↔ x.val = y.val) ∧ (BigInt.eq x y = true ↔ x.val = y.val) ∧
    BigInt.cmp x y = compare x.val y.val ∧
    (BigInt.hashInput x = BigInt.hashInput y ↔ x.val = y.val) ∧
    (x.sign = .nosign ↔ x.val = 0) := by
  have cx := (reachable_canon P hP ops₁ r₁ h₁).2 x hx
  have cy := (reachable_canon P hP ops₂ r₂ h₂).2 y hy
  exact ⟨⟨fun h => by rw [h], bigint_canon_unique cx cy⟩, bigint_eq_iff_val cx cy, bigint_cmp_spec cx cy,
    bigint_hash_iff cx cy, nosign_iff_zero cx⟩

/-! ## `PartialOrd`, and the values produced by the `Arbitrary` generator impls -/

/-- `partial_cmp` is `Some` of the numerical order -/
theorem biguint_partial_cmp_spec {a b : List Nat} (ha : Canon a) (hb : Canon b) :
    BigUint.partialCmp a b = some (compare (val a) (val b)) := by
  unfold BigUint.partialCmp; rw [biguint_cmp_spec ha hb]

theorem bigint_partial_cmp_spec {x y : BigInt} (hx : x.Canon) (hy : y.Canon) :
    BigInt.partialCmp x y = some (compare x.val y.val) := by
  unfold BigInt.partialCmp; rw [bigint_cmp_spec hx hy]

theorem pLt_compare {α : Type} [LinearOrder α] (a b : α) : pLt (some (compare a b)) = true ↔ a < b := by
  rw [← compare_lt_iff_lt]
  cases compare a b <;> simp [pLt]

/-- the provided `<` of `PartialOrd` is numerical `<` (both types) -/
theorem biguint_lt_spec {a b : List Nat} (ha : Canon a) (hb : Canon b) :
    pLt (BigUint.partialCmp a b) = true ↔ val a < val b := by
  rw [biguint_partial_cmp_spec ha hb]; exact pLt_compare _ _

theorem bigint_lt_spec {x y : BigInt} (hx : x.Canon) (hy : y.Canon) :
    pLt (BigInt.partialCmp x y) = true ↔ x.val < y.val := by
  rw [bigint_partial_cmp_spec hx hy]; exact pLt_compare _ _

/-- bytes are `u8`s (the type invariant of `&[u8]`) -/
def BytesOk (bs : List Nat) : Prop := ∀ b ∈ bs, b < 256

theorem leBytes_lt (l : List Nat) (h : BytesOk l) : leBytes l < 256 ^ l.length := by
  induction l with
  | nil => exact Nat.one_pos
  | cons b bs ih =>
    have hb : b < 256 := h b (List.mem_cons_self ..)
    have := ih fun x hx => h x (List.mem_cons_of_mem _ hx)
    rw [List.length_cons, Nat.pow_succ']
    calc b + 256 * leBytes bs < 256 * (leBytes bs + 1) := by omega
      _ ≤ 256 * 256 ^ bs.length := Nat.mul_le_mul_left _ this

theorem leBytes_take_lt_B (l : List Nat) (h : BytesOk l) : leBytes (l.take u64Bytes) < B :=
  calc leBytes (l.take u64Bytes) < 256 ^ (l.take u64Bytes).length :=
        leBytes_lt _ fun x hx => h x (List.mem_of_mem_take hx)
    _ ≤ 256 ^ 8 := Nat.pow_le_pow_right (by decide) (List.length_take_le ..)
    _ = B := by decide

/-- every element decoded by the `arbitrary` crate's `Vec<u64>` impl is a proper digit -/
theorem arbVecU64_digitsOk (fuel : Nat) (bs : List Nat) (h : BytesOk bs) : DigitsOk (arbVecU64 fuel bs).1 := by
  induction fuel generalizing bs with
  | zero => simp [arbVecU64]; exact DigitsOk.nil
  | succ n ih =>
    cases bs with
    | nil => simp [arbVecU64]; exact DigitsOk.nil
    | cons b rest =>
      have hrest : BytesOk rest := fun x hx => h x (by simp [hx])
      simp only [arbVecU64]
      split
      · exact DigitsOk.cons (leBytes_take_lt_B rest hrest)
          (ih _ (fun x hx => hrest x (List.mem_of_mem_drop hx)))
      · exact DigitsOk.nil

/-- `arbitrary::Arbitrary for BigUint` (both `arbitrary` and `arbitrary_take_rest`): for EVERY byte buffer the
    result is the canonical representation of the integer denoted by the decoded digit vector — whatever number
    of high zero digits the buffer encodes -/
theorem arb_biguint_spec (bs : List Nat) (h : BytesOk bs) :
    BigUint.arbitrary bs = ofNat (val (arbVecU64 (bs.length + 1) bs).1) := by
  unfold BigUint.arbitrary
  exact biguint_from_vec_spec _ (arbVecU64_digitsOk _ _ h)

theorem arb_biguint_canon (bs : List Nat) (h : BytesOk bs) : Canon (BigUint.arbitrary bs) := by
  rw [arb_biguint_spec bs h]; exact ofNat_canon _

/-- `arbitrary::Arbitrary for BigInt`: canonical for every byte buffer (a zero magnitude gives `NoSign` whichever
    sign the leading bool byte requests) -/
theorem arb_bigint_canon (bs : List Nat) (h : BytesOk bs) : (BigInt.arbitrary bs).Canon := by
  unfold BigInt.arbitrary
  have hd : BytesOk (bs.drop 1) := fun x hx => h x (List.mem_of_mem_drop hx)
  rw [bigint_from_biguint_spec _ _ (arb_biguint_canon _ hd)]
  exact bigint_ofInt_canon _

/-! ## non-vacuity -/

-- redundant high zero words, odd word count
example : BigUint.new [0xffffffff, 1, 0, 0, 0] = [0x1ffffffff] := by decide +kernel
example : BigInt.new .nosign [1] = ⟨.nosign, []⟩ ∧ BigInt.new .minus [0, 0, 0] = ⟨.nosign, []⟩ := by decide +kernel
-- length first: a shorter vector of large digits is smaller than a longer one of small digits
example : BigUint.cmp [B - 1, B - 1] [0, 0, 1] = .lt ∧ BigInt.cmp ⟨.minus, [B - 1, B - 1]⟩ ⟨.minus, [0, 0, 1]⟩ = .gt := by
  decide +kernel
-- a history that grows a register by a carry and shrinks it back; a failed `-=` leaves the register alone
example : (Regs.run NB.Gen.P
      [.u "add" 0 1 [], .u "sub" 0 1 [], .u "sub" 2 0 [], .i "add" 0 1 [], .i "neg" 0 0 [], .i "asg" 1 1 [1, 7, 0, 0]]
      ⟨[[B - 1, B - 1], [1], [5]], [⟨.minus, [3]⟩, ⟨.plus, [3]⟩]⟩)
    = ⟨[[B - 1, B - 1], [1], [5]], [⟨.nosign, []⟩, ⟨.nosign, []⟩]⟩ := by decide +kernel
-- `-(2^64)` with bit 0 set loses its top digit; zero times a two-digit scalar
-- is the empty vector; `>>=` / `%=` down to zero; `/=` shortening; a zero divisor leaves the register alone
example : (Regs.run NB.Gen.P
      [.i "setbit" 0 0 [0, 1], .u "mul128" 0 0 [0, 1], .u "shr" 1 1 [64], .u "div" 2 0 [], .u "rem" 2 2 [],
       .i "and" 1 0 [], .i "div" 1 1 []]
      ⟨[[], [7], [5]], [⟨.minus, [0, 1]⟩, ⟨.plus, [0, 0, 4]⟩]⟩)
    = ⟨[[], [], []], [⟨.minus, [B - 1]⟩, ⟨.plus, [1]⟩]⟩ := by decide +kernel
example : Regs.Canon ⟨[[B - 1, B - 1], [1], [5]], [⟨.minus, [3]⟩, ⟨.plus, [3]⟩]⟩ := by
  constructor <;> decide
-- the `Arbitrary` impls: a buffer with redundant high zero digits; a zero magnitude under either sign byte
example : BigUint.arbitrary [1, 5, 0, 0, 0, 0, 0, 0, 0, 3, 0, 0, 0, 0, 0, 0, 0, 0, 2, 9] = [5] := by decide +kernel
example : BigInt.arbitrary [0, 1, 0, 0, 0, 0, 0, 0, 0, 0] = ⟨.nosign, []⟩ ∧ BigInt.arbitrary [2, 1, 7] = ⟨.minus, [7]⟩ := by
  decide +kernel

end NB
