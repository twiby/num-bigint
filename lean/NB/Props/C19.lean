/-
  C19 — Sign, negation and identity helpers agree with the integer value.

  All statements are about the model NB.Model.Core (written from src/bigint.rs, src/biguint.rs,
  src/bigint/convert.rs, src/bigint/multiplication.rs and correspondence-checked against the real
  crate).  Results are stated as "the canonical representation of the mathematical
  result" (`BigInt.ofInt …` / `ofNat …`), which also says that every helper preserves canonicity.
  Hypothesis throughout: the operand is canonical.  Statements: every theorem of the file is one (a flat
  list, one per method or constant of the Rust API); a few overlap on purpose with C04
  (`from_biguint_val` extends `bigint_from_biguint_spec` by value and canonicity) and C02 (`sign_mul_table`).
-/
import NB.Props.C04
namespace NB
open Core

/-- `-x` (by value and by reference) is the additive inverse -/
theorem bigint_neg_spec {x : BigInt} (hx : x.Canon) :
    BigInt.negVal x = BigInt.ofInt (- x.val) ∧ BigInt.negRef x = BigInt.ofInt (- x.val) :=
  ⟨bigint_negVal_eq hx, bigint_negVal_eq hx⟩

/-- negation is an involution on the representation, canonical or not -/
theorem bigint_neg_neg {x : BigInt} : BigInt.negVal (BigInt.negVal x) = x := by
  rcases x with ⟨s, m⟩; cases s <;> rfl

/-- `BigUint → BigInt` always succeeds with the same value (`to_bigint`, `From<BigUint>`) -/
theorem biguint_to_bigint_spec {a : List Nat} (ha : Canon a) :
    BigUint.toBigint a = some (BigInt.ofInt (val a)) ∧ Core.BigInt.fromU a = BigInt.ofInt (val a) := by
  rw [ofInt_natCast]
  unfold BigUint.toBigint Core.BigInt.fromU BigUint.clone
  by_cases hz : a = []
  · subst hz; simp [BigUint.isZero, BigInt.zero, BigUint.zero, val]
  · have h1 : ¬ (BigUint.isZero a = true) := by rw [isZero_iff]; exact hz
    have h2 : val a ≠ 0 := fun e => hz (canon_val_zero ha e)
    rw [if_neg h1, if_neg h1, if_neg h2, ← canon_eq_ofNat ha]
    exact ⟨rfl, rfl⟩

/-- `abs()` is the canonical representation of |x| -/
theorem bigint_abs_spec {x : BigInt} (hx : x.Canon) : BigInt.abs x = BigInt.ofInt (x.val.natAbs : Int) := by
  have hm : (val x.mag : Int) = x.val.natAbs := congrArg _ (bigint_natAbs_val hx).symm
  obtain ⟨_, h2, h3⟩ := bigint_canon_sign hx
  have hid : 0 ≤ x.val → x = BigInt.ofInt (x.val.natAbs : Int) := fun h => by
    rw [Int.natAbs_of_nonneg h]; exact bigint_canon_eq_ofInt hx
  rcases x with ⟨s, m⟩
  cases s
  · exact (biguint_to_bigint_spec hx.1).2.trans (congrArg _ hm)
  · exact hid (h2.mp rfl).ge
  · exact hid (h3.mp rfl).le

/-- `signum()` is the canonical −1, 0 or 1 -/
theorem bigint_signum_spec {x : BigInt} (hx : x.Canon) : BigInt.signum x = BigInt.ofInt (Int.sign x.val) := by
  obtain ⟨h1, h2, h3⟩ := bigint_canon_sign hx
  rcases x with ⟨s, m⟩
  simp only at h1 h2 h3
  cases s with
  | nosign => rw [h2.mp rfl]; simp [BigInt.signum, BigInt.zero, BigUint.zero, ofInt_zero]
  | plus =>
    rw [Int.sign_eq_one_of_pos (h3.mp rfl), ofInt_one]; rfl
  | minus =>
    rw [Int.sign_eq_neg_one_of_neg (h1.mp rfl), ofInt_neg_one]; rfl

/-- `is_positive()` / `is_negative()` test the sign of the value (zero is neither) -/
theorem bigint_is_positive_spec {x : BigInt} (hx : x.Canon) : BigInt.isPositive x = true ↔ 0 < x.val := by
  unfold BigInt.isPositive; rw [beq_iff_eq]; exact (bigint_canon_sign hx).2.2

theorem bigint_is_negative_spec {x : BigInt} (hx : x.Canon) : BigInt.isNegative x = true ↔ x.val < 0 := by
  unfold BigInt.isNegative; rw [beq_iff_eq]; exact (bigint_canon_sign hx).1

/-- `sign()` reports the sign of the value -/
theorem bigint_sign_spec {x : BigInt} (hx : x.Canon) : BigInt.getSign x = Sign.ofInt x.val := by
  obtain ⟨h1, h2, h3⟩ := bigint_canon_sign hx
  unfold BigInt.getSign Sign.ofInt
  by_cases hn : x.val < 0
  · rw [if_pos hn]; exact h1.mpr hn
  · rw [if_neg hn]
    by_cases hz : x.val = 0
    · rw [if_pos hz]; exact h2.mpr hz
    · rw [if_neg hz]; exact h3.mpr (by omega)

/-- `magnitude()` is the canonical representation of |x| -/
theorem bigint_magnitude_spec {x : BigInt} (hx : x.Canon) : BigInt.magnitude x = ofNat x.val.natAbs :=
  bigint_canon_mag hx

/-- `abs_sub(x, y) = max(x − y, 0)`, canonical, never panics -/
theorem bigint_abs_sub_spec (P : Params) {x y : BigInt} (hx : x.Canon) (hy : y.Canon) :
    BigInt.absSub P x y = .ok (BigInt.ofInt (max (x.val - y.val) 0)) := by
  unfold BigInt.absSub
  by_cases hle : ordIsLe (BigInt.cmp x y) = true
  · have := (bigint_le_spec hx hy).mp hle
    rw [if_pos hle, Int.max_eq_right (by omega)]
    simp [BigInt.zero, BigUint.zero, ofInt_zero]
  · have : ¬ x.val ≤ y.val := fun h => hle ((bigint_le_spec hx hy).mpr h)
    rw [if_neg hle, bigint_sub_spec P x y hx hy, Int.max_eq_left (by omega)]

/-- on a canonical pair, `into_parts ∘ from_biguint` is the identity -/
theorem into_parts_from_biguint {s : Sign} {m : List Nat} (h : (⟨s, m⟩ : BigInt).Canon) :
    BigInt.intoParts (BigInt.fromBiguint s m) = (s, m) := by
  obtain ⟨_, hs⟩ := h
  simp only at hs
  unfold BigInt.fromBiguint BigInt.intoParts
  by_cases h1 : s = .nosign
  · have := hs.mp h1; subst this; subst h1; simp
  · have h2 : m ≠ [] := fun e => h1 (hs.mpr e)
    simp [h1, h2]

/-- `from_biguint ∘ into_parts` is the identity on canonical values -/
theorem from_biguint_into_parts {x : BigInt} (hx : x.Canon) :
    BigInt.fromBiguint (BigInt.intoParts x).1 (BigInt.intoParts x).2 = x := by
  rcases x with ⟨s, m⟩
  exact congrArg (fun p : Sign × List Nat => (⟨p.1, p.2⟩ : BigInt)) (into_parts_from_biguint hx)

/-- inconsistent requests: `NoSign` with any magnitude is zero; any sign with a zero magnitude is zero -/
theorem from_biguint_inconsistent (s : Sign) (m : List Nat) :
    BigInt.fromBiguint .nosign m = BigInt.zero ∧ BigInt.fromBiguint s [] = BigInt.zero := by
  constructor
  · simp [BigInt.fromBiguint, BigInt.zero, BigUint.zero]
  · cases s <;> simp [BigInt.fromBiguint, BigInt.zero, BigUint.zero]

/-- in general `from_biguint(s, m)` is the canonical BigInt of `s · m` (also for inconsistent pairs) -/
theorem from_biguint_val (s : Sign) {m : List Nat} (h : Canon m) :
    BigInt.fromBiguint s m = BigInt.ofInt (Sign.toInt s * (val m : Int)) ∧
    (BigInt.fromBiguint s m).val = Sign.toInt s * (val m : Int) ∧ (BigInt.fromBiguint s m).Canon := by
  rw [fromBiguint_eq s h]
  exact ⟨rfl, bigint_ofInt_val _, bigint_ofInt_canon _⟩

/-! ## conversions between the two types succeed exactly for non-negative values -/

/-- `to_biguint` (by reference) and `TryFrom<BigInt> for BigUint` (by value): `None` exactly for a
    negative value, otherwise the canonical digits of the value -/
theorem bigint_to_biguint_spec {x : BigInt} (hx : x.Canon) :
    BigInt.toBiguint x = (if x.val < 0 then none else some (ofNat x.val.natAbs)) ∧
    BigInt.tryIntoBiguint x = (if x.val < 0 then none else some (ofNat x.val.natAbs)) := by
  have hm := bigint_canon_mag hx
  obtain ⟨h1, h2, h3⟩ := bigint_canon_sign hx
  rcases x with ⟨s, m⟩
  cases s
  · rw [if_pos (h1.mp rfl)]; exact ⟨rfl, rfl⟩
  · rw [if_neg (h2.mp rfl).ge.not_gt, ← hm]; exact ⟨congrArg some (hx.2.mp rfl).symm, rfl⟩
  · rw [if_neg (h3.mp rfl).le.not_gt, ← hm]; exact ⟨rfl, rfl⟩

/-- the success condition of `bigint_to_biguint_spec` on its own: both conversions succeed iff `0 ≤ x` -/
theorem bigint_to_biguint_isSome {x : BigInt} (hx : x.Canon) :
    ((BigInt.toBiguint x).isSome = true ↔ 0 ≤ x.val) ∧ ((BigInt.tryIntoBiguint x).isSome = true ↔ 0 ≤ x.val) := by
  obtain ⟨e1, e2⟩ := bigint_to_biguint_spec hx
  rw [e1, e2]
  have key : (if x.val < 0 then none else some (ofNat x.val.natAbs)).isSome = true ↔ 0 ≤ x.val := by
    by_cases h : x.val < 0
    · rw [if_pos h]; exact iff_of_false nofun (Int.not_le.mpr h)
    · rw [if_neg h]; exact iff_of_true rfl (Int.not_lt.mp h)
  exact ⟨key, key⟩

/-- the identity conversions -/
theorem to_self_spec (a : List Nat) (x : BigInt) :
    BigUint.toBiguint a = some a ∧ BigInt.toBigint x = some x := ⟨rfl, rfl⟩

/-- `ZERO`, `default()`, `one()` of both types are the canonical 0, 0, 1 (as representations, then as values) -/
theorem biguint_consts : BigUint.zero = ofNat 0 ∧ BigUint.default = ofNat 0 ∧ BigUint.one = ofNat 1 := by
  rw [ofNat_zero, ofNat_one]; exact ⟨rfl, rfl, rfl⟩

theorem bigint_consts :
    BigInt.zero = BigInt.ofInt 0 ∧ BigInt.default = BigInt.ofInt 0 ∧ BigInt.one = BigInt.ofInt 1 := by
  rw [ofInt_zero, ofInt_one]; exact ⟨rfl, rfl, rfl⟩

theorem consts_val : val BigUint.zero = 0 ∧ val BigUint.default = 0 ∧ val BigUint.one = 1 ∧
    BigInt.zero.val = 0 ∧ BigInt.default.val = 0 ∧ BigInt.one.val = 1 := by
  refine ⟨rfl, rfl, by simp [BigUint.one, val], rfl, rfl, by simp [BigInt.one, BigUint.one, BigInt.val, val]⟩

/-- `is_zero()` / `is_one()` of both types test the value -/
theorem biguint_is_zero_spec {a : List Nat} (ha : Canon a) : BigUint.isZero a = true ↔ val a = 0 := by
  rw [isZero_iff]; exact canon_eq_nil_iff ha

theorem biguint_is_one_spec {a : List Nat} (ha : Canon a) : BigUint.isOne a = true ↔ val a = 1 := by
  unfold BigUint.isOne
  rw [beq_iff_eq]
  constructor
  · intro h; subst h; simp [val]
  · intro h; exact canon_unique ha canon_one (by simp [val, h])

theorem bigint_is_zero_spec {x : BigInt} (hx : x.Canon) : Core.BigInt.isZero x = true ↔ x.val = 0 := by
  unfold Core.BigInt.isZero; rw [beq_iff_eq]; exact nosign_iff_zero hx

theorem bigint_is_one_spec {x : BigInt} (hx : x.Canon) : BigInt.isOne x = true ↔ x.val = 1 := by
  constructor
  · intro h
    unfold BigInt.isOne BigUint.isOne at h
    simp only [Bool.and_eq_true, beq_iff_eq] at h
    rw [bigint_val_eq, h.1, h.2]; simp [Sign.toInt, val]
  · intro h
    have : x = BigInt.ofInt 1 := by rw [← h]; exact bigint_canon_eq_ofInt hx
    rw [this, ofInt_one]; rfl

/-- `set_zero` / `set_one` assign 0 / 1 whatever the target held -/
theorem set_zero_one_spec (a : List Nat) (x : BigInt) :
    BigUint.setZero a = ofNat 0 ∧ BigUint.setOne a = ofNat 1 ∧
    BigInt.setZero x = BigInt.ofInt 0 ∧ BigInt.setOne x = BigInt.ofInt 1 := by
  rw [ofNat_zero, ofNat_one, ofInt_zero, ofInt_one]
  exact ⟨rfl, rfl, rfl, rfl⟩

/-- `Neg for Sign` and `Mul<Sign> for Sign` are negation and multiplication of −1, 0, 1 (all cases of the
    two tables, both as integers and back as a `Sign`) -/
theorem sign_neg_table (s : Sign) : Sign.toInt s.neg = - Sign.toInt s ∧ s.neg = Sign.ofInt (- Sign.toInt s) := by
  cases s <;> decide

theorem sign_mul_table (s t : Sign) : Sign.toInt (s.mul t) = Sign.toInt s * Sign.toInt t ∧ s.mul t = Sign.ofInt (Sign.toInt s * Sign.toInt t) := by
  cases s <;> cases t <;> decide

theorem sign_ofInt_toInt (s : Sign) : Sign.ofInt (Sign.toInt s) = s := by cases s <;> decide

/-! ## non-vacuity -/
example : (⟨.minus, [0, 5]⟩ : BigInt).Canon ∧ BigInt.abs ⟨.minus, [0, 5]⟩ = ⟨.plus, [0, 5]⟩ ∧
    BigInt.signum ⟨.minus, [0, 5]⟩ = ⟨.minus, [1]⟩ := by decide +kernel
example : BigInt.absSub NB.Gen.P ⟨.plus, [5]⟩ ⟨.minus, [3]⟩ = .ok ⟨.plus, [8]⟩ ∧
    BigInt.absSub NB.Gen.P ⟨.minus, [3]⟩ ⟨.plus, [5]⟩ = .ok ⟨.nosign, []⟩ := by decide +kernel
example : BigInt.fromBiguint .nosign [7] = ⟨.nosign, []⟩ ∧ BigInt.fromBiguint .minus [] = ⟨.nosign, []⟩ := by decide +kernel

end NB
