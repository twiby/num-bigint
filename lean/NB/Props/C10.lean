/-
  C10 — every overloaded operator form with a primitive scalar agrees with the canonical big-by-big operation.

  About NB.Model.Scalar, the value-level model of the scalar leaf impls and of the promotion layer of src/macros.rs.
  Headline: `uScalarForm_spec`, `iScalarForm_spec` — for every operator `+ - * / %`, every operand position
  (`big ∘ s`, `s ∘ big`, `big ∘= s`), every scalar type and every value of that type, promotion + leaf impl = the
  canonical operation on the losslessly converted scalar (`canonU` / `canonI`: Nat/Int arithmetic, `Int.tdiv` /
  `Int.tmod`, panic classes divzero and underflow).  They rest on `promo_lossless`, on `uabs_spec` (`checked_uabs`
  incl. `MIN`, where `wrapping_neg` wraps) and on one `_spec` per leaf impl; `remAssignScalar_spec` is `scalar %= big`
  for all 12 types (true also at `iN::MIN %= 2^(N-1)`).
  Every leaf `X_spec` states `X … = the mathematical operation on the values` (`Nat` for BigUint, `VInt.ofInt` of the
  `Int` result for BigInt; `/ %` as `Int.tdiv` / `Int.tmod`), with the panic of the impl as `.error`; the signed
  leaves need `t.signed = true` and `t.InRange s`, the assign and scalar-first forms a canonical big operand.
  Statements of the second part: shifts `uShl_spec`, `uShr_spec`, `iShl_spec`, `iShr_spec` (negative amount →
  negshift, capacity overflow of `<<`, BigInt `>>` is floor division by `2^k`; `hbits`: fewer than `2^64` bits) with
  `iShlAssign_spec`, `iShrAssign_spec` (= the non-assign forms); powers `powPrim_eq`, `uPowBig_spec`, `iPow_spec`,
  `iPowBig_spec`; folds `uSum_spec`, `uProduct_spec`, `iSum_spec`, `iProduct_spec`; `shrOracle_spec` (the driver's
  shift oracle).

  One layer down for + and −: `dAddAssign_spec`, `dSubAssign_spec`, `dSubRev_spec` — the digit-level leaves (scalar
  split into `&[lo, hi]`, zero padding of the big operand, `__add2` / `sub2` / `sub2rev` of NB.Model.AddSub) return
  the canonical digits of the value-level leaves, by C01's slice theorems.  The same link for * / % (digit routines
  of C02/C03, conversions of C08), for the BigInt leaves built on them and for the form routing is NB.Props.C10D.

  Not in the model (values are immutable): the val/ref permutations, the compound-assignment
  forwarding and the capacity/length-driven operand choice of the forwarding macros.  Those are
  tied only by the in-process form matrix of harness/src/c10.rs.
-/
import NB.Lemmas.Scalar
import NB.Props.C01
import NB.Drv.C10
namespace NB

/-- `promote_scalars!`: `other as $promo` keeps every value of the scalar type -/
theorem promo_lossless (t : STy) (v : Int) (h : t.InRange v) :
    castTo t.promo v = v ∧ t.promo.InRange v :=
  ⟨castTo_id _ _ (inRange_promo t v h), inRange_promo t v h⟩

/-- `checked_uabs`: sign and exact magnitude for every value incl. `MIN` (whose `wrapping_neg`
    is `MIN` itself and casts to `2^(N-1)`), and the magnitude fits the unsigned type -/
theorem uabs_spec (t : STy) (v : Int) (ht : t.signed = true) (h : t.InRange v) :
    checkedUabs t v = (if v ≥ 0 then .positive v else .negative (-v)) ∧ t.unsignedOf.InRange (|v|) := by
  have hfit : t.unsignedOf.InRange |v| := by
    rw [STy.inRange_unsigned t.unsignedOf_signed, STy.unsignedOf_modulus, STy.modulus_eq]
    rw [STy.inRange_signed ht] at h
    have := t.half_pos
    exact ⟨abs_nonneg v, lt_of_le_of_lt (abs_le.2 ⟨h.1, h.2.le⟩) (by omega)⟩
  refine ⟨?_, hfit⟩
  unfold checkedUabs wrappingNeg
  -- the wrap of `-v` at `MIN` is undone by the cast to the unsigned type of the same width
  rw [castTo_unsignedOf_castTo]
  by_cases hv : v ≥ 0
  · rw [abs_of_nonneg hv] at hfit
    rw [if_pos hv, if_pos hv, castTo_id _ _ hfit]
  · rw [abs_of_neg (Int.not_le.1 hv)] at hfit
    rw [if_neg hv, if_neg hv, castTo_id _ _ hfit]

/-- core `iN::unsigned_abs` -/
theorem unsignedAbs_spec (t : STy) (v : Int) (ht : t.signed = true) (h : t.InRange v) :
    unsignedAbs t v = |v| := by
  have hfit := (uabs_spec t v ht h).2
  unfold unsignedAbs wrappingNeg
  split
  · rename_i hv
    rw [abs_of_neg hv] at hfit ⊢
    rw [castTo_unsignedOf_castTo, castTo_id _ _ hfit]
  · rename_i hv
    rw [abs_of_nonneg (not_lt.1 hv)] at hfit ⊢
    exact castTo_id _ _ hfit

/-- what `checked_uabs` hands to the unsigned leaf: the magnitude `u` of the scalar, which is a value of the
    unsigned type and fits its digits -/
theorem uabs_cases (t : STy) (s : Int) (ht : t.signed = true) (h : t.InRange s) :
    ∃ u : Nat, t.unsignedOf.InRange u ∧ u < SD.bound t.unsignedOf ∧
      ((s = u ∧ checkedUabs t s = .positive u) ∨ (s = -u ∧ u ≠ 0 ∧ checkedUabs t s = .negative u)) := by
  obtain ⟨e, hfit⟩ := uabs_spec t s ht h
  have hb := toNat_lt_bound _ t.unsignedOf_signed _ hfit
  rw [← Int.natCast_natAbs] at hfit
  rw [← Int.natCast_natAbs, Int.toNat_natCast] at hb
  refine ⟨s.natAbs, hfit, hb, ?_⟩
  rw [e]
  by_cases hs : s ≥ 0
  · have hc : s = s.natAbs := (Int.natAbs_of_nonneg hs).symm
    exact .inl ⟨hc, by rw [if_pos hs, ← hc]⟩
  · have hc : (s.natAbs : Int) = -s := Int.ofNat_natAbs_of_nonpos (Int.le_of_lt (Int.not_le.1 hs))
    exact .inr ⟨by rw [hc, neg_neg], Int.natAbs_ne_zero.2 (fun e => hs (e ▸ Int.le_refl 0)),
      by rw [if_neg hs, hc]⟩

theorem scalarMul_eq_mul (a b : Nat) : scalarMul a b = a * b := by
  unfold scalarMul
  split
  · subst_vars; simp
  · split
    · subst_vars; simp
    · split
      · rename_i h; rw [← h]
      · rfl

theorem uAddAssign_spec (t : STy) (a s : Nat) : uAddAssign t a s = a + s := by
  have hs : s % B + B * (s / B) = s := Nat.mod_add_div s B
  unfold uAddAssign
  split
  · dsimp only
    split
    · rename_i h
      rw [h, Nat.mul_zero, Nat.add_zero] at hs
      rw [hs, ite_not]
      split
      · rename_i h0; rw [h0]; rfl
      · rfl
    · rw [hs]
  · rw [ite_not]
    split
    · rename_i h0; rw [h0]; rfl
    · rfl

theorem uSubAssign_spec (t : STy) (a s : Nat) :
    uSubAssign t a s = if a < s then .error .underflow else .ok (a - s) := by
  unfold uSubAssign
  split
  · simp only [Nat.mod_add_div]
  · rfl

theorem uSubRev_spec (t : STy) (s a : Nat) :
    uSubRev t s a = if s < a then .error .underflow else .ok (s - a) := by
  unfold uSubRev
  split
  · simp only [Nat.mod_add_div]
  · split
    · rename_i h0
      rw [(nd_zero_iff a).1 h0]; rfl
    · rfl

theorem uMulAssign_spec (t : STy) (a s : Nat) : uMulAssign t a s = a * s := by
  unfold uMulAssign
  split
  · simp only [Nat.mod_add_div, scalarMul_eq_mul, ite_self]
  · exact scalarMul_eq_mul a s

theorem uDiv_spec (t : STy) (a s : Nat) :
    uDiv t a s = if s = 0 then .error .divzero else .ok (a / s) := by
  unfold uDiv; split <;> rfl

theorem uRem_spec (t : STy) (a s : Nat) :
    uRem t a s = if s = 0 then .error .divzero else .ok (a % s) := by
  unfold uRem; split <;> rfl

theorem uDivRev_of_ne {t : STy} (ht : t ≠ .u128) (s a : Nat) :
    uDivRev t s a = match nd a with
      | 0 => .error .divzero
      | 1 => .ok (s / a)
      | _ => .ok 0 := by
  cases t <;> first | rfl | exact absurd rfl ht

/-- scalar / big through the digit-count match: a big operand with more digits than the scalar
    holds gives quotient 0 -/
theorem uDivRev_spec (t : STy) (s a : Nat) (hs : s < SD.bound t) :
    uDivRev t s a = if a = 0 then .error .divzero else .ok (s / a) := by
  unfold uDivRev
  by_cases h0 : a = 0
  · rw [if_pos h0, (nd_zero_iff a).2 h0]
    split <;> rfl
  · have hn : nd a ≠ 0 := mt (nd_zero_iff a).1 h0
    rw [if_neg h0]
    split
    · have hs : s < B * B := hs
      match hnd : nd a with
      | 0 => exact absurd hnd hn
      | 1 | 2 => rfl
      | n + 3 => rw [Nat.div_eq_of_lt (hs.trans_le (nd_ge_three a (hnd ▸ Nat.le_add_left 3 n)))]; rfl
    · rw [SD.bound, if_neg (by assumption)] at hs
      match hnd : nd a with
      | 0 => exact absurd hnd hn
      | 1 => rfl
      | n + 2 => rw [Nat.div_eq_of_lt (hs.trans_le (nd_ge_two a (hnd ▸ Nat.le_add_left 2 n)))]; rfl

/-- `scalar %= &BigUint` (impl_rem_assign_scalar!) is the truncated remainder for every scalar
    type and every scalar value; in particular `iN::MIN %= 2^(N-1)` is 0 -/
theorem remAssignScalar_spec (t : STy) (s : Int) (a : Nat) (h : t.InRange s) :
    remAssignScalar t s a = if a = 0 then .error .divzero else .ok (Int.tmod s a) := by
  unfold remAssignScalar toT
  by_cases hfit : (a : Int) ≤ t.hi
  · simp only [hfit, if_true]
    cases a with
    | zero => rfl
    | succ n => simp
  · -- `to_T` fails: `|s| ≤ MAX + 1 ≤ a`
    have h1 := STy.natAbs_le_of_inRange h
    have h2 := t.hi_nonneg
    have ha0 : ¬ a = 0 := by omega
    simp only [hfit, if_false, magOf]
    rw [if_neg ha0, tmod_of_natAbs_le (by omega), apply_ite Except.ok]
    rfl

theorem uRemRev_spec (t : STy) (s a : Nat) (hs : t.InRange s) :
    uRemRev t s a = if a = 0 then .error .divzero else .ok (s % a) := by
  unfold uRemRev
  rw [remAssignScalar_spec t s a hs]
  split
  · rfl
  · show Except.ok (Int.toNat (Int.tmod s a)) = _
    rw [← Int.ofNat_tmod]; rfl

theorem iAddU_spec (t : STy) (a : VInt) (u : Nat) : iAddU t a u = .ok (VInt.ofInt (a.val + u)) := by
  obtain ⟨sg, m⟩ := a
  cases sg <;> simp only [iAddU, VInt.val]
  · rcases cmpNat_cases m u with ⟨h, e⟩ | ⟨h, e⟩ | ⟨h, e⟩ <;> simp only [e]
    · rw [uSubRev_spec, if_neg (Nat.lt_asymm h)]
      show Except.ok (VInt.fromNat (u - m)) = _
      rw [VInt.fromNat_eq, Int.ofNat_sub h.le, Int.sub_eq_add_neg, Int.add_comm]
    · rw [VInt.zero_eq, h, Int.add_left_neg]
    · rw [uSubAssign_spec, if_neg (Nat.lt_asymm h)]
      show Except.ok ((VInt.fromNat (m - u)).neg) = _
      rw [VInt.fromNat_eq, VInt.neg_ofInt, Int.ofNat_sub h.le, Int.neg_sub, Int.sub_eq_add_neg, Int.add_comm]
  · rw [VInt.fromNat_eq, Int.zero_add]
  · rw [uAddAssign_spec, VInt.fromNat_eq, Int.natCast_add]

theorem iSubU_spec (t : STy) (a : VInt) (u : Nat) : iSubU t a u = .ok (VInt.ofInt (a.val - u)) := by
  obtain ⟨sg, m⟩ := a
  cases sg <;> simp only [iSubU, VInt.val]
  · rw [uAddAssign_spec, VInt.fromNat_eq, VInt.neg_ofInt, Int.natCast_add, Int.neg_add, Int.sub_eq_add_neg]
  · rw [VInt.fromNat_eq, VInt.neg_ofInt, Int.zero_sub]
  · rcases cmpNat_cases m u with ⟨h, e⟩ | ⟨h, e⟩ | ⟨h, e⟩ <;> simp only [e]
    · rw [uSubRev_spec, if_neg (Nat.lt_asymm h)]
      show Except.ok ((VInt.fromNat (u - m)).neg) = _
      rw [VInt.fromNat_eq, VInt.neg_ofInt, Int.ofNat_sub h.le, Int.neg_sub]
    · rw [VInt.zero_eq, h, Int.sub_self]
    · rw [uSubAssign_spec, if_neg (Nat.lt_asymm h)]
      show Except.ok (VInt.fromNat (m - u)) = _
      rw [VInt.fromNat_eq, Int.ofNat_sub h.le]

theorem uSubI_spec (t : STy) (u : Nat) (a : VInt) : uSubI t u a = .ok (VInt.ofInt (u - a.val)) := by
  unfold uSubI
  rw [iSubU_spec t a u]
  show Except.ok ((VInt.ofInt (a.val - u)).neg) = _
  rw [VInt.neg_ofInt, Int.neg_sub]

theorem iAddS_spec (t : STy) (a : VInt) (s : Int) (ht : t.signed = true) (h : t.InRange s) :
    iAddS t a s = .ok (VInt.ofInt (a.val + s)) := by
  unfold iAddS
  obtain ⟨u, _, _, ⟨rfl, e⟩ | ⟨rfl, _, e⟩⟩ := uabs_cases t s ht h <;> rw [e] <;> simp only [Int.toNat_natCast]
  · exact iAddU_spec _ a u
  · rw [iSubU_spec, Int.sub_eq_add_neg]

theorem iSubS_spec (t : STy) (a : VInt) (s : Int) (ht : t.signed = true) (h : t.InRange s) :
    iSubS t a s = .ok (VInt.ofInt (a.val - s)) := by
  unfold iSubS
  obtain ⟨u, _, _, ⟨rfl, e⟩ | ⟨rfl, _, e⟩⟩ := uabs_cases t s ht h <;> rw [e] <;> simp only [Int.toNat_natCast]
  · exact iSubU_spec _ a u
  · rw [iAddU_spec, Int.sub_neg]

theorem sSubI_spec (t : STy) (s : Int) (a : VInt) (ht : t.signed = true) (h : t.InRange s) :
    sSubI t s a = .ok (VInt.ofInt (s - a.val)) := by
  unfold sSubI
  obtain ⟨u, _, _, ⟨rfl, e⟩ | ⟨rfl, _, e⟩⟩ := uabs_cases t s ht h <;> rw [e] <;> simp only [Int.toNat_natCast]
  · exact uSubI_spec _ u a
  · rw [iSubU_spec, VInt.neg_val, Int.sub_eq_add_neg, Int.add_comm, ← Int.sub_eq_add_neg]

theorem iMulU_spec (t : STy) (a : VInt) (u : Nat) : iMulU t a u = VInt.ofInt (a.val * u) := by
  unfold iMulU
  rw [uMulAssign_spec, VInt.fromBiguint_toInt, VInt.val_eq_toInt, Int.natCast_mul, Int.mul_assoc]

theorem iMulAssignU_spec (t : STy) (a : VInt) (u : Nat) (ha : a.Canon) :
    iMulAssignU t a u = VInt.ofInt (a.val * u) := by
  rw [← iMulU_spec t a u]
  unfold iMulAssignU iMulU
  simp only
  apply VInt.assign_eq_fromBiguint
  intro hs
  rw [uMulAssign_spec, ha.1 hs]; simp

theorem iMulS_spec (t : STy) (a : VInt) (s : Int) (ht : t.signed = true) (h : t.InRange s) :
    iMulS t a s = VInt.ofInt (a.val * s) := by
  unfold iMulS
  obtain ⟨u, _, _, ⟨rfl, e⟩ | ⟨rfl, _, e⟩⟩ := uabs_cases t s ht h <;> rw [e] <;> simp only [Int.toNat_natCast]
  · exact iMulU_spec _ a u
  · rw [iMulU_spec, VInt.neg_val, Int.neg_mul, Int.mul_neg]

theorem iMulAssignS_spec (t : STy) (a : VInt) (s : Int) (ht : t.signed = true) (h : t.InRange s) (ha : a.Canon) :
    iMulAssignS t a s = VInt.ofInt (a.val * s) := by
  unfold iMulAssignS
  obtain ⟨u, _, _, ⟨rfl, e⟩ | ⟨rfl, hu, e⟩⟩ := uabs_cases t s ht h <;> rw [e] <;> simp only [Int.toNat_natCast]
  · exact iMulAssignU_spec _ a u ha
  · -- no zero check in this arm: the record is canonical because `u ≠ 0`
    rw [uMulAssign_spec, VInt.mk_eq_fromBiguint, VInt.fromBiguint_toInt, VInt.neg_toInt, VInt.val_eq_toInt,
      Int.natCast_mul, Int.neg_mul, Int.mul_neg, Int.mul_assoc]
    unfold VInt.Canon at ha
    rw [Nat.mul_eq_zero, or_iff_left hu, ← ha]
    cases a.sign <;> simp [Sign.neg]

theorem iDivU_spec (t : STy) (a : VInt) (u : Nat) :
    iDivU t a u = if u = 0 then .error .divzero else .ok (VInt.ofInt (Int.tdiv a.val u)) := by
  unfold iDivU
  rw [uDiv_spec, map_fromBiguint_ite, VInt.val_eq_toInt, tdiv_sign]

theorem iDivAssignU_spec (t : STy) (a : VInt) (u : Nat) (ha : a.Canon) :
    iDivAssignU t a u = if u = 0 then .error .divzero else .ok (VInt.ofInt (Int.tdiv a.val u)) := by
  rw [← iDivU_spec t a u]
  unfold iDivAssignU iDivU
  rw [uDiv_spec]
  exact map_assign_eq ha _ (fun h0 => by rw [h0, Nat.zero_div])

theorem uDivI_spec (t : STy) (u : Nat) (a : VInt) (hu : u < SD.bound t) (ha : a.Canon) :
    uDivI t u a = if a.val = 0 then .error .divzero else .ok (VInt.ofInt (Int.tdiv u a.val)) := by
  unfold uDivI
  rw [uDivRev_spec t u a.mag hu, map_fromBiguint_ite]
  simp only [VInt.val_eq_zero_iff ha]
  rw [VInt.val_eq_toInt, tdiv_sign_right]

theorem iDivS_spec (t : STy) (a : VInt) (s : Int) (ht : t.signed = true) (h : t.InRange s) :
    iDivS t a s = if s = 0 then .error .divzero else .ok (VInt.ofInt (Int.tdiv a.val s)) := by
  unfold iDivS
  obtain ⟨u, _, _, ⟨rfl, e⟩ | ⟨rfl, _, e⟩⟩ := uabs_cases t s ht h <;> rw [e] <;>
    simp only [Int.toNat_natCast, iDivU_spec, Int.natCast_eq_zero]
  simp only [VInt.neg_val, Int.neg_tdiv, Int.tdiv_neg, neg_eq_zero, Int.natCast_eq_zero]

theorem iDivAssignS_spec (t : STy) (a : VInt) (s : Int) (ht : t.signed = true) (h : t.InRange s) (ha : a.Canon) :
    iDivAssignS t a s = if s = 0 then .error .divzero else .ok (VInt.ofInt (Int.tdiv a.val s)) := by
  unfold iDivAssignS
  obtain ⟨u, _, _, ⟨rfl, e⟩ | ⟨rfl, _, e⟩⟩ := uabs_cases t s ht h <;> rw [e] <;>
    simp only [Int.toNat_natCast, neg_mk, iDivAssignU_spec _ _ _ ha, iDivAssignU_spec _ _ _ (VInt.neg_canon ha),
      Int.natCast_eq_zero]
  simp only [VInt.neg_val, Int.neg_tdiv, Int.tdiv_neg, neg_eq_zero, Int.natCast_eq_zero]

theorem sDivI_spec (t : STy) (s : Int) (a : VInt) (ht : t.signed = true) (h : t.InRange s) (ha : a.Canon) :
    sDivI t s a = if a.val = 0 then .error .divzero else .ok (VInt.ofInt (Int.tdiv s a.val)) := by
  unfold sDivI
  obtain ⟨u, _, hb, ⟨rfl, e⟩ | ⟨rfl, _, e⟩⟩ := uabs_cases t s ht h <;> rw [e] <;>
    simp only [Int.toNat_natCast, uDivI_spec _ _ _ hb ha, uDivI_spec _ _ _ hb (VInt.neg_canon ha)]
  simp only [VInt.neg_val, Int.neg_tdiv, Int.tdiv_neg, neg_eq_zero]

theorem iRemU_spec (t : STy) (a : VInt) (u : Nat) :
    iRemU t a u = if u = 0 then .error .divzero else .ok (VInt.ofInt (Int.tmod a.val u)) := by
  unfold iRemU
  rw [uRem_spec, map_fromBiguint_ite, VInt.val_eq_toInt, tmod_sign]

theorem iRemAssignU_spec (t : STy) (a : VInt) (u : Nat) (ha : a.Canon) :
    iRemAssignU t a u = if u = 0 then .error .divzero else .ok (VInt.ofInt (Int.tmod a.val u)) := by
  rw [← iRemU_spec t a u]
  unfold iRemAssignU iRemU
  rw [uRem_spec]
  exact map_assign_eq ha _ (fun h0 => by rw [h0, Nat.zero_mod])

theorem uRemI_spec (t : STy) (u : Nat) (a : VInt) (hu : t.InRange u) (ha : a.Canon) :
    uRemI t u a = if a.val = 0 then .error .divzero else .ok (VInt.ofInt (Int.tmod u a.val)) := by
  unfold uRemI
  rw [uRemRev_spec t u a.mag hu]
  simp only [VInt.val_eq_zero_iff ha]
  split
  · rfl
  · rename_i h
    show Except.ok (VInt.fromNat (u % a.mag)) = _
    rw [VInt.fromNat_eq, VInt.val_eq_toInt, tmod_sign_right _ _ _ (fun e => h (ha.1 e))]

theorem iRemS_spec (t : STy) (a : VInt) (s : Int) (ht : t.signed = true) (h : t.InRange s) :
    iRemS t a s = if s = 0 then .error .divzero else .ok (VInt.ofInt (Int.tmod a.val s)) := by
  unfold iRemS
  rw [iRemU_spec, unsignedAbs_spec t s ht h, Int.toNat_of_nonneg (abs_nonneg s)]
  have e : Int.tmod a.val |s| = Int.tmod a.val s := by
    rcases abs_cases s with ⟨e, _⟩ | ⟨e, _⟩ <;> rw [e]
    rw [Int.tmod_neg]
  simp only [Int.toNat_eq_zero, abs_nonpos_iff, e]

theorem iRemAssignS_spec (t : STy) (a : VInt) (s : Int) (ht : t.signed = true) (h : t.InRange s) (ha : a.Canon) :
    iRemAssignS t a s = if s = 0 then .error .divzero else .ok (VInt.ofInt (Int.tmod a.val s)) := by
  rw [← iRemS_spec t a s ht h]
  unfold iRemAssignS iRemS
  rw [iRemAssignU_spec _ a _ ha, iRemU_spec]

theorem sRemI_spec (t : STy) (s : Int) (a : VInt) (ht : t.signed = true) (h : t.InRange s) (ha : a.Canon) :
    sRemI t s a = if a.val = 0 then .error .divzero else .ok (VInt.ofInt (Int.tmod s a.val)) := by
  unfold sRemI
  obtain ⟨u, hr, _, ⟨rfl, e⟩ | ⟨rfl, _, e⟩⟩ := uabs_cases t s ht h <;> rw [e] <;>
    simp only [Int.toNat_natCast, uRemI_spec _ _ _ hr ha]
  split
  · rfl
  · show Except.ok ((VInt.ofInt (Int.tmod u a.val)).neg) = _
    rw [VInt.neg_ofInt, Int.neg_tmod]

/-- the canonical `&BigUint ∘ &BigUint` operations at value level -/
def canonU (op : AOp) (x y : Nat) : Except Panic Nat :=
  match op with
  | .add => .ok (x + y)
  | .sub => if x < y then .error .underflow else .ok (x - y)
  | .mul => .ok (x * y)
  | .div => if y = 0 then .error .divzero else .ok (x / y)
  | .rem => if y = 0 then .error .divzero else .ok (x % y)

/-- the canonical `&BigInt ∘ &BigInt` operations at value level (`/ %` truncate toward zero) -/
def canonI (op : AOp) (x y : Int) : Except Panic VInt :=
  match op with
  | .add => .ok (VInt.ofInt (x + y))
  | .sub => .ok (VInt.ofInt (x - y))
  | .mul => .ok (VInt.ofInt (x * y))
  | .div => if y = 0 then .error .divzero else .ok (VInt.ofInt (Int.tdiv x y))
  | .rem => if y = 0 then .error .divzero else .ok (VInt.ofInt (Int.tmod x y))

/-- operand order of a form: `s ∘ big` puts the converted scalar on the left -/
def placeU (op : AOp) (pos : SPos) (a s : Nat) : Except Panic Nat :=
  match pos with
  | .scalarBig => canonU op s a
  | _ => canonU op a s

def placeI (op : AOp) (pos : SPos) (a s : Int) : Except Panic VInt :=
  match pos with
  | .scalarBig => canonI op s a
  | _ => canonI op a s

/-- every BigUint scalar form (5 operators × 3 positions × 6 unsigned scalar types × every value
    of the type × every big value) returns what the canonical operation returns on
    `BigUint::from(s)`, as value or as panic class -/
theorem uScalarForm_spec (op : AOp) (pos : SPos) (t : STy) (a : Nat) (s : Int)
    (ht : t.signed = false) (h : t.InRange s) :
    uScalarForm op pos t a s = placeU op pos a s.toNat := by
  obtain ⟨hc, hp⟩ := promo_lossless t s h
  have hps : t.promo.signed = false := by rw [STy.promo_signed]; exact ht
  have hsn := Int.toNat_of_nonneg (inRange_unsigned_nonneg _ s hps hp)
  have hd := uDivRev_spec t.promo s.toNat a (toNat_lt_bound _ hps s hp)
  have hr := uRemRev_spec t.promo s.toNat a (by rwa [hsn])
  unfold uScalarForm
  simp only [hc, uAddAssign_spec, uMulAssign_spec, uSubAssign_spec, uSubRev_spec, uDiv_spec, uRem_spec, hd, hr]
  cases op <;> cases pos <;> simp only [placeU, canonU, Nat.add_comm a, Nat.mul_comm a]

/-- every BigInt scalar form (5 operators × 3 positions × 12 scalar types × every value of the
    type × every canonical big value) returns what the canonical operation returns on
    `BigInt::from(s)`, as value or as panic class -/
theorem iScalarForm_spec (op : AOp) (pos : SPos) (t : STy) (a : VInt) (s : Int)
    (h : t.InRange s) (ha : a.Canon) :
    iScalarForm op pos t a s = placeI op pos a.val s := by
  obtain ⟨hc, hp⟩ := promo_lossless t s h
  unfold iScalarForm
  simp only [hc]
  cases hsg : t.promo.signed
  · have hsn := Int.toNat_of_nonneg (inRange_unsigned_nonneg _ s hsg hp)
    have hz : s.toNat = 0 ↔ s = 0 := by omega
    have hd := uDivI_spec t.promo s.toNat a (toNat_lt_bound _ hsg s hp) ha
    have hr := uRemI_spec t.promo s.toNat a (by rwa [hsn]) ha
    simp only [Bool.false_eq_true, if_false, iAddU_spec, iSubU_spec, uSubI_spec, iMulU_spec,
      iMulAssignU_spec _ a _ ha, iDivU_spec, iDivAssignU_spec _ a _ ha, hd, iRemU_spec, iRemAssignU_spec _ a _ ha, hr,
      hsn, hz]
    cases op <;> cases pos <;> simp only [placeI, canonI, add_comm a.val, mul_comm a.val]
  · simp only [if_true, iAddS_spec _ a s hsg hp, iSubS_spec _ a s hsg hp, sSubI_spec _ s a hsg hp,
      iMulS_spec _ a s hsg hp, iMulAssignS_spec _ a s hsg hp ha, iDivS_spec _ a s hsg hp,
      iDivAssignS_spec _ a s hsg hp ha, sDivI_spec _ s a hsg hp ha, iRemS_spec _ a s hsg hp,
      iRemAssignS_spec _ a s hsg hp ha, sRemI_spec _ s a hsg hp ha]
    cases op <;> cases pos <;> simp only [placeI, canonI, add_comm a.val, mul_comm a.val]

theorem uShl_spec (a : Nat) (k : Int) :
    uShl a k = if k < 0 then .error .negshift
               else if a ≠ 0 ∧ k / 64 ≥ usizeLim then .error .capacity
               else .ok (a * 2 ^ k.toNat) := by
  unfold uShl digitBits
  by_cases hk : k < 0
  · simp only [hk, if_true]
  · simp only [hk, if_false]
    by_cases ha : a = 0
    · subst ha; simp
    · simp only [ha, if_false, ne_eq, not_false_eq_true, true_and]
      rfl

theorem uShr_spec (a : Nat) (k : Int) :
    uShr a k = if k < 0 then .error .negshift else .ok (a / 2 ^ k.toNat) := by
  unfold uShr digitBits
  split
  · rfl
  · split
    · subst_vars; rw [Nat.zero_div]
    · rename_i ha
      show (if (if k / 64 < usizeLim then k / 64 else usizeLim - 1) ≥ (nd a : Int)
        then _ else _) = _
      by_cases hd : (if k / 64 < usizeLim then k / 64 else usizeLim - 1) ≥ (nd a : Int)
      · -- the digit shift alone reaches the length: the quotient is zero
        have h1 : (nd a : Int) ≤ k / 64 := by
          split at hd
          · exact hd
          · exact le_trans hd (le_trans (Int.sub_le_self _ (by decide)) (Int.not_lt.1 ‹_›))
        have hK : 64 * nd a ≤ k.toNat :=
          (Int.le_toNat (Int.not_lt.1 ‹¬ k < 0›)).2
            (by push_cast; rw [Int.mul_comm]; exact Int.mul_le_of_le_ediv (by decide) h1)
        rw [if_pos hd, Nat.div_eq_of_lt]
        calc a < B ^ nd a := (nd_le_iff a _).1 (Nat.le_refl _)
          _ = 2 ^ (64 * nd a) := B_pow _
          _ ≤ 2 ^ k.toNat := Nat.pow_le_pow_right (by decide) hK
      · rw [if_neg hd]

theorem iShl_spec (a : VInt) (k : Int) (ha : a.Canon) :
    iShl a k = if k < 0 then .error .negshift
               else if a.val ≠ 0 ∧ k / 64 ≥ usizeLim then .error .capacity
               else .ok (VInt.ofInt (a.val * 2 ^ k.toNat)) := by
  unfold iShl
  rw [uShl_spec]
  have hz := VInt.val_eq_zero_iff ha
  by_cases hk : k < 0
  · simp only [hk, if_true]; rfl
  · simp only [hk, if_false, ne_eq, hz]
    split
    · rfl
    · show Except.ok (VInt.fromBiguint a.sign (a.mag * 2 ^ k.toNat)) = _
      rw [VInt.fromBiguint_toInt, VInt.val_eq_toInt]; congr 2; push_cast; ring

theorem iShlAssign_spec (a : VInt) (k : Int) (ha : a.Canon) : iShlAssign a k = iShl a k := by
  unfold iShlAssign iShl
  rw [uShl_spec]
  split
  · rfl
  · split
    · rfl
    · exact congrArg _ (VInt.mk_eq_fromBiguint _ _
        (by rw [Nat.mul_eq_zero, or_iff_left (Nat.two_pow_pos _).ne']; exact ha))

theorem shrRoundDown_spec (m : Nat) (k : Int) (hm : 0 < m) (hk : 0 ≤ k)
    (hbits : ∀ K : Nat, 2 ^ 64 ≤ K → m < 2 ^ K) :
    shrRoundDown ⟨.minus, m⟩ k = decide (¬ 2 ^ k.toNat ∣ m) := by
  unfold shrRoundDown u64Lim
  simp only [if_true]
  by_cases h0 : k = 0
  · subst h0; simp
  · have hpos : k > 0 := by omega
    simp only [hpos, decide_true, Bool.true_and]
    by_cases hlt : k < 18446744073709551616
    · simp only [hlt, if_true]
      simp only [← Int.lt_toNat, tz_spec m hm k.toNat]
    · simp only [hlt, if_false]
      have hb := hbits k.toNat (by omega)
      have : ¬ 2 ^ k.toNat ∣ m := fun hd => absurd (Nat.le_of_dvd hm hd) (Nat.not_le.2 hb)
      simp [this]

/-- `BigInt >> k` is floor division by `2^k` (rounds toward minus infinity), a negative amount
    panics.  `hbits`: the magnitude has fewer than 2^64 bits (the crate's bit counts are `u64`); stated for every
    exponent `K ≥ 2^64` and not as `a.mag < 2 ^ 2 ^ 64`, a closed term that `omega`, `simp` and `decide` try to evaluate. -/
theorem iShr_spec (a : VInt) (k : Int) (ha : a.Canon)
    (hbits : ∀ K : Nat, 2 ^ 64 ≤ K → a.mag < 2 ^ K) :
    iShr a k = if k < 0 then .error .negshift else .ok (VInt.ofInt (a.val / 2 ^ k.toNat)) := by
  unfold iShr
  rw [uShr_spec]
  split
  · rfl
  · show Except.ok _ = Except.ok _
    congr 1
    obtain ⟨sg, m⟩ := a
    cases sg
    · have hm : 0 < m := Nat.pos_of_ne_zero (fun e => by simp [VInt.Canon, e] at ha)
      rw [shrRoundDown_spec m k hm (by omega) hbits]
      simp only [VInt.val, uAddAssign_spec, VInt.fromBiguint_minus, decide_eq_true_eq, neg_ediv_pow,
        Nat.dvd_iff_mod_eq_zero, ite_not]
      congr 1
      split
      · rw [Int.sub_zero]
      · rw [Int.natCast_add, Int.neg_add]; rfl
    · simp [VInt.val, VInt.fromBiguint_nosign]
    · simp only [shrRoundDown, reduceCtorEq, if_false, Bool.false_eq_true, VInt.val, VInt.fromBiguint_plus,
        Int.natCast_ediv, Int.natCast_pow, Int.cast_ofNat_Int]

theorem iShrAssign_spec (a : VInt) (k : Int) (ha : a.Canon) : iShrAssign a k = iShr a k := by
  unfold iShrAssign iShr
  rw [uShr_spec]
  split
  · rfl
  · show Except.ok _ = Except.ok _
    congr 1
    by_cases hrd : shrRoundDown a k = true
    · simp only [hrd, if_true]
      apply VInt.mk_eq_fromBiguint
      have hs : a.sign = .minus := by
        unfold shrRoundDown at hrd
        by_contra hne; simp [hne] at hrd
      rw [hs, uAddAssign_spec]; simp
    · simp only [hrd]
      apply VInt.assign_eq_fromBiguint
      intro hs; rw [ha.1 hs]; simp

theorem powPrim_eq (x e : Nat) : powPrim x e = x ^ e := powPrim_spec x e

/-- `Pow<&BigUint>`: the exponent goes through `to_u64`, then `to_u128`; the literal is `2^128`, from where on a
    base ≥ 2 panics with "memory overflow" -/
theorem uPowBig_spec (x e : Nat) :
    uPowBig x e = if 2 ≤ x ∧ 340282366920938463463374607431768211456 ≤ e then .error .capacity
                  else .ok (x ^ e) := by
  unfold uPowBig u64Lim
  by_cases h1 : x = 1 ∨ e = 0
  · rw [if_pos h1]
    rcases h1 with h | h <;> subst h <;> simp
  · by_cases h0 : x = 0
    · subst h0
      have he : e ≠ 0 := fun h => h1 (.inr h)
      simp [he]
    · have hx : 2 ≤ x := by omega
      simp only [if_neg h1, if_neg h0, powPrim_spec, hx, true_and]
      by_cases hb : e < 340282366920938463463374607431768211456
      · rw [if_pos hb, ite_self, if_neg (Nat.not_le.2 hb)]
      · rw [if_neg hb, if_pos (Nat.not_lt.1 hb), if_neg (by omega)]

theorem powsign_toInt (s : Sign) (e : Nat) : (powsign s e).toInt = s.toInt ^ e := by
  unfold powsign
  split
  · subst_vars; rw [pow_zero]; rfl
  · cases s
    · rcases Nat.even_or_odd e with h | h
      · rw [if_neg (by simp [Nat.even_iff.1 h]), show Sign.toInt .minus = -1 from rfl, h.neg_one_pow]; rfl
      · rw [if_pos (.inr (Nat.odd_iff.1 h)), show Sign.toInt .minus = -1 from rfl, h.neg_one_pow]
    · simp [Sign.toInt, *]
    · simp [Sign.toInt]

theorem iPow_spec (a : VInt) (e : Nat) : iPow a e = VInt.ofInt (a.val ^ e) := by
  unfold iPow
  rw [VInt.fromBiguint_toInt, powsign_toInt, powPrim_spec, VInt.val_eq_toInt, mul_pow]
  congr 1

theorem iPowBig_spec (a : VInt) (e : Nat) :
    iPowBig a e = if 2 ≤ a.mag ∧ 340282366920938463463374607431768211456 ≤ e then .error .capacity
                  else .ok (VInt.ofInt (a.val ^ e)) := by
  unfold iPowBig
  rw [uPowBig_spec, map_fromBiguint_ite, powsign_toInt, VInt.val_eq_toInt, mul_pow, Int.natCast_pow]

theorem uSum_spec (xs : List Nat) : uSum xs = xs.sum := List.sum_eq_foldl.symm

theorem uProduct_spec (xs : List Nat) : uProduct xs = xs.prod := List.prod_eq_foldl.symm

theorem iSum_spec (xs : List VInt) : iSum xs = VInt.ofInt (xs.map VInt.val).sum := by
  rw [iSum, VInt.zero_eq, foldl_ofInt (g := (· + ·)) (fun i x => by rw [VInt.add, VInt.ofInt_val]), List.sum_eq_foldl]

theorem iProduct_spec (xs : List VInt) : iProduct xs = VInt.ofInt (xs.map VInt.val).prod := by
  rw [iProduct, show (⟨.plus, 1⟩ : VInt) = VInt.ofInt 1 by decide,
    foldl_ofInt (g := (· * ·)) (fun i x => by rw [vint_mul_spec, VInt.ofInt_val]), List.prod_eq_foldl]

/-- the shift oracle of the driver (which avoids materialising `2^k` for huge `k`) is floor division -/
theorem shrOracle_spec (x : Int) (k : Nat) : NB.Drv.C10.shrOracle x k = x / 2 ^ k := by
  unfold NB.Drv.C10.shrOracle
  by_cases hk : k > Nat.log2 x.natAbs
  · simp only [hk, if_true]
    have hlt : x.natAbs < 2 ^ k :=
      calc x.natAbs < 2 ^ (Nat.log2 x.natAbs + 1) := Nat.lt_log2_self
        _ ≤ 2 ^ k := Nat.pow_le_pow_right (by decide) hk
    have hlt' : (x.natAbs : Int) < 2 ^ k := by exact_mod_cast hlt
    by_cases hx : x < 0
    · simp only [hx, if_true]
      have key := (Int.ediv_emod_unique (a := x) (b := (2 : Int) ^ k) (r := x + 2 ^ k) (q := -1)
        (by positivity)).2 ⟨by ring, by omega, by omega⟩
      exact key.1.symm
    · simp only [hx, if_false]
      exact (Int.ediv_eq_zero_of_lt (by omega) (by omega)).symm
  · simp only [hk, if_false]

theorem padTo_of_le (n : Nat) (a : List Nat) (h : n ≤ a.length) : padToN n a = a := by
  unfold padToN; simp [Nat.sub_eq_zero_of_le h]

/-- `__add2` of a canonical slice `b` into a canonical operand `a` zero-padded to the length of `b`, then
    `push(carry)`: the canonical digits of the sum -/
theorem add_padded (P : Params) (a b : List Nat) (ha : Canon a) (hb : Canon b) (hne : b ≠ []) :
    (if (add2c P (padToN b.length a) b).2 ≠ 0
      then (add2c P (padToN b.length a) b).1 ++ [(add2c P (padToN b.length a) b).2]
      else (add2c P (padToN b.length a) b).1) = ofNat (val a + val b) := by
  have hlen := length_padTo b.length a
  obtain ⟨l1, l2, l3, l4⟩ := add2c_spec P (padToN b.length a) b (by rw [hlen]; exact Nat.le_max_left _ _)
    (digitsOk_padTo _ ha.1) hb.1
  rw [val_padTo, hlen] at l1
  rw [hlen] at l2
  generalize add2c P (padToN b.length a) b = r at *
  -- the top digit of the longer operand makes the sum fill the buffer
  have hge : B ^ (max b.length a.length - 1) ≤ val a + val b := by
    rcases Nat.lt_or_ge b.length a.length with h | h
    · rw [Nat.max_eq_right h.le]
      exact Nat.le_add_right_of_le (canon_val_ge ha (List.length_pos_iff.1 (Nat.lt_of_le_of_lt (Nat.zero_le _) h)))
    · rw [Nat.max_eq_left h]
      exact Nat.le_add_left_of_le (canon_val_ge hb hne)
  have key : val (if r.2 ≠ 0 then r.1 ++ [r.2] else r.1) = val a + val b ∧
      Canon (if r.2 ≠ 0 then r.1 ++ [r.2] else r.1) := by
    by_cases hc : r.2 = 0
    · rw [hc, Nat.mul_zero, Nat.add_zero] at l1
      rw [if_neg (not_not.2 hc)]
      exact ⟨l1, canon_of_val_ge l3 (fun _ => by rw [l2, l1]; exact hge)⟩
    · rw [if_pos hc]
      refine ⟨?_, canon_append_singleton l3 (Nat.lt_of_le_of_lt l4 (by decide)) hc⟩
      rw [val_append, l2, val_singleton]; exact l1
  rw [canon_eq_ofNat key.2, key.1]

theorem dAddAssign1_spec (P : Params) (a : List Nat) (s : Nat) (ha : Canon a) (hs : s < B) :
    dAddAssign1 P a s = ofNat (val a + s) := by
  unfold dAddAssign1
  split
  · rename_i h0
    have hp : (if a = [] then [0] else a) = padToN [s].length a := by
      split
      · subst_vars; rfl
      · exact (padTo_of_le 1 a (List.length_pos_iff.2 ‹_›)).symm
    have := add_padded P a [s] ha (canon_append_singleton (r := []) DigitsOk.nil hs h0) (List.cons_ne_nil _ _)
    rw [val_singleton] at this
    simp only [hp]
    exact this
  · rename_i h0
    rw [not_not.1 h0, Nat.add_zero]; exact canon_eq_ofNat ha

/-- `AddAssign<u32|u64|u128>` on digits: canonical digits of `a + s`, i.e. of the value-level leaf
    (`uAddAssign_spec`) -/
theorem dAddAssign_spec (t : STy) (P : Params) (a : List Nat) (s : Nat) (ha : Canon a)
    (hs : s < (if t = .u128 then B * B else B)) :
    dAddAssign t P a s = ofNat (uAddAssign t (val a) s) := by
  rw [uAddAssign_spec]
  unfold dAddAssign
  split
  · rw [if_pos rfl] at hs
    dsimp only
    split
    · rename_i hhi
      have : s % B = s := by have := Nat.mod_add_div s B; rw [hhi] at this; omega
      rw [dAddAssign1_spec P a _ ha (Nat.mod_lt _ B_pos), this]
    · rename_i hhi
      have := add_padded P a [s % B, s / B] ha
        (canon_append_singleton (r := [s % B]) (one_digit_ok (Nat.mod_lt _ B_pos)) (Nat.div_lt_of_lt_mul hs) hhi)
        (List.cons_ne_nil _ _)
      rwa [two_digits_val] at this
  · exact dAddAssign1_spec P a s ha (by rwa [if_neg (by assumption)] at hs)

theorem sub_finish (P : Params) (a b : List Nat) (ha : DigitsOk a) (hb : DigitsOk b) :
    (sub2 P a b).map normalize
      = (if val a < val b then Except.error Panic.underflow else .ok (val a - val b)).map ofNat := by
  obtain ⟨h1, h2⟩ := sub2_spec P a b ha hb
  split
  · rename_i hlt; rw [h1 hlt]; rfl
  · obtain ⟨r, hr, hv, _, hok⟩ := h2 (Nat.not_lt.1 ‹_›)
    rw [hr]
    show Except.ok (normalize r) = Except.ok _
    rw [normalize_eq_ofNat hok, hv]

theorem subrev_finish (a b : List Nat) (hl : a.length ≤ b.length) (ha : DigitsOk a) (hb : DigitsOk b) :
    (sub2rev a b).map normalize
      = (if val a < val b then Except.error Panic.underflow else .ok (val a - val b)).map ofNat := by
  obtain ⟨h1, h2⟩ := sub2rev_spec a b hl ha hb
  split
  · rename_i hlt; rw [h1 hlt]; rfl
  · obtain ⟨r, hr, hv, hok⟩ := h2 (Nat.not_lt.1 ‹_›)
    rw [hr]
    show Except.ok (normalize r) = Except.ok _
    rw [normalize_eq_ofNat hok, hv]

/-- `SubAssign<u32|u64|u128>` on digits = the value-level leaf on `val a` -/
theorem dSubAssign_spec (t : STy) (P : Params) (a : List Nat) (s : Nat) (ha : Canon a)
    (hs : s < (if t = .u128 then B * B else B)) :
    dSubAssign t P a s = (uSubAssign t (val a) s).map ofNat := by
  rw [uSubAssign_spec]
  unfold dSubAssign
  split
  · rw [if_pos rfl] at hs
    rw [sub_finish P a _ ha.1 (two_digits_ok hs), two_digits_val]
  · rw [if_neg (by assumption)] at hs
    rw [sub_finish P a _ ha.1 (one_digit_ok hs), val_singleton]

/-- `Sub<BigUint> for u32|u64|u128` on digits = the value-level leaf on `val a` -/
theorem dSubRev_spec (t : STy) (s : Nat) (a : List Nat) (ha : Canon a)
    (hs : s < (if t = .u128 then B * B else B)) :
    dSubRev t s a = (uSubRev t s (val a)).map ofNat := by
  rw [uSubRev_spec]
  unfold dSubRev
  split
  · rw [if_pos rfl] at hs
    rw [subrev_finish _ _ (by rw [length_padTo]; exact Nat.le_max_left 2 _) (two_digits_ok hs)
      (digitsOk_padTo 2 ha.1), val_padTo, two_digits_val]
  · rw [if_neg (by assumption)] at hs
    split
    · rename_i hnil
      subst hnil
      show Except.ok (normalize [s]) = Except.ok (ofNat (s - 0))
      rw [normalize_eq_ofNat (one_digit_ok hs), val_singleton, Nat.sub_zero]
    · rename_i hnil
      rw [subrev_finish [s] a (List.length_pos_iff.2 hnil) (one_digit_ok hs) ha.1, val_singleton]

/-- `checked_uabs` at `MIN`: the magnitude `2^(N-1)` does not fit the signed type -/
example : checkedUabs .i8 (-128) = .negative 128 := by decide
example : checkedUabs .i128 (-170141183460469231731687303715884105728)
    = .negative 170141183460469231731687303715884105728 := by decide

/-- `iN::MIN %= 2^(N-1)`: `to_T` fails and the magnitudes are equal, the result is 0; one more and the scalar stays -/
example : remAssignScalar .i8 (-128) 128 = .ok 0 := by decide
example : remAssignScalar .i64 (-9223372036854775808) 9223372036854775808 = .ok 0 := by decide
example : remAssignScalar .i8 (-128) 129 = .ok (-128) := by decide

/-- non-vacuity: the extreme scalars on concrete operands -/
example : iScalarForm .add .bigScalar .i8 ⟨.plus, 128⟩ (-128) = .ok ⟨.nosign, 0⟩ := by decide
example : iScalarForm .mul .assign .i64 ⟨.minus, 1⟩ (-9223372036854775808)
    = .ok ⟨.plus, 9223372036854775808⟩ := by decide
example : iScalarForm .rem .assign .i16 ⟨.minus, 40000⟩ (-32768) = .ok ⟨.minus, 7232⟩ := by decide
example : uScalarForm .sub .bigScalar .u8 254 255 = .error .underflow := by decide

/-- a negative shift amount panics -/
example : iShr ⟨.minus, 4⟩ (-1) = .error .negshift := by decide

/-- non-vacuity of `iShr_spec` (its hypotheses hold for a concrete negative odd value): -5 >> 1 = -3 -/
example : iShr ⟨.minus, 5⟩ 1 = .ok (VInt.ofInt (-3)) := by
  rw [iShr_spec _ _ (by decide)
    (by intro K hK
        calc 5 < 2 ^ 3 := by decide
          _ ≤ 2 ^ K := Nat.pow_le_pow_right (by decide) (by omega))]
  decide
example : dAddAssign .u128 NB.Gen.P [18446744073709551615] 340282366920938463463374607431768211455
    = [18446744073709551614, 0, 1] := by decide
example : dSubRev .u64 5 [] = .ok [5] := by decide

end NB
