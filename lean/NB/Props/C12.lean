/-
  C12 — Exponentiation is exact for every exponent type.

  Model: NB.Model.Pow (value-level transcription of `pow_impl!` and `Pow<&BigUint>` of
  src/biguint/power.rs, `powsign` and `pow_impl!` of src/bigint/power.rs; correspondence-checked
  against the crate).  The macro body is the same for u8…u128/usize, so one theorem
  covers all primitive exponent types; the four operand forms are separate model functions and
  all equal `x^e`.  Fuel of both loops (`powFuel e` = bit length of the exponent, at most the width
  of the exponent type) is proved sufficient, so the loops terminate and never hit the fuel error.

  Digit level: NB.Model.PowD, which is what the driver's model column runs.
  `PowD.*` mirrors `pow_impl!`, `Pow<&BigUint>`, `powsign` and the BigInt `pow_impl!` on digit vectors /
  BigInt records: `&base * &base` is `Mul.mulRef`, `acc *= &base` is `Mul.mulAssign` (C02's digit-level
  multiplication, all regimes), BigUint exponents are digit vectors narrowed through the models of
  `to_u64` / `to_u128` (C08), `is_one` / `is_zero` / `is_odd` look at the digits, and every operator panic
  is propagated.  The `…D_refines` theorems say that on canonical inputs it computes exactly what the
  value-level model computes on the values (outcome for outcome), so `pow_spec` etc. transfer.
  Only extra hypothesis: `P.ValidMul` (obligation `gen_params_valid_mul`, C02).

  Statements: the property is `pow_spec`, `pow_forms_spec`, `pow_big_spec`, `bigint_pow_spec`, `bigint_pow_big_spec`
  and, on digits, `powD_spec`, `pow_bigD_spec`, `bigint_powD_spec`, `bigint_pow_bigD_spec`; the loop phases,
  `…_refines`, `…_gen` and `drv_operand_canon…` theorems support them (refinement, instances at the extracted
  parameters, canonicity of what the driver feeds in).

  A theorem below that is a one-line term restates, under the name DESIGN.md §4 uses, the lemma of
  NB/Lemmas/Pow.lean and PowD.lean it cites; the proofs are there.
-/
import NB.Lemmas.Pow
import Mathlib.Algebra.Order.Ring.Pow
import Mathlib.Algebra.Ring.Parity
import NB.Lemmas.PowD
import NB.Model.AsmParams
import NB.Drv.C12
namespace NB
open NB.Pow NB.IntVal

/-- first loop (strip trailing zero bits by squaring): stops at an odd exponent with the power unchanged -/
theorem pow_sq_phase (base exp fuel : Nat) (h0 : exp ≠ 0) (hf : exp < 2 ^ fuel) :
    ∃ b' e', sqLoop fuel base exp = .ok (b', e') ∧ e' % 2 = 1 ∧ e' ≤ exp ∧ b' ^ e' = base ^ exp :=
  sqLoop_spec fuel base exp h0 hf

/-- second loop (square, multiply when the bit is set): invariant `acc · (base²)^(exp/2)` -/
theorem pow_acc_phase (base exp acc fuel : Nat) (h0 : exp ≠ 0) (hf : exp < 2 ^ fuel) :
    accLoop fuel base exp acc = .ok (acc * (base * base) ^ (exp / 2)) :=
  accLoop_spec fuel base exp acc h0 hf

/-- the fuel handed to both loops is enough: `e < 2^(powFuel e)` -/
theorem pow_fuel_sufficient (e : Nat) : e < 2 ^ powFuel e := lt_two_pow_powFuel e

/-- `impl Pow<$T> for BigUint`: exactly `x^e`, every `x`, every `e` (so every exponent type) -/
theorem pow_spec (x e : Nat) : powVV x e = .ok (x ^ e) := powVV_ok x e

/-- all four operand forms (base by value/reference × exponent by value/reference) -/
theorem pow_forms_spec (f : Form) (x e : Nat) : powPrim f x e = .ok (x ^ e) := powPrim_ok f x e

/-- `0^0 = 1` (and `x^0 = 1`) in every form -/
theorem pow_zero_exp (f : Form) (x : Nat) : powPrim f x 0 = .ok 1 := by
  rw [powPrim_ok, pow_zero]

theorem pow_zero_zero (f : Form) : powPrim f 0 0 = .ok 1 := pow_zero_exp f 0

/-- BigUint exponent, `Pow<&BigUint> for BigUint`: short-cuts, narrowing to u64 / u128, else the
    capacity panic — which happens exactly when `x ≥ 2` and `e ≥ 2^128` -/
theorem pow_big_spec (f : Form) (x e : Nat) :
    powBig f x e = if 2 ≤ x ∧ 2 ^ 128 ≤ e then .error .capacity else .ok (x ^ e) := by
  have hB : B * B = 2 ^ 128 := by decide
  have key : powBigVR x e = if 2 ≤ x ∧ 2 ^ 128 ≤ e then .error .capacity else .ok (x ^ e) := by
    unfold powBigVR
    by_cases h1 : x = 1 ∨ e = 0
    · rw [if_pos h1, if_neg fun h => h1.elim (fun hx => by rw [hx] at h; exact absurd h.1 (by decide))
        (fun he => by rw [he] at h; exact absurd h.2 (by decide))]
      rcases h1 with h | h
      · rw [h, one_pow]
      · rw [h, pow_zero]
    · rw [if_neg h1]
      by_cases h2 : x = 0
      · rw [if_pos h2, if_neg fun h => by rw [h2] at h; exact absurd h.1 (by decide), h2,
          Nat.zero_pow (Nat.pos_of_ne_zero fun h => h1 (.inr h))]
      · -- both narrowing arms run the same loop, so only `e < B²` matters
        simp only [h2, if_false, powVV_ok, hB]
        by_cases h4 : e < 2 ^ 128
        · rw [if_pos h4, ite_self, if_neg fun h => Nat.not_le.mpr h4 h.2]
        · rw [if_neg h4, if_neg (fun h => h4 (Nat.lt_trans h (by decide))),
            if_pos ⟨(Nat.two_le_iff x).mpr ⟨h2, fun h => h1 (.inl h)⟩, Nat.not_lt.mp h4⟩]
  have key2 : powBigRR x e = powBigVR x e := by
    unfold powBigRR
    by_cases h1 : x = 1 ∨ e = 0
    · rw [if_pos h1, powBigVR, if_pos h1]
    · by_cases h2 : x = 0
      · rw [if_neg h1, if_pos h2, powBigVR, if_neg h1, if_pos h2]
      · rw [if_neg h1, if_neg h2]
  cases f <;> simp only [powBig, powBigVV, powBigRV, key2, key]

/-- u64 / u128 narrowing is value-preserving: both arms run the same loop on the same exponent -/
theorem pow_big_narrowing (x e : Nat) (h : e < 2 ^ 128) : powBigVR x e = .ok (x ^ e) := by
  rw [show powBigVR x e = powBig .vr x e from rfl, pow_big_spec, if_neg fun h' => Nat.not_le.mpr h h'.2]

theorem fromBiguint_powsign (x : Int) (e : Nat) :
    fromBiguint (powsign (signOf x) e) (x.natAbs ^ e) = x ^ e := by
  unfold powsign
  by_cases he : e = 0
  · rw [if_pos he, he, pow_zero, pow_zero]; rfl
  rw [if_neg he]
  have hc : ((x.natAbs ^ e : Nat) : Int) = (x.natAbs : Int) ^ e := Nat.cast_pow _ _
  rcases lt_trichotomy x 0 with hx | hx | hx
  · -- `x = -|x|`: the sign survives an odd exponent and is flipped by an even one
    have hx' : (x.natAbs : Int) = -x := Int.ofNat_natAbs_of_nonpos hx.le
    rw [Gcd.signOf_neg hx]
    rcases Nat.mod_two_eq_zero_or_one e with ho | ho
    · rw [if_neg fun h => h.elim (fun h => h rfl) (fun h => by rw [ho] at h; cases h)]
      show ((x.natAbs ^ e : Nat) : Int) = x ^ e
      rw [hc, hx', Even.neg_pow (Nat.even_iff.mpr ho)]
    · rw [if_pos (Or.inr ho)]
      show -((x.natAbs ^ e : Nat) : Int) = x ^ e
      rw [hc, hx', Odd.neg_pow (Nat.odd_iff.mpr ho), neg_neg]
  · rw [hx, if_pos (Or.inl (by decide))]
    exact (zero_pow he).symm
  · rw [Gcd.signOf_pos hx, if_pos (Or.inl (by decide))]
    show ((x.natAbs ^ e : Nat) : Int) = x ^ e
    rw [hc, Int.natAbs_of_nonneg hx.le]

/-- BigInt `pow` for primitive exponents, all forms: exactly `x^e` on the integers -/
theorem bigint_pow_spec (f : Form) (x : Int) (e : Nat) : bigintPow f x e = .ok (x ^ e) := by
  unfold bigintPow
  simp only [powPrim_ok, fromBiguint_powsign]

/-- BigInt `pow` with a BigUint exponent -/
theorem bigint_pow_big_spec (f : Form) (x : Int) (e : Nat) :
    bigintPowBig f x e = if 2 ≤ x.natAbs ∧ 2 ^ 128 ≤ e then .error .capacity else .ok (x ^ e) := by
  unfold bigintPowBig
  rw [pow_big_spec]
  by_cases h : 2 ≤ x.natAbs ∧ 2 ^ 128 ≤ e
  · rw [if_pos h, if_pos h]
  · simp only [h, if_false, fromBiguint_powsign]

/-- sign rule: the power is negative exactly when the base is negative and the exponent odd -/
theorem bigint_pow_sign (x : Int) (e : Nat) : x ^ e < 0 ↔ x < 0 ∧ e % 2 = 1 := by
  constructor
  · intro h
    by_cases hx : x < 0
    · refine ⟨hx, (Nat.mod_two_eq_zero_or_one e).resolve_left fun ho => ?_⟩
      exact absurd h (not_lt.mpr (Even.pow_nonneg (Nat.even_iff.mpr ho) x))
    · exact absurd h (not_lt.mpr (pow_nonneg (not_lt.mp hx) e))
  · rintro ⟨hx, ho⟩
    exact Odd.pow_neg (Nat.odd_iff.mpr ho) hx

/-- `powsign` as a table -/
theorem powsign_spec (s : Sign) (e : Nat) :
    powsign s e = if e = 0 then .plus else if s = .minus ∧ e % 2 = 0 then .plus else s := by
  unfold powsign
  by_cases he : e = 0
  · rw [if_pos he, if_pos he]
  · rw [if_neg he, if_neg he]
    by_cases h : s = .minus ∧ e % 2 = 0
    · rw [if_pos h, if_neg fun h' => h'.elim (fun h' => h' h.1) (fun h' => by rw [h.2] at h'; cases h'), h.1]
      rfl
    · rw [if_neg h, if_pos ((not_and_or.mp h).imp id (Nat.mod_two_eq_zero_or_one e).resolve_left)]

/-- the squaring phase at digit level refines the value-level phase, every fuel -/
theorem pow_sq_phaseD_refines (P : Params) (hP : P.ValidMul) (fuel : Nat) (base : List Nat) (exp : Nat)
    (hb : Canon base) :
    PowD.sqLoop P fuel base exp = (sqLoop fuel (val base) exp).map (fun p => (ofNat p.1, p.2)) :=
  canon_lift (f := fun b => PowD.sqLoop P fuel b exp) (fun x => PowD.sqLoop_ofNat P hP fuel x exp) hb

/-- the accumulate phase at digit level refines the value-level phase, every fuel -/
theorem pow_acc_phaseD_refines (P : Params) (hP : P.ValidMul) (fuel : Nat) (base : List Nat) (exp : Nat)
    (acc : List Nat) (hb : Canon base) (ha : Canon acc) :
    PowD.accLoop P fuel base exp acc = (accLoop fuel (val base) exp (val acc)).map ofNat := by
  exact canon_lift₂ (f := fun b a => PowD.accLoop P fuel b exp a)
    (fun x y => PowD.accLoop_ofNat P hP fuel x exp y) hb ha

theorem powD_refines (P : Params) (hP : P.ValidMul) (f : Form) (x : List Nat) (e : Nat) (hx : Canon x) :
    PowD.powPrim P f x e = (powPrim f (val x) e).map ofNat :=
  canon_lift (f := fun x => PowD.powPrim P f x e) (fun n => PowD.powPrim_ofNat P hP f n e) hx

/-- digit-level `Pow<$T> for BigUint`, all four operand forms, every primitive exponent type:
    the canonical digits of `x^e`; no multiplication panics, both loops terminate -/
theorem powD_spec (P : Params) (hP : P.ValidMul) (f : Form) (x : List Nat) (e : Nat) (hx : Canon x) :
    PowD.powPrim P f x e = .ok (ofNat (val x ^ e)) := by
  rw [powD_refines P hP f x e hx, pow_forms_spec]; rfl

theorem powD_zero_zero (P : Params) (f : Form) : PowD.powPrim P f [] 0 = .ok [1] := by
  cases f <;> rfl

theorem pow_bigD_refines (P : Params) (hP : P.ValidMul) (f : Form) (x e : List Nat) (hx : Canon x) (he : Canon e) :
    PowD.powBig P f x e = (powBig f (val x) (val e)).map ofNat :=
  canon_lift₂ (PowD.powBig_ofNat P hP f) hx he

/-- digit-level BigUint exponent: capacity panic exactly when `x ≥ 2` and `e ≥ 2^128`, else `x^e`
    (the `to_u64` overflow site of the model is not reached) -/
theorem pow_bigD_spec (P : Params) (hP : P.ValidMul) (f : Form) (x e : List Nat) (hx : Canon x) (he : Canon e) :
    PowD.powBig P f x e =
      if 2 ≤ val x ∧ 2 ^ 128 ≤ val e then .error .capacity else .ok (ofNat (val x ^ val e)) := by
  rw [pow_bigD_refines P hP f x e hx he, pow_big_spec]
  split <;> rfl

theorem bigint_powD_refines (P : Params) (hP : P.ValidMul) (f : Form) (x : BigInt) (e : Nat) (hx : x.Canon) :
    PowD.bigintPow P f x e = (bigintPow f x.val e).map BigInt.ofInt :=
  bigint_lift (f := fun x => PowD.bigintPow P f x e) (fun i => PowD.bigintPow_ofInt P hP f i e) hx

/-- digit-level BigInt `pow`, primitive exponents, all forms: the canonical BigInt of `x^e` -/
theorem bigint_powD_spec (P : Params) (hP : P.ValidMul) (f : Form) (x : BigInt) (e : Nat) (hx : x.Canon) :
    PowD.bigintPow P f x e = .ok (BigInt.ofInt (x.val ^ e)) := by
  rw [bigint_powD_refines P hP f x e hx, bigint_pow_spec]; rfl

/-- digit-level BigInt `pow` with a BigUint exponent (sign through `is_zero` / `is_odd` of the digits) -/
theorem bigint_pow_bigD_spec (P : Params) (hP : P.ValidMul) (f : Form) (x : BigInt) (e : List Nat)
    (hx : x.Canon) (he : Canon e) :
    PowD.bigintPowBig P f x e =
      if 2 ≤ x.val.natAbs ∧ 2 ^ 128 ≤ val e then .error .capacity else .ok (BigInt.ofInt (x.val ^ val e)) := by
  obtain ⟨k, rfl⟩ : ∃ k, e = ofNat k := ⟨_, canon_eq_ofNat he⟩
  have r := PowD.bigintPowBig_ofInt P hP f x.val k
  rw [← bigint_canon_eq_ofInt hx] at r
  rw [r, ofNat_val, bigint_pow_big_spec]
  split <;> rfl

/-- `powsign` on the digits of a BigUint exponent = `powsign` on its value -/
theorem powsign_bigD_spec (s : Sign) (e : List Nat) (he : Canon e) :
    PowD.powsignBig s e = powsign s (val e) :=
  canon_lift (PowD.powsignBig_eq s) he

/-- instantiations at the parameters extracted from the source -/
theorem powD_spec_gen (f : Form) (x : List Nat) (e : Nat) (hx : Canon x) :
    PowD.powPrim NB.Gen.P f x e = .ok (ofNat (val x ^ e)) := powD_spec NB.Gen.P gen_params_valid_mul f x e hx

theorem bigint_powD_spec_gen (f : Form) (x : BigInt) (e : Nat) (hx : x.Canon) :
    PowD.bigintPow NB.Gen.P f x e = .ok (BigInt.ofInt (x.val ^ e)) :=
  bigint_powD_spec NB.Gen.P gen_params_valid_mul f x e hx

/-- every operand the driver hands to the digit-level model is canonical (it normalises exactly like the
    harness's constructors `BigUint::new` / `BigInt::from_biguint`), so the `…D_spec` theorems apply to
    every evaluation of the driver's model column -/
theorem drv_operand_canon (s : String) (a : List Nat) (h : NB.Drv.C12.pU s = some a) : Canon a :=
  checked_normalize_canon h

theorem drv_operand_canon_i (s : String) (x : BigInt) (h : NB.Drv.C12.pI s = some x) : x.Canon :=
  checked_fromBiguint_canon h

/-! ### non-vacuity / concrete evaluations of the model -/

example : powVV 3 13 = .ok 1594323 := by decide +kernel
example : powVV 2 64 = .ok 18446744073709551616 := by decide +kernel
example : powVV 0 0 = .ok 1 := by decide +kernel
example : bigintPow .rv (-3) 5 = .ok (-243) := by decide +kernel
example : bigintPowBig .vv (-1) (2 ^ 128 + 1) = .ok (-1) := by
  rw [bigint_pow_big_spec, if_neg (by decide), Odd.neg_one_pow ⟨2 ^ 127, by norm_num⟩]
example : powBig .rr 2 (2 ^ 128) = .error .capacity := by rw [pow_big_spec]; simp

/-! ### non-vacuity of the digit-level layer: concrete evaluations at the generated parameters -/

example : PowD.powPrim NB.Gen.P .vv [3] 13 = .ok [1594323] := by decide +kernel
example : PowD.powPrim NB.Gen.P .rr [2] 64 = .ok [0, 1] := by decide +kernel
example : PowD.powPrim NB.Gen.P .vv [0, 1] 3 = .ok [0, 0, 0, 1] := by decide +kernel
example : PowD.bigintPow NB.Gen.P .rv ⟨.minus, [3]⟩ 5 = .ok ⟨.minus, [243]⟩ := by decide +kernel
example : PowD.powBig NB.Gen.P .rr [2] [0, 0, 1] = .error .capacity := by decide +kernel
example : PowD.bigintPowBig NB.Gen.P .vv ⟨.minus, [1]⟩ [1, 0, 1] = .ok ⟨.minus, [1]⟩ := by decide +kernel

end NB
